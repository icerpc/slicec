/-
  C01 — every input yields a verdict: no crash, abort or hang.

  The property is about the whole program, so its proof is assembled from three kinds of obligations:

  (1) the *ledger theorem*: every panic-capable construct the translator finds in the current non-test source of
      slicec (macros `panic! todo! unimplemented! unreachable! assert*!`, `unwrap`/`expect`, range slicing, plain
      indexing, `replace_range`, `split_at`, `drain`, `remove`) has a disposition in translator/ledger/panic_sites.json
      and none is classified as reachable by an input; slice-codec has no such construct at all.  A new `unwrap` in the
      source, or a site that loses its ledger entry, makes `ledger_complete` fail to build.
  (2) the *component theorems*: for the components whose panics and loops are modelled — alias resolution, the
      containment cycle detector, doc-comment stripping and attachment, the generator option parser, the reply
      decoder's skip loop, the snippet arithmetic, the driver's exit status — the model never takes a panic branch and
      never runs out of the fuel that stands for "the recursion returns".  They are proved in the files of the
      properties that own the models (C03, C05, C07, C11, C14, C16, C19) and re-exported here in the form C01 needs, so
      that a change which re-opens one of them breaks C01 as well.
  (3) what no model can show — that the glue between the components neither crashes nor hangs, and the time bound —
      is checked on the real binary and in isolated worker processes (streams `C01` and `proc C01`).

  Not modelled (trusted / tested only): the LALRPOP-generated parser tables, clap, std, the recursion *depth* of the
  recursive descent over type trees, preprocessor expressions and nested `#if` blocks (stack overflows on inputs far
  beyond 8 KiB are recorded as known findings D-01d..g), and the behaviour when stdout / stderr cannot be written
  (`environment` rows of the ledger).
-/
import SlicecVerif.Gen.PanicSites
import SlicecVerif.Props.C03
import SlicecVerif.Props.C05
import SlicecVerif.Props.C07
import SlicecVerif.Props.C11
import SlicecVerif.Props.C14
import SlicecVerif.Props.C16
import SlicecVerif.Props.C19

namespace Slicec.C01

open Slicec

/-- a site is *discharged* when it is modelled, shown unreachable, guards an internal invariant, or needs a failing
    output stream (outside the property's quantifiers) -/
def discharged : Gen.SiteClass → Bool
  | .model | .unreachable | .internal | .environment => true
  | .reachable | .unmapped => false

/-- **Ledger completeness.** Every site the translator's patterns find in the current source (the constructs listed under
    (1) above) has a ledger entry, and no entry says that an input reaches the site. -/
theorem ledger_complete : ∀ s ∈ Gen.panicSites, discharged s.2.1 = true := by decide +kernel

/-- the ledger has no entry for a site that no longer exists and that could be taken for a remaining site with another
    disposition (same text in the same fn, told apart only by their number). An entry whose construct was simply removed from
    the code is *retired* (`Gen.retiredLedgerKeys`, named in the check's output): removing a `[..]` or an `unwrap` cannot add
    a panic, and a new site never inherits silently — it is unmapped until the ledger names it (`ledger_complete`). -/
theorem ledger_not_stale : Gen.staleLedgerKeys = [] := rfl

/-- exactly two sites of the table are classified as environment-dependent. The statement counts them; which they are is
    read in `Gen/PanicSites.lean`: the rows for `emit_diagnostics(..).expect` and `emit_totals(..).expect` in `main`, which
    need an unwritable stderr / stdout. -/
theorem environment_sites_are_the_two_writes :
    ((Gen.panicSites.filter fun s => s.2.1 == .environment).map (·.1)).length = 2 := by decide +kernel

/-- slice-codec (the decoder that reads the generators' replies) has no panic-capable construct in non-test code -/
theorem codec_has_no_panic_site : Gen.codecPanicSites = [] := C11.no_panic_sites

/-- alias resolution returns for every table, wanted kind, identifier and scope: the recursion bound of the model
    (number of aliases + 1) is never reached, i.e. `resolve_type_alias` cannot recurse forever -/
theorem alias_resolution_returns (t : Table) (w : Want) (id scope : String) :
    resolveNamed t w id scope ≠ .error .fuel := C03.resolve_never_out_of_fuel t w id scope

/-- the containment cycle detector returns on every graph (cyclic or not) within `#types` nested calls -/
theorem cycle_detector_returns (g : Cyc.Graph) : (Cyc.detectE (Cyc.edges g) g.length).exhausted = false :=
  C05.fuel_suffices g

/-- no doc comment — whatever its lines contain — makes `parse_doc_comment` panic; in particular the stripping of the common
    indentation never cuts inside a character -/
theorem doc_comment_never_panics (raw : List Str) : ∃ a, attach raw = .ok a := C16.attach_total raw

/-- … and `sanitize_message_lines` itself has no panic outcome (that it has no error outcome either is the third part of
    `C16.sanitize_no_panic`) -/
theorem sanitize_never_panics (ls : List MLine) : ∀ s, sanitizeMessageLines ls ≠ .panic s :=
  (C16.sanitize_no_panic ls).2.1

/-- the `--generator` value parser answers every string with accept or reject. This restates the type of the model,
    `pluginParser : List Char → Except PErr _` (a total function with no third outcome); the content is in C19 and in the
    next theorem (the empty string is rejected). -/
theorem generator_option_total (s : List Char) :
    (∃ e, PluginSpec.pluginParser s = .error e) ∨ (∃ v, PluginSpec.pluginParser s = .ok v) := by
  cases h : PluginSpec.pluginParser s with
  | error e => exact Or.inl ⟨e, rfl⟩
  | ok v => exact Or.inr ⟨v, rfl⟩

theorem generator_option_empty_rejected : PluginSpec.pluginParser [] = .error .missingPath := C19.rejects_empty

/-- the tagged-field skip loop of the reply decoder terminates on every byte string -/
theorem reply_skip_terminates (fuel : Nat) (bs : Bytes) (h : bs.length < fuel) :
    skipTagged fuel bs = skipTaggedFields bs := C11.skip_fuel_sufficient fuel bs h

/-- a reply cannot make the decoder reserve more entries than it has bytes left (no allocation abort from an announced size) -/
theorem reply_reservation_bounded (announced : Nat) (rest : Bytes) :
    Gen.hashMapReserve announced rest.length ≤ rest.length := C11.hash_reservation_bounded announced rest

/-- the snippet arithmetic of the diagnostic emitter cannot underflow for a well-formed span in a known file -/
theorem snippet_returns (files : List Emit.SrcFile) (sp : Emit.Span) (f : Emit.SrcFile)
    (hf : files.find? (fun f => f.path == sp.file) = some f) (hok : Emit.SpanOk f.text.toList sp.start sp.stop) :
    ∃ out, Emit.emitSnippet files sp = .ok out := C14.snippet_no_underflow files sp f hf hok

/-- **The verdict.** Whatever the compilation phases reported, whatever the generators did and whatever the file system
    holds, the driver ends with exit status 0, 1 or 79 (79 exactly when the request could not be encoded in front of an
    open guard: that is `C07.exit_79_iff`, not part of this statement). -/
theorem exit_status_is_a_verdict (opts : Driver.Options) (c : List Driver.Diag) (request : Option Bytes)
    (gens : List Driver.GenRun) (fs : Driver.FileSystem) :
    (Driver.mainFlow opts c request gens fs).status = 0 ∨ (Driver.mainFlow opts c request gens fs).status = 1 ∨
    (Driver.mainFlow opts c request gens fs).status = 79 := by
  by_cases h : Driver.guardOpen opts c = true ∧ request = none
  · exact Or.inr (Or.inr ((C07.exit_79_iff opts c request gens fs).mpr h))
  · have h79 : Driver.guardOpen opts c = true → request ≠ none := fun hg hr => h ⟨hg, hr⟩
    rcases (C07.exit_iff_error opts c request gens fs h79).2.1 with h0 | h1
    · exact Or.inl h0
    · exact Or.inr (Or.inl h1)

example : Gen.panicSites.length > 60 := by decide +kernel
example : (Gen.panicSites.filter fun s => s.2.1 == .internal).length ≥ 1 := by decide +kernel
example : discharged .reachable = false ∧ discharged .unmapped = false := by decide

end Slicec.C01

#print axioms Slicec.C01.ledger_complete
#print axioms Slicec.C01.ledger_not_stale
#print axioms Slicec.C01.environment_sites_are_the_two_writes
#print axioms Slicec.C01.codec_has_no_panic_site
#print axioms Slicec.C01.alias_resolution_returns
#print axioms Slicec.C01.cycle_detector_returns
#print axioms Slicec.C01.doc_comment_never_panics
#print axioms Slicec.C01.sanitize_never_panics
#print axioms Slicec.C01.generator_option_total
#print axioms Slicec.C01.generator_option_empty_rejected
#print axioms Slicec.C01.reply_skip_terminates
#print axioms Slicec.C01.reply_reservation_bounded
#print axioms Slicec.C01.snippet_returns
#print axioms Slicec.C01.exit_status_is_a_verdict
