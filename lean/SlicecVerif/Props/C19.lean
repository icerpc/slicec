/-
  C19 — Generator specifications parse back to the path and arguments that were written.

  `pluginParser` is the model of `fn plugin_parser` (Model/PluginSpec.lean; its lexical table is
  regenerated from the source). All statements quantify over arbitrary character lists, i.e. every
  sequence of Unicode scalar values. That the parser gives a verdict (value or usage error) on every
  string and cannot crash is the totality of `pluginParser : List Char → Except PErr _`.
-/
import SlicecVerif.Lemmas.PluginSpec
import SlicecVerif.Lemmas.PluginSpecNormal

namespace Slicec.C19

open Slicec Slicec.PluginSpec

/-- for the test vectors below, which compare results by `decide` -/
local instance {ε α : Type} [DecidableEq ε] [DecidableEq α] : DecidableEq (Except ε α)
  | .ok a, .ok b => decidable_of_iff (a = b) ⟨congrArg _, Except.ok.inj⟩
  | .error a, .error b => decidable_of_iff (a = b) ⟨congrArg _, Except.error.inj⟩
  | .ok _, .error _ => isFalse nofun
  | .error _, .ok _ => isFalse nofun

/-- the empty specification is rejected (with the "missing plugin path" usage error), neither accepted
    nor a crash. -/
theorem rejects_empty : pluginParser [] = .error .missingPath := rfl

/-- Round trip. Writing any path and any arguments as `PATH,KEY=VALUE,…` (backslash before every `,` and
    `=` of a component; an empty value written `KEY=`) and parsing the result yields exactly the trimmed
    path and the trimmed pairs, in order — provided the trimmed path and every trimmed key are non-empty
    (otherwise the specification is rejected, see `rejects_iff`) and no component *other than the very
    last one* ends in a backslash (a final backslash followed by a separator would read as an escape;
    the syntax cannot express such a component — see the examples below). -/
theorem parse_render (path : List Char) (args : List Arg)
    (hp : trim path ≠ []) (hk : ∀ a ∈ args, trim a.1 ≠ [])
    (hb : ∀ c ∈ (components path args).dropLast, endsBs c = false) :
    pluginParser (render path args) = .ok (trim path, args.map trimArg) := by
  simpa [render] using parse_render_gen false false path args hp hk (compsOk_of_dropLast _ hb)

/-- The same with one trailing comma appended: it is ignored. Here the last component must not end in a
    backslash either (it would escape the comma). -/
theorem parse_render_comma (path : List Char) (args : List Arg)
    (hp : trim path ≠ []) (hk : ∀ a ∈ args, trim a.1 ≠ [])
    (hb : ∀ c ∈ components path args, endsBs c = false) :
    pluginParser (render path args ++ [',']) = .ok (trim path, args.map trimArg) := by
  simpa [render] using parse_render_gen false true path args hp hk (compsOk_of_all _ _ hb)

/-- A key without `=` has an empty value: the round trip also holds when every argument whose value is
    empty is written as the bare `KEY`. -/
theorem parse_render_bare (path : List Char) (args : List Arg)
    (hp : trim path ≠ []) (hk : ∀ a ∈ args, trim a.1 ≠ [])
    (hb : ∀ c ∈ (components path args).dropLast, endsBs c = false) :
    pluginParser (renderBare path args) = .ok (trim path, args.map trimArg) := by
  simpa [renderBare] using parse_render_gen true false path args hp hk (compsOk_of_dropLast _ hb)

theorem parse_render_bare_comma (path : List Char) (args : List Arg)
    (hp : trim path ≠ []) (hk : ∀ a ∈ args, trim a.1 ≠ [])
    (hb : ∀ c ∈ components path args, endsBs c = false) :
    pluginParser (renderBare path args ++ [',']) = .ok (trim path, args.map trimArg) := by
  simpa [renderBare] using parse_render_gen true true path args hp hk (compsOk_of_all _ _ hb)

/-- `PATH,KEY` : the key gets the empty value (instance of `parse_render_bare`; a key that is the last
    thing written could even end in a backslash, which this corollary does not cover) -/
theorem key_without_eq (path key : List Char) (hp : trim path ≠ []) (hk : trim key ≠ [])
    (hb : endsBs path = false ∧ endsBs key = false) :
    pluginParser (escape path ++ ',' :: escape key) = .ok (trim path, [(trim key, [])]) := by
  simpa [renderBare, renderArgs, renderArg, trimArg, trim_nil] using
    parse_render_bare path [(key, [])] hp (by simpa using hk) (by simpa [components] using hb)

/-- the single-pass parser with look-ahead and mutable state computes, on EVERY string, exactly what the
    independent multi-pass reference does: un-escape, ignore one trailing comma, split at the unescaped
    commas, split each argument at its first unescaped `=`, reject a second one, trim, reject an empty
    path or key — same value, same error kind. -/
theorem parser_eq_spec (s : List Char) : pluginParser s = specParser s := by
  rw [pluginParser_eq_scanU, scanU_spec]
  simp only [PSt.close, bind_assoc, pure_bind, List.nil_append, finish_eq]
  unfold specParser
  dsimp only
  cases specArgs (splitCommas (dropTrailingComma (tokenize s))).2 with
  | error e => rfl
  | ok as => exact pure_bind ..

/-- Rejection, characterised for EVERY string. With the un-escaped text cut at its unescaped commas (one
    trailing comma ignored) into a path piece and argument pieces, the parser rejects exactly when some
    argument piece has a second unescaped `=`, or the trimmed path is empty, or the trimmed key (the text
    before the first unescaped `=`) of some argument piece is empty. Everything else is accepted. -/
theorem rejects_iff (s : List Char) :
    (∃ e, pluginParser s = .error e) ↔
      ((∃ seg ∈ (splitCommas (dropTrailingComma (tokenize s))).2, 2 ≤ seg.count .eq) ∨
       trim ((splitCommas (dropTrailingComma (tokenize s))).1.map Tok.char) = [] ∨
       (∃ seg ∈ (splitCommas (dropTrailingComma (tokenize s))).2, trim (segKey seg) = [])) := by
  rw [parser_eq_spec]
  unfold specParser
  dsimp only
  rw [specArgs_eq]
  by_cases h0 : ∃ seg ∈ (splitCommas (dropTrailingComma (tokenize s))).2, 2 ≤ seg.count .eq
  · rw [if_pos h0]
    exact ⟨fun _ => Or.inl h0, fun _ => ⟨_, rfl⟩⟩
  · -- the remaining rejections are the error branches of the two tests that follow
    rw [if_neg h0]
    dsimp only
    rw [exists_error_ite, exists_error_ite]
    simp only [List.map_map, List.mem_map, Function.comp, trimArg, h0, false_or, reduceCtorEq, exists_false, or_false]
    exact or_congr_right ⟨fun ⟨_, ⟨seg, hs, rfl⟩, h⟩ => ⟨seg, hs, h⟩, fun ⟨seg, hs, h⟩ => ⟨_, ⟨seg, hs, rfl⟩, h⟩⟩

/-! ## non-vacuity and the excluded cases (character lists written out: `decide` evaluates the model) -/

/-- the example of the option's help text: `/p/gen,arg1=value1,arg2 = value2,arg3,` -/
example : pluginParser ['/', 'p', '/', 'g', 'e', 'n', ',', 'a', 'r', 'g', '1', '=', 'v', 'a', 'l', 'u', 'e', '1', ',', 'a', 'r', 'g', '2', ' ', '=', ' ', 'v', 'a', 'l', 'u', 'e', '2', ',', 'a', 'r', 'g', '3', ','] =
    .ok (['/', 'p', '/', 'g', 'e', 'n'], [(['a', 'r', 'g', '1'], ['v', 'a', 'l', 'u', 'e', '1']), (['a', 'r', 'g', '2'], ['v', 'a', 'l', 'u', 'e', '2']), (['a', 'r', 'g', '3'], [])]) := by decide +kernel

/-- a round trip with separators, backslashes and Unicode whitespace inside and around components:
    path `␠a,b=\c<U+00A0>`, arguments `<U+3000>k=` ↦ `\,v␠` and `x\y` ↦ empty -/
example : pluginParser (render [' ', 'a', ',', 'b', '=', '\\', 'c', '\u00A0'] [(['\u3000', 'k', '='], ['\\', ',', 'v', ' ']), (['x', '\\', 'y'], [])]) =
    .ok (['a', ',', 'b', '=', '\\', 'c'], [(['k', '='], ['\\', ',', 'v']), (['x', '\\', 'y'], [])]) := by decide +kernel

/-- the hypotheses of `parse_render` are satisfiable with every kind of character involved -/
example : trim [' ', 'a', ',', 'b', '=', '\\', 'c', '\u00A0'] ≠ [] ∧
    (∀ c ∈ (components ['p', '\\', 'q'] [(['k', ','], ['=', 'v', '\\'])]).dropLast, endsBs c = false) := by
  decide +kernel

/-- a last component ending in a backslash does round-trip … -/
example : pluginParser (render ['p'] [(['k'], ['v', '\\'])]) = .ok (['p'], [(['k'], ['v', '\\'])]) := by decide +kernel

/-- … but not with a trailing comma (the backslash is consumed as the escape of that comma), -/
example : pluginParser (render ['p'] [(['k'], ['v', '\\'])] ++ [',']) = .ok (['p'], [(['k'], ['v', ','])]) := by decide +kernel

/-- and neither a path, a key nor a non-final value ending in a backslash is read back: the side
    condition of `parse_render` excludes exactly the components the syntax cannot express. -/
example : pluginParser (render ['p', '\\'] [(['k'], ['v'])]) = .ok (['p', ',', 'k', '=', 'v'], []) := by decide +kernel
example : pluginParser (render ['p'] [(['k', '\\'], ['v'])]) = .ok (['p'], [(['k', '=', 'v'], [])]) := by decide +kernel
example : pluginParser (render ['p'] [(['k'], ['v', '\\']), (['l'], ['w'])]) = .error .secondEq := by decide +kernel

/-- the three rejections, and the escaped `=` that is not one -/
example : pluginParser [' ', '\t', ',', 'k', '=', 'v'] = .error .missingPath := by decide +kernel
example : pluginParser ['p', ',', ' ', '=', 'v'] = .error .missingKey := by decide +kernel
example : pluginParser ['p', ',', 'k', '=', 'v', '=', 'w'] = .error .secondEq := by decide +kernel
example : pluginParser ['p', ',', 'k', '=', 'v', '\\', '=', 'w'] = .ok (['p'], [(['k'], ['v', '=', 'w'])]) := by decide +kernel

/-- `=` is an ordinary character of the path; only the *last* character is an ignorable comma -/
example : pluginParser ['a', '=', 'b', ',', ','] = .error .missingKey := by decide +kernel
example : pluginParser ['a', '=', 'b', ','] = .ok (['a', '=', 'b'], []) := by decide +kernel

/-- `rejects_iff` is not vacuous on either side -/
example : (∃ e, pluginParser ['p', ',', '='] = .error e) ∧ ¬ (∃ e, pluginParser ['p', ',', 'k', '='] = .error e) := by
  constructor
  · exact ⟨.missingKey, by decide +kernel⟩
  · rintro ⟨e, he⟩; revert he; cases e <;> decide +kernel

/-! ## what an accepted specification looks like, and the writer seen from the parser's side -/

/-- Whatever string is accepted, the value handed on is in normal form: the path is non-empty and has no
    surrounding white space, every key is non-empty, and keys and values have no surrounding white space
    (`Normal`, Lemmas/PluginSpecNormal.lean). For EVERY string — the converse reading of the rejection
    clause: no string at all makes the parser hand on an empty path or an empty key. -/
theorem accepted_is_normal (s : List Char) (r : List Char × List Arg) (h : pluginParser s = .ok r) :
    Normal r := pluginParser_ok_normal s r h

/-- the rejection clause stated on the result: an accepted specification never carries an empty path or an
    empty key -/
theorem never_accepts_empty_path_or_key (s : List Char) (r : List Char × List Arg) (h : pluginParser s = .ok r) :
    r.1 ≠ [] ∧ ∀ a ∈ r.2, a.1 ≠ [] :=
  ⟨(accepted_is_normal s r h).1, fun a ha => ((accepted_is_normal s r h).2.2 a ha).1⟩

/-- Writing back what was read is a fixed point: if ANY string `s` is accepted with path `p` and arguments
    `as`, then rendering `p`, `as` and parsing again yields exactly `p`, `as` — nothing is trimmed or
    re-split a second time — provided no component other than the last ends in a backslash (the one
    thing the syntax cannot write, see above). -/
theorem reparse_fixed_point (s : List Char) (p : List Char) (as : List Arg)
    (h : pluginParser s = .ok (p, as))
    (hb : ∀ c ∈ (components p as).dropLast, endsBs c = false) :
    pluginParser (render p as) = .ok (p, as) :=
  parse_render_normal p as (accepted_is_normal s (p, as) h) hb

/-- The writer is injective on normal forms: two different (path, arguments) values in normal form are
    never written as the same specification string (under the backslash side condition on both). -/
theorem render_injective (p p' : List Char) (as as' : List Arg)
    (hn : Normal (p, as)) (hn' : Normal (p', as'))
    (hb : ∀ c ∈ (components p as).dropLast, endsBs c = false)
    (hb' : ∀ c ∈ (components p' as').dropLast, endsBs c = false)
    (h : render p as = render p' as') : p = p' ∧ as = as' := by
  -- both values are what their common string parses to
  have e1 := parse_render_normal p as hn hb
  rw [h, parse_render_normal p' as' hn' hb'] at e1
  injection e1 with e1
  injection e1 with e3 e4
  exact ⟨e3.symm, e4.symm⟩

/-- `str::trim` applied twice is `str::trim` (`trim_idem` of Lemmas/PluginSpecNormal.lean, which is behind
    `accepted_is_normal`; stated here because the property's "trimmed of surrounding whitespace" is about it) -/
theorem trim_idempotent (l : List Char) : trim (trim l) = trim l := trim_idem l

/-- non-vacuity: an accepted string whose result meets the side condition, re-rendered and re-parsed -/
example : pluginParser [' ', 'p', ' ', ',', ' ', 'k', '\\', '=', ' ', '=', ' ', 'v', '\\', ',', 'w', ' ', ',', 'x', ','] =
    .ok (['p'], [(['k', '='], ['v', ',', 'w']), (['x'], [])]) := by decide +kernel
example : pluginParser (render ['p'] [(['k', '='], ['v', ',', 'w']), (['x'], [])]) =
    .ok (['p'], [(['k', '='], ['v', ',', 'w']), (['x'], [])]) := by decide +kernel
/-- without normal form the writer is NOT injective on what is read back (surrounding blanks are lost) -/
example : pluginParser (render [' ', 'p'] []) = pluginParser (render ['p'] []) := by decide +kernel

/-- One trailing comma is ignored — for EVERY string, not only rendered ones. If the appended comma is read
    as a separator (it is not swallowed as `\,` by a dangling backslash at the end of `s`: first hypothesis,
    on the un-escaped text) and `s` does not itself end in an unescaped comma (second hypothesis: only ONE
    trailing comma is ignored), then `s,` parses to exactly what `s` parses to — value or error. -/
theorem trailing_comma_ignored (s : List Char)
    (h1 : tokenize (s ++ [',']) = tokenize s ++ [.comma])
    (h2 : (tokenize s).getLast? ≠ some .comma) :
    pluginParser (s ++ [',']) = pluginParser s := by
  rw [pluginParser_eq_scanU, pluginParser_eq_scanU, h1]
  have e1 : dropTrailingComma (tokenize s ++ [.comma]) = tokenize s := by
    simp [dropTrailingComma]
  have e2 : dropTrailingComma (tokenize s) = tokenize s := by
    simp [dropTrailingComma, h2]
  rw [e1, e2]

/-- both hypotheses are needed: a dangling backslash swallows the comma, and a second trailing comma is an
    (empty) argument -/
example : tokenize (['p', ',', 'k'] ++ [',']) = tokenize ['p', ',', 'k'] ++ [.comma] ∧
    (tokenize ['p', ',', 'k']).getLast? ≠ some .comma := by decide +kernel
example : pluginParser (['p', '\\'] ++ [',']) ≠ pluginParser ['p', '\\'] := by decide +kernel
example : pluginParser (['p', ','] ++ [',']) ≠ pluginParser ['p', ','] := by decide +kernel

/-- the same with the first hypothesis replaced by a condition on the text as written: `s` does not end in a
    backslash (then the appended comma cannot be an escaped one — `tokenize_snoc_comma`, for every string). -/
theorem trailing_comma_ignored_of_no_final_backslash (s : List Char)
    (h1 : endsBs s = false) (h2 : (tokenize s).getLast? ≠ some .comma) :
    pluginParser (s ++ [',']) = pluginParser s :=
  trailing_comma_ignored s (tokenize_snoc_comma s h1) h2

end Slicec.C19

#print axioms Slicec.C19.rejects_empty
#print axioms Slicec.C19.parse_render
#print axioms Slicec.C19.parse_render_comma
#print axioms Slicec.C19.parse_render_bare
#print axioms Slicec.C19.parse_render_bare_comma
#print axioms Slicec.C19.key_without_eq
#print axioms Slicec.C19.parser_eq_spec
#print axioms Slicec.C19.rejects_iff
#print axioms Slicec.C19.accepted_is_normal
#print axioms Slicec.C19.never_accepts_empty_path_or_key
#print axioms Slicec.C19.reparse_fixed_point
#print axioms Slicec.C19.render_injective
#print axioms Slicec.C19.trim_idempotent
#print axioms Slicec.C19.trailing_comma_ignored
#print axioms Slicec.C19.trailing_comma_ignored_of_no_final_backslash
