/-
  C18 — A failing generator is reported, never fatal, and never half-trusted.

  Statements over `Model/Driver.lean` for EVERY list of generators with EVERY combination of behaviours
  (`Behaviour`: spawn error, stdin write error, wait error, any exit code with any stderr/stdout bytes,
  killed by a signal with any output), every output directory and every file system (`FileSystem`:
  arbitrary contents, arbitrary set of paths on which `File::create` fails), from an arbitrary world.

  `g.failed`, `g.files`, `g.messages` are the per-generator view (`genReply`): a generator has not failed
  iff its process existed, its arguments encoded, its stdin was written, it exited with code 0 and empty
  stderr and its stdout begins with a reply that decodes (`decReply`, Model/Reply.lean, put together from the decoders of
  Model/Codec.lean that C11 is about, `decStr`, `decBool`, `decList`, `skipTaggedFields`; no theorem of C11 speaks of the
  composition; bytes behind the reply are ignored, as in `handleReply`).

  Outside the model (partial by nature, covered by the process-level fault enumeration only): pipe
  capacity and EPIPE timing, `wait` semantics, a generator that writes before it reads, one that never
  exits, crashes of the compiler itself (the model has no panic outcome: see C11 for the decoder).
-/
import SlicecVerif.Lemmas.Driver

namespace Slicec.C18

open Slicec Slicec.Driver

/-- the collection loop of `main` over all generators, started from world `w` -/
abbrev loop (outDir : Option Path) (payload : Bytes) (gens : List GenRun) (w : World) : World × List Diag :=
  collectAll outDir (gens.map (spawnGen payload)) w

/-- what a generator whose reply is accepted does to the world: its diagnostics' messages are printed,
    its files written one by one (compare-before-write) -/
def honour (outDir : Option Path) (w : World) (g : GenRun) : World :=
  (writeFiles outDir g.files { w with printed := w.printed ++ g.messages }).1

/-- Whatever a generator does: its reply is accepted only if its process existed, its arguments were
    written, it exited with status 0, wrote nothing to stderr and its stdout begins with both sequences of a
    reply, decoded to their end (what follows them is not looked at). Cannot be started, stdin closed early
    (write error), wait error, any other exit code, killed by a signal, any byte on stderr, empty / truncated /
    undecodable stdout: each makes it a failed generator (which `each_failure_reported` turns into its E001).
    Proved over the status arms and the stderr check read from `collect_plugin_output`. -/
theorem accepted_iff (g : GenRun) :
    g.failed = false ↔
      ∃ stdout files ds rest, g.beh = .exited 0 [] stdout ∧ (encArguments g.gen.args).isSome = true ∧
        decReply stdout = .ok ((files, ds), rest) := by
  rw [failed_false_iff]
  simp only [genReply_ok_iff]
  exact ⟨fun ⟨(files, ds), stdout, rest, h⟩ => ⟨stdout, files, ds, rest, h⟩,
    fun ⟨stdout, files, ds, rest, h⟩ => ⟨(files, ds), stdout, rest, h⟩⟩

/-- Every failing generator is reported by exactly one E001 "run code-generator" diagnostic carrying
    exactly its own path; successful generators get none; the reports come in generator order. -/
theorem each_failure_reported (outDir : Option Path) (payload : Bytes) (gens : List GenRun) (w : World) :
    (loop outDir payload gens w).2.filter isRunGen =
      (gens.filter (·.failed)).map (fun g => Diag.io .runGenerator g.gen.path) := by
  unfold loop
  induction gens generalizing w with
  | nil => rfl
  | cons g rest ih =>
    rw [collectAll_spawn_cons, List.filter_append, ih, List.filter_cons]
    cases hf : g.failed
    · rw [applyGen_ok outDir w g hf, writeFiles_no_runGen]
      rfl
    · rw [applyGen_failed outDir w g hf]
      rfl

/-- Every other diagnostic of the generator block is an E001 "write generated file" for a file of a
    generator whose reply was accepted: a failed write never turns into a failure of the generator. -/
theorem other_diagnostics_are_write_errors (outDir : Option Path) (payload : Bytes) (gens : List GenRun)
    (w : World) (d : Diag) (hd : d ∈ (loop outDir payload gens w).2) (hn : isRunGen d = false) :
    ∃ g ∈ gens, g.failed = false ∧ ∃ f ∈ g.files, d = Diag.io .writeGenerated f.path := by
  unfold loop at hd
  induction gens generalizing w with
  | nil => cases hd
  | cons g rest ih =>
    rw [collectAll_spawn_cons] at hd
    rcases List.mem_append.1 hd with hd | hd
    · cases hf : g.failed
      · rw [applyGen_ok outDir w g hf] at hd
        obtain ⟨f, hfm, e⟩ := List.mem_map.1 ((writeFiles_diags outDir g.files _).subset hd)
        exact ⟨g, by simp, hf, f, hfm, e.symm⟩
      · rw [applyGen_failed outDir w g hf] at hd
        cases List.mem_singleton.1 hd
        cases hn
    · obtain ⟨g', hg', r⟩ := ih _ hd
      exact ⟨g', List.mem_cons_of_mem _ hg', r⟩

/-- The other generators are honoured whatever the failing ones do: the world after the loop is the fold
    of `honour` over the generators that did not fail, in order. Failing generators leave no trace in the
    world (file system, write log, printed messages). -/
theorem others_honoured (outDir : Option Path) (payload : Bytes) (gens : List GenRun) (w : World) :
    (loop outDir payload gens w).1 = (gens.filter (fun g => !g.failed)).foldl (honour outDir) w := by
  unfold loop
  induction gens generalizing w with
  | nil => rfl
  | cons g rest ih =>
    rw [collectAll_spawn_cons, ih, List.filter_cons]
    cases hf : g.failed
    · rw [applyGen_ok outDir w g hf]
      rfl
    · rw [applyGen_failed outDir w g hf]
      rfl

/-- Independence: two runs whose successful generators coincide (same generators, same replies, same
    order) end in the same world, however many failing generators are interleaved and whatever they do. -/
theorem independent_of_failing (outDir : Option Path) (payload payload' : Bytes) (gens gens' : List GenRun)
    (w : World) (h : gens.filter (fun g => !g.failed) = gens'.filter (fun g => !g.failed)) :
    (loop outDir payload gens w).1 = (loop outDir payload' gens' w).1 := by
  rw [others_honoured, others_honoured, h]

/-- If any generator fails the exit status is non-zero (1; or 79 if the request could not even be
    encoded) — given that the generator block is entered at all. -/
theorem exit_nonzero_if_any_failed (opts : Options) (c : List Diag) (request : Option Bytes)
    (gens : List GenRun) (fs : FileSystem) (hg : guardOpen opts c = true)
    (hf : ∃ g ∈ gens, g.failed = true) :
    (mainFlow opts c request gens fs).status ≠ 0 ∧
    (request ≠ none → (mainFlow opts c request gens fs).status = 1) := by
  cases request with
  | none => rw [mainFlow_open_none _ _ _ _ hg]; simp
  | some payload =>
    rw [mainFlow_open_some _ _ _ _ _ hg, finish_status]
    obtain ⟨g, hgm, hfail⟩ := hf
    have hmem : Diag.io .runGenerator g.gen.path ∈ (loop opts.outputDir payload gens ⟨fs, [], []⟩).2.filter isRunGen := by
      rw [each_failure_reported]
      exact List.mem_map.2 ⟨g, List.mem_filter.2 ⟨hgm, hfail⟩, rfl⟩
    rw [(hasErrors_iff _).2 ⟨_, List.mem_append_right _ (List.mem_filter.1 hmem).1, rfl⟩]
    simp

/-- All generators receive the identical request followed by their own arguments: every generator for
    which a process existed was offered, on its stdin, the shared payload followed by the encoding of its
    own `Arguments` (count, then key and value strings per pair — `encode` of C10 at type
    dictionary<string, string>); the list is in generator order and lacks only those that could not be
    spawned. (If the arguments do not encode, only the payload was written and the generator is failed.) -/
theorem same_request (opts : Options) (c : List Diag) (payload : Bytes) (gens : List GenRun)
    (fs : FileSystem) (hg : guardOpen opts c = true) :
    (mainFlow opts c (some payload) gens fs).requests =
      (gens.filter (fun g => g.beh != .spawnError)).map
        (fun g => (g.gen, payload ++ (encode (.dictH .str .str) g.gen.args).getD [])) := by
  rw [mainFlow_open_some _ _ _ _ _ hg]
  exact requestsOf_spawn payload gens

/-- in particular any two requests differ only after the shared payload -/
theorem requests_share_payload (opts : Options) (c : List Diag) (payload : Bytes) (gens : List GenRun)
    (fs : FileSystem) (hg : guardOpen opts c = true) :
    ∀ r ∈ (mainFlow opts c (some payload) gens fs).requests, ∃ suffix, r.2 = payload ++ suffix := by
  rw [same_request opts c payload gens fs hg]
  intro r hr
  obtain ⟨g, _, rfl⟩ := List.mem_map.1 hr
  exact ⟨_, rfl⟩

/-- A reply that fails to decode writes nothing: a generator that failed — in particular one that exited
    with 0 and empty stderr but whose stdout does not decode — leaves the world exactly as it
    was; the only effect is its E001. Decoding is complete before the first write. -/
theorem undecodable_reply_changes_nothing (outDir : Option Path) (payload : Bytes) (w : World) (g : GenRun) :
    (g.failed = true → collectOne outDir w (spawnGen payload g) = (w, [Diag.io .runGenerator g.gen.path])) ∧
    (∀ stdout e, g.beh = .exited 0 [] stdout → decReply stdout = .error e → g.failed = true) := by
  refine ⟨fun h => by rw [collectOne_spawnGen, applyGen_failed outDir w g h], ?_⟩
  intro stdout e hb hd
  cases hf : g.failed
  · -- an accepted reply is the decoded stdout
    obtain ⟨stdout', _, _, _, hb', _, hd'⟩ := (accepted_iff g).1 hf
    cases hb.symm.trans hb'
    cases hd.symm.trans hd'
  · rfl

/-- Files are written only from a successfully decoded reply: every write the loop performs is a file of
    a reply that was accepted as a whole (process existed, exit 0, stderr empty, both sequences decoded),
    placed at `outDir` joined with the path the generator gave, with exactly the decoded contents. -/
theorem written_only_from_decoded_reply (outDir : Option Path) (payload : Bytes) (gens : List GenRun)
    (w : World) (pc : Path × Bytes) (h : pc ∈ (loop outDir payload gens w).1.writes) :
    pc ∈ w.writes ∨
    ∃ g ∈ gens, ∃ files ds, genReply g = .ok (files, ds) ∧
      ∃ f ∈ files, pc = (targetPath outDir f.path, f.contents) := by
  rcases collectAll_writes outDir payload gens w pc h with h | ⟨g, hg, hok, f, hf, e⟩
  · exact Or.inl h
  · -- a generator that has not failed has a reply, and `g.files` is its first component
    obtain ⟨⟨files, ds⟩, hr⟩ := (failed_false_iff g).1 hok
    unfold GenRun.files at hf
    rw [hr] at hf
    exact Or.inr ⟨g, hg, files, ds, hr, f, hf, e⟩

/-- A file whose content is already identical is left untouched: no create, no write, no diagnostic,
    the world is unchanged. -/
theorem identical_file_untouched (outDir : Option Path) (w : World) (f : GenFile)
    (h : w.fs.files (targetPath outDir f.path) = some f.contents) :
    writeGenerated outDir w f = (w, .untouched) ∧
    ∀ rest, writeFiles outDir (f :: rest) w = writeFiles outDir rest w := by
  have h1 : writeGenerated outDir w f = (w, .untouched) := by simp [writeGenerated, h]
  refine ⟨h1, ?_⟩
  intro rest
  simp [writeFiles, h1]

/-- …and over a whole run: a file that exists with content `c`, and at which accepted replies aim only
    content `c`, is never created or written by the loop, whatever else the generators do. -/
theorem identical_files_survive (outDir : Option Path) (payload : Bytes) (gens : List GenRun) (w : World)
    (p : Path) (c : Bytes) (hp : w.fs.files p = some c)
    (hsame : ∀ g ∈ gens, ∀ f ∈ g.files, targetPath outDir f.path = p → f.contents = c) :
    (loop outDir payload gens w).1.fs.files p = some c ∧
    ∀ pc ∈ (loop outDir payload gens w).1.writes, pc ∈ w.writes ∨ pc.1 ≠ p := by
  refine collectAll_invariant
    (fun w' => w'.fs.files p = some c ∧ ∀ pc ∈ w'.writes, pc ∈ w.writes ∨ pc.1 ≠ p)
    outDir payload gens w ⟨hp, fun _ h => Or.inl h⟩ (fun _ _ h => h) ?_
  intro w' ⟨h1, h2⟩ g hg _ f hf
  obtain ⟨h3, h4⟩ := writeGenerated_stable outDir w' f p c h1 (hsame g hg f hf)
  exact ⟨h3, fun pc hpc => (h4 pc hpc).elim (h2 pc) Or.inr⟩

/-- every write changes the file: one call of `write_generated_file` (the loop is a sequence of them) never logs a write
    of content that is already there; that it logs at most one write is `writeGenerated_world` (Lemmas/Driver.lean) -/
theorem writes_change_content (outDir : Option Path) (w : World) (f : GenFile) (pc : Path × Bytes)
    (h : pc ∈ (writeGenerated outDir w f).1.writes) : pc ∈ w.writes ∨ w.fs.files pc.1 ≠ some pc.2 :=
  (writeGenerated_writes outDir w f pc h).imp_right And.right

/-- Relative paths are placed below the output directory: the target is the directory, a separator
    unless the directory is empty or already ends with one, and the path as the generator gave it. -/
theorem relative_below_outdir (dir p : Path) (h : isAbsolute p = false) :
    ∃ sep, (sep = [] ∨ sep = [slash]) ∧ targetPath (some dir) p = dir ++ sep ++ p := by
  unfold targetPath joinPath
  simp only [h, Bool.false_eq_true, if_false]
  split
  · exact ⟨[], Or.inl rfl, by simp⟩
  · exact ⟨[slash], Or.inr rfl, rfl⟩

private def g0 : Generator := ⟨[0x67, 0x30], []⟩
private def g1 : Generator := ⟨[0x67, 0x31], [([0x6b], [0x76])]⟩
private def emptyFs : FileSystem := ⟨fun _ => none, fun _ => false⟩
/-- reply with one file `a` = `x` and no diagnostics -/
private def okReply : Bytes := [4, 4, 0x61, 4, 0x78, 0xFC, 0]

/-- killed by a signal, then a good generator: one E001 naming g0, g1's file is written, status 1 -/
example :
    let r := mainFlow ⟨false, some [0x6f], []⟩ [] (some [0xAA]) [⟨g0, .signalled [] okReply⟩, ⟨g1, .exited 0 [] okReply⟩] emptyFs
    r.status = 1 ∧ r.diags.map (·.1) = [.io .runGenerator [0x67, 0x30]] ∧
    r.world.writes = [([0x6f, 0x2F, 0x61], [0x78])] ∧
    r.requests.map (·.2) = [[0xAA, 0], [0xAA, 4, 4, 0x6b, 4, 0x76]] := by
  decide +kernel

/-- the reply truncated by one byte is not half-trusted: nothing is written -/
example :
    let r := mainFlow ⟨false, none, []⟩ [] (some []) [⟨g0, .exited 0 [] (okReply.take 6)⟩] emptyFs
    r.status = 1 ∧ r.world.writes = [] := by
  decide +kernel

/-- identical content: no write; different content: one write -/
example :
    let fs : FileSystem := ⟨fun p => if p = [0x61] then some [0x78] else none, fun _ => false⟩
    (mainFlow ⟨false, none, []⟩ [] (some []) [⟨g0, .exited 0 [] okReply⟩] fs).world.writes = [] ∧
    (mainFlow ⟨false, none, []⟩ [] (some []) [⟨g0, .exited 0 [] okReply⟩] emptyFs).world.writes = [([0x61], [0x78])] := by
  decide +kernel

end Slicec.C18

#print axioms Slicec.C18.accepted_iff
#print axioms Slicec.C18.each_failure_reported
#print axioms Slicec.C18.other_diagnostics_are_write_errors
#print axioms Slicec.C18.others_honoured
#print axioms Slicec.C18.independent_of_failing
#print axioms Slicec.C18.exit_nonzero_if_any_failed
#print axioms Slicec.C18.same_request
#print axioms Slicec.C18.requests_share_payload
#print axioms Slicec.C18.undecodable_reply_changes_nothing
#print axioms Slicec.C18.written_only_from_decoded_reply
#print axioms Slicec.C18.identical_file_untouched
#print axioms Slicec.C18.identical_files_survive
#print axioms Slicec.C18.writes_change_content
#print axioms Slicec.C18.relative_below_outdir
