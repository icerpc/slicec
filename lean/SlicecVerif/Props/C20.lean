/-
  C20 — Visitor traversal presents every element exactly once, in source order.

  Theorems over `Slicec.Visit.visitP` (Model/Visit.lean), the mirror of every `visit_with` in
  `/repo/slicec/src/visitor.rs`. An event is identified by its path from the file root (a list of positions);
  `visit` renders the paths in the naming of Model/Print.lean for the comparison with the real visitor.
  The statements are about the model's walk, for every table `t` (any program around the file, valid or not), every file
  index and every file `f`, at every depth of nesting. The model passes at most `visitFuel t = numAliases t + 1` aliases on
  one descent, where `TypeRef::visit_with` has no bound; that no accepted program needs more is argued at `visitFuel`
  and checked by the driver at run time, not proved.
-/
import SlicecVerif.Lemmas.Visit
import SlicecVerif.Lemmas.VisitComplete
import SlicecVerif.Lemmas.VisitOrder
import SlicecVerif.Lemmas.VisitRender
import SlicecVerif.Lemmas.VisitExample

namespace Slicec.C20

open Slicec Slicec.Visit

/-- **The callbacks happen in document order.** For any two callbacks of a walk, the earlier one has the smaller
    path in the lexicographic order induced by the declaration order of siblings (`Seg.lt`, by `Seg.cls` and then index;
    instances in `sibling_order_facts`), in which a container is smaller than everything it contains. -/
theorem visit_order (t : Table) (self : Nat) (f : SFile) :
    (visitP t self f).Pairwise (fun a b => Path.lt a.path b.path) :=
  flat_sorted _ _ (fileF_wf _ _)

/-- position in the walk and document order of the paths determine each other -/
theorem visit_order_iff (t : Table) (self : Nat) (f : SFile) (i j : Nat)
    (hi : i < (visitP t self f).length) (hj : j < (visitP t self f).length) :
    i < j ↔ Path.lt (visitP t self f)[i].path (visitP t self f)[j].path := by
  have hp := List.pairwise_iff_getElem.mp (visit_order t self f)
  constructor
  · exact fun h => hp i j hi hj h
  · intro h
    rcases Nat.lt_trichotomy i j with hlt | heq | hgt
    · exact hlt
    · subst heq; exact absurd h (lex_irrefl _)
    · exact absurd (hp j i hj hi hgt) (fun h' => lex_asymm h h')

/-- **Exactly once (no repetition).** No two callbacks of a walk have the same path: nothing is presented twice. -/
theorem visit_nodup (t : Table) (self : Nat) (f : SFile) : ((visitP t self f).map PEvent.path).Nodup :=
  (visit_order t self f).map PEvent.path (fun _ _ h heq => lex_irrefl _ (heq ▸ h))

/-- **Containers before their contents.** If the path of callback `j` lies strictly below the path of callback `i`
    (`i` is the file's definition / operation / enumerator / owner / enclosing type reference of `j`, at any distance),
    callback `i` happens first. -/
theorem container_first (t : Table) (self : Nat) (f : SFile) (i j : Nat)
    (hi : i < (visitP t self f).length) (hj : j < (visitP t self f).length) (s : Seg) (tl : Path)
    (h : (visitP t self f)[j].path = (visitP t self f)[i].path ++ s :: tl) : i < j := by
  rw [visit_order_iff t self f i j hi hj, h]
  exact lex_prefix _ _ _

/-- **Siblings in declaration order.** Two callbacks below the same container `q`, reached through children `a` and
    `b` of `q` with `a` declared before `b`, happen in that order — whatever lies below `a` comes before `b` and
    everything below `b`. With `Seg.lt (.p m) (.r n)` this says parameters (and their types) come before return members;
    with `Seg.lt .tk .tv` / `Seg.lt .ts .tf` key before value and success before failure. -/
theorem source_order (t : Table) (self : Nat) (f : SFile) (i j : Nat)
    (hi : i < (visitP t self f).length) (hj : j < (visitP t self f).length) (q : Path) (a b : Seg) (x y : Path)
    (ha : (visitP t self f)[i].path = q ++ a :: x) (hb : (visitP t self f)[j].path = q ++ b :: y)
    (hab : Seg.lt a b) : i < j := by
  rw [visit_order_iff t self f i j hi hj, ha, hb]
  exact lex_sibling q hab x y

/-- the instances of the sibling order that `source_order` is meant to be used with -/
theorem sibling_order_facts (m n : Nat) :
    (m < n → Seg.lt (.d m) (.d n) ∧ Seg.lt (.f m) (.f n) ∧ Seg.lt (.o m) (.o n) ∧ Seg.lt (.p m) (.p n) ∧
      Seg.lt (.r m) (.r n) ∧ Seg.lt (.e m) (.e n)) ∧
    Seg.lt (.p m) (.r n) ∧ Seg.lt .tk .tv ∧ Seg.lt .ts .tf ∧ Seg.lt .file .mod ∧ Seg.lt .mod (.d n) ∧ Seg.lt .file (.d n) := by
  unfold Seg.lt; simp [Seg.cls, Seg.idx]

/-- **The type right after its owner.** The callback directly after a field, parameter, return member or alias is
    the callback for its type reference (path `owner.t`, a `TypeRef` object of this file). -/
theorem type_after_owner (t : Table) (self : Nat) (f : SFile) (i : Nat) (hi : i < (visitP t self f).length)
    (ho : isOwner (visitP t self f)[i].kind) :
    (visitP t self f)[i + 1]? = some ⟨"typeref", (visitP t self f)[i].path ++ [.t], false⟩ :=
  ownerNext_getElem _ i hi (flat_ownerNext _ _ (fileF_wf _ _)) ho

/-- **Nested types, to any depth.** Below the callback of a reference at path `q` written as a sequence /
    dictionary / result, the walk is: the element reference and everything nested in it; the key reference with
    everything nested in it, *then* the value reference with everything nested in it; success, then failure.
    The equations hold at every path and for every fuel, so they describe every level of nesting. -/
theorem nested_order (t : Table) (self fuel : Nat) (sc : String) (fr : Bool) (q : Path)
    (a₁ a₂ : List Attr) (x y : TyExpr) (o₁ o₂ : Bool) :
    flat q (tyF t self fuel sc fr (.seq (.mk a₁ x o₁))) =
      ⟨"typeref", q ++ [.te], fr⟩ :: flat (q ++ [.te]) (tyF t self fuel sc fr x) ∧
    flat q (tyF t self fuel sc fr (.dict (.mk a₁ x o₁) (.mk a₂ y o₂))) =
      (⟨"typeref", q ++ [.tk], fr⟩ :: flat (q ++ [.tk]) (tyF t self fuel sc fr x)) ++
      (⟨"typeref", q ++ [.tv], fr⟩ :: flat (q ++ [.tv]) (tyF t self fuel sc fr y)) ∧
    flat q (tyF t self fuel sc fr (.result (.mk a₁ x o₁) (.mk a₂ y o₂))) =
      (⟨"typeref", q ++ [.ts], fr⟩ :: flat (q ++ [.ts]) (tyF t self fuel sc fr x)) ++
      (⟨"typeref", q ++ [.tf], fr⟩ :: flat (q ++ [.tf]) (tyF t self fuel sc fr y)) := by
  simp [tyF, flat]

/-- **Through aliases.** A reference that names an alias of an anonymous type (the patcher bound it to the type expression
    `e` the alias chain ends in: `resolveNamed … = .ok (.expr e s, _)`) is followed by exactly what follows a reference
    written as `e` — the references written under the alias, resolved in the alias's module scope, with paths continuing
    under the using reference `q`. -/
theorem alias_flattened (t : Table) (self fuel : Nat) (sc : String) (fr : Bool) (q : Path) (id : String)
    (e : TyExpr) (s : String) (attrs : List Attr) (h : resolveNamed t .type id sc = .ok (.expr e s, attrs)) :
    flat q (tyF t self (fuel + 1) sc fr (.named id)) = flat q (tyF t self fuel s (exprFile t id sc != self) e) := by
  simp [tyF, h]

/-- **Unpatched references are not descended.** The forest below a named reference that does not resolve (it stays
    `Unpatched`) is empty; the same holds for a reference bound to a struct, enum, custom type or primitive. -/
theorem unpatched_not_descended (t : Table) (self fuel : Nat) (sc : String) (fr : Bool) (id : String) :
    (∀ err, resolveNamed t .type id sc = .error err → tyF t self fuel sc fr (.named id) = .nil) ∧
    (∀ n attrs, resolveNamed t .type id sc = .ok (.node n, attrs) → tyF t self fuel sc fr (.named id) = .nil) := by
  constructor
  · intro err h; cases fuel <;> simp [tyF, h]
  · intro n attrs h; cases fuel <;> simp [tyF, h]

/-- the walk of the reference of an owner that does not resolve is the one callback for the reference -/
theorem unpatched_owner_events (c : Ctx) (q : Path) (attrs : List Attr) (id : String) (opt : Bool) (err : ResErr)
    (h : resolveNamed c.table .type id c.scope = .error err) :
    flat q (c.tref (.mk attrs (.named id) opt)) = [⟨"typeref", q ++ [.t], false⟩] := by
  have := (unpatched_not_descended c.table c.self c.fuel c.scope false id).1 err h
  simp [Ctx.tref, trefF, TRef.ty, flat, this]

/-- **Nothing declared in the file is skipped.** Every position of the file that holds an element the visitor has a
    callback for (`Declared f p`: lookup of `p` by position in the abstract syntax — file, module, definitions, fields,
    operations, parameters, return members, enumerators, enumerator fields, and every written type reference to any
    depth) is the path of a callback of the walk — whatever the rest of the program is, resolved or not. -/
theorem declared_subset (t : Table) (self : Nat) (f : SFile) (p : Path) (h : Declared f p) :
    p ∈ (visitP t self f).map PEvent.path :=
  (path_mem_visitP_iff t self f p).mpr (Or.inl h)

/-- the walk without alias descent presents exactly the written type references below a reference: together with
    `declared_subset` and `alias_flattened`, what a walk presents beyond `Declared` lies below a written reference
    that names an alias of an anonymous type. -/
theorem written_types_exact (t : Table) (self : Nat) (sc : String) (fr : Bool) (ty : TyExpr) (p : Path) :
    (p = [] ∨ (tyF t self 0 sc fr ty).has p) ↔ DeclaredTy ty p :=
  (tyF_has_iff t self 0 sc fr ty p).trans (InTy_zero t sc ty p)

/-- **Every callback is located in the walked file**: at the file, at its module (which then exists), or below the `j`-th
    definition *of this file* (`j < f.defs.length`). This is about positions only: objects written in another file are
    presented (`PEvent.foreign` marks the type references whose `TypeRef` object was written under an alias in another
    file), at positions of this file; where, is said by `other_file_only_below_alias`. -/
theorem own_file_only (t : Table) (self : Nat) (f : SFile) (e : PEvent) (h : e ∈ visitP t self f) :
    ∃ s tl, e.path = s :: tl ∧ (s = .file ∨ (s = .mod ∧ f.module.isSome) ∨ ∃ j, j < f.defs.length ∧ s = .d j) := by
  -- `locate` finds the path of a callback, and it finds something in three of its arms only
  have hl := ((mem_visitP_locate t self f e).mp h).1
  generalize e.path = p at hl ⊢
  revert hl
  fun_cases locate f p
  case case1 => exact fun _ => ⟨_, _, rfl, Or.inl rfl⟩
  case case2 hm => exact fun _ => ⟨_, _, rfl, Or.inr (Or.inl ⟨rfl, hm⟩)⟩
  case case4 j r d hj => exact fun _ => ⟨_, _, rfl, Or.inr (Or.inr ⟨j, (List.getElem?_eq_some_iff.mp hj).1, rfl⟩)⟩
  all_goals exact False.elim

/-! ## completeness for whole files: exactly what is presented

  Vocabulary (definitions in Lemmas/VisitComplete.lean, all by position in the abstract syntax — no traversal):
  * `refAt f q = some ty` — `q` is the position of a type reference written in file `f` (the `.t` of a field / parameter /
    return member / alias, or a reference nested in it), and `ty` is the type expression written there;
  * `InTy t fuel sc ty p` — `p` is a position at or below a reference written as `ty` in module scope `sc`, where a name
    bound to an alias of an anonymous type continues into that type (`inTy_spec` below states its three rules);
  * `BelowAlias t f p` — `p = q ++ tl`, `tl ≠ []`, `refAt f q = some (.named id)`, the name resolves
    (`resolveNamed t .type id (fileScope f) = .ok (.expr e s, _)`: alias of the anonymous type `e`, written in scope `s`)
    and `InTy t (numAliases t) s e tl`. -/

/-- **What `InTy` means.** (1) The reference itself is a position. (2) Below a reference that is not a name, the positions
    are those of the reference nested at the first step (`Sequence` → `.te`; `Dictionary` → `.tk`, `.tv`; `Result` → `.ts`, `.tf`;
    a primitive has none). (3) Below a name there are positions exactly if the name is bound to an alias of an anonymous
    type `e` (written in module scope `s`): the positions of `e`, read in scope `s`, with one unit of fuel less.
    (4) More fuel never removes a position. -/
theorem inTy_spec (t : Table) (fuel : Nat) (sc : String) :
    (∀ ty, InTy t fuel sc ty []) ∧
    (∀ ty s p, (∀ id, ty ≠ .named id) → (InTy t fuel sc ty (s :: p) ↔ ∃ c, TyExpr.child ty s = some c ∧ InTy t fuel sc c p)) ∧
    (∀ id p, p ≠ [] → (InTy t fuel sc (.named id) p ↔
        ∃ n e s attrs, fuel = n + 1 ∧ resolveNamed t .type id sc = .ok (.expr e s, attrs) ∧ InTy t n s e p)) ∧
    (∀ ty p, InTy t fuel sc ty p → InTy t (fuel + 1) sc ty p) :=
  ⟨InTy_nil t fuel sc, fun ty s p h => InTy_step t fuel sc ty s p h, fun id p hp => InTy_named t fuel sc id p hp,
   fun ty p => InTy_mono t fuel sc ty p⟩

/-- **What `refAt` means.** A written reference is a declared position; it is an owner's `.t` followed by steps
    `.te .tk .tv .ts .tf` only (`Seg.IsNested`, classes 9 to 13), so it ends in one of those six steps (`Seg.IsRef`, classes 8 to
    13). A declared position is an element (file, module, definition, field, operation, parameter, return member,
    enumerator) or a written reference. Below a written name nothing is declared. -/
theorem refAt_spec (f : SFile) (q : Path) :
    (∀ ty, refAt f q = some ty → Declared f q ∧ (∃ q0 a, q = q0 ++ .t :: a ∧ ∀ s ∈ a, 9 ≤ s.cls) ∧
        ∃ s, q.getLast? = some s ∧ 8 ≤ s.cls) ∧
    (Declared f q → locate f q = .elem ∨ ∃ ty, refAt f q = some ty) ∧
    (∀ id tl, refAt f q = some (.named id) → tl ≠ [] → refAt f (q ++ tl) = none ∧ ¬ Declared f (q ++ tl)) :=
  ⟨fun _ h => ⟨refAt_declared h, refAt_shape h, refAt_last h⟩, declared_cases,
   fun _ tl h htl => refAt_below_named h tl htl⟩

/-- **Exactly what is presented.** A path is the path of a callback of the walk of file `f` iff it is declared in `f`
    (`Declared`: the file, its module, and every definition, field, operation, parameter, return member, enumerator and
    written type reference, by position) or lies strictly below a written reference that names an alias of an anonymous
    type, at a position inside that type (`BelowAlias`, which carries the model's bound on the aliases passed). Holds for
    every table (valid program or not) and every file. -/
theorem presented_iff (t : Table) (self : Nat) (f : SFile) (p : Path) :
    p ∈ (visitP t self f).map PEvent.path ↔ Declared f p ∨ BelowAlias t f p :=
  path_mem_visitP_iff t self f p

/-- the two cases of `presented_iff` exclude each other: nothing below a written name is declared -/
theorem below_alias_not_declared (t : Table) (f : SFile) (p : Path) (h : BelowAlias t f p) : ¬ Declared f p := by
  obtain ⟨q, tl, id, e, s, attrs, rfl, htl, hq, _, _⟩ := h
  exact (refAt_below_named hq tl htl).2

/-- **Nothing else is presented**, in a weaker form than `presented_iff`: every path the walk presents is declared, or is
    `q ++ tl` with `q` declared, not the file, `tl` non-empty, and is itself not declared. `presented_iff` says which `q`
    and `tl`: `q` is a written reference naming an alias of an anonymous type and `tl` a position inside that type. -/
theorem visit_complete (t : Table) (self : Nat) (f : SFile) (p : Path) (h : p ∈ (visitP t self f).map PEvent.path) :
    Declared f p ∨ ∃ q tl, Declared f q ∧ q.getLast? ≠ some .file ∧ tl ≠ [] ∧ p = q ++ tl ∧ ¬ Declared f p := by
  refine ((presented_iff t self f p).mp h).imp_right fun hb => ?_
  have hnd := below_alias_not_declared t f p hb
  obtain ⟨q, tl, id, e, s, attrs, rfl, htl, hq, _, _⟩ := hb
  refine ⟨q, tl, refAt_declared hq, ?_, htl, rfl, hnd⟩
  obtain ⟨s', hs', hc⟩ := refAt_last hq
  rw [hs']
  rintro ⟨⟩
  exact absurd hc (by decide)

/-! ## exactly once -/

/-- **Every presented path occurs exactly once, every other path never.** -/
theorem presented_count (t : Table) (self : Nat) (f : SFile) (p : Path) :
    (Declared f p ∨ BelowAlias t f p → ((visitP t self f).map PEvent.path).count p = 1) ∧
    (¬ (Declared f p ∨ BelowAlias t f p) → ((visitP t self f).map PEvent.path).count p = 0) := by
  rw [← presented_iff t self f p, (visit_nodup t self f).count]
  constructor <;> intro h <;> simp [h]

/-- every callback (kind, path, own/other file) occurs exactly once in the walk -/
theorem event_once (t : Table) (self : Nat) (f : SFile) (e : PEvent) (h : e ∈ visitP t self f) :
    (visitP t self f).count e = 1 := by
  have hn : (visitP t self f).Nodup := (visit_nodup t self f).of_map PEvent.path (fun _ _ hne heq => hne (heq ▸ rfl))
  rw [hn.count, if_pos h]

/-- **A path lies below at most one written name**: the decomposition `q ++ tl` of `BelowAlias` is unique — the written
    reference through which an alias-flattened reference is reached is determined by the path. -/
theorem use_is_unique (f : SFile) (q q' tl tl' : Path) (id id' : String) (hq : refAt f q = some (.named id))
    (hq' : refAt f q' = some (.named id')) (htl : tl ≠ []) (htl' : tl' ≠ []) (h : q ++ tl = q' ++ tl') : q = q' ∧ tl = tl' :=
  use_unique hq hq' htl htl' h

/-- **Once per use.** Let `q` be a written reference of the file that names an alias of the anonymous type `e` (written in
    scope `s`). Below `q` the walk presents exactly the positions inside `e` (`InTy`), each exactly once, and nothing else:
    a reference written under an alias is presented once for *this* use `q` and this position `tl` of the flattened type.
    (The unit is the position, not the `TypeRef` object: with `typealias A = Sequence<bool>`, `typealias D = Result<A, A>`
    and a field `x: D`, the element reference written under `A` is one object but two positions below the one written
    reference `x.t` — `x.t.s.e` and `x.t.f.e` — and is presented at both, once each; the real visitor does the same.) -/
theorem once_per_use (t : Table) (self : Nat) (f : SFile) (q : Path) (id : String) (e : TyExpr) (s : String) (attrs : List Attr)
    (hq : refAt f q = some (.named id)) (hr : resolveNamed t .type id (fileScope f) = .ok (.expr e s, attrs))
    (tl : Path) (htl : tl ≠ []) :
    (InTy t (numAliases t) s e tl → ((visitP t self f).map PEvent.path).count (q ++ tl) = 1) ∧
    (¬ InTy t (numAliases t) s e tl → ((visitP t self f).map PEvent.path).count (q ++ tl) = 0) := by
  have key : (Declared f (q ++ tl) ∨ BelowAlias t f (q ++ tl)) ↔ InTy t (numAliases t) s e tl := by
    constructor
    · rintro (h | ⟨q', tl', id', e', s', attrs', hp, htl', hq', hr', h⟩)
      · exact absurd h (refAt_below_named hq tl htl).2
      · obtain ⟨rfl, rfl⟩ := use_unique hq hq' htl htl' hp
        cases hq.symm.trans hq'
        cases hr.symm.trans hr'
        exact h
    · intro h
      exact Or.inr ⟨q, tl, id, e, s, attrs, rfl, htl, hq, hr, h⟩
  rw [← key]
  exact presented_count t self f (q ++ tl)

/-- **The same reference under an alias is presented once for every use of the alias.** If two different written references
    `q₁ ≠ q₂` of the file name the same alias of an anonymous type, every position `tl` inside that type is presented
    under both — two different callbacks (`q₁ ++ tl ≠ q₂ ++ tl`) for the same reference written under the alias, each
    exactly once. This is the precise sense in which an alias-flattened `TypeRef` is presented "once per use". -/
theorem alias_node_once_per_use (t : Table) (self : Nat) (f : SFile) (q₁ q₂ : Path) (id : String) (e : TyExpr) (s : String)
    (attrs : List Attr) (h₁ : refAt f q₁ = some (.named id)) (h₂ : refAt f q₂ = some (.named id)) (hne : q₁ ≠ q₂)
    (hr : resolveNamed t .type id (fileScope f) = .ok (.expr e s, attrs)) (tl : Path) (htl : tl ≠ [])
    (hin : InTy t (numAliases t) s e tl) :
    ((visitP t self f).map PEvent.path).count (q₁ ++ tl) = 1 ∧ ((visitP t self f).map PEvent.path).count (q₂ ++ tl) = 1 ∧
    q₁ ++ tl ≠ q₂ ++ tl :=
  ⟨(once_per_use t self f q₁ id e s attrs h₁ hr tl htl).1 hin, (once_per_use t self f q₂ id e s attrs h₂ hr tl htl).1 hin,
   fun h => hne (List.append_cancel_right h)⟩

/-! ## the compared strings determine the events -/

/-- **The rendering of paths is injective**: two structured paths that render to the same string (`d0.f1.t.e` …) are equal. -/
theorem pathStr_injective (p q : Path) (h : pathStr p = pathStr q) : p = q := pathStr_inj p q h

/-- the event that travels to the harness determines the structured event -/
theorem render_injective (a b : PEvent) (h : a.render = b.render) : a = b := by
  cases a; cases b
  simp only [PEvent.render, Event.mk.injEq] at h
  obtain ⟨rfl, hp, rfl⟩ := h
  rw [pathStr_inj _ _ hp]

/-- **Equal rendered walks are equal walks**: if the event lists compared by the harness (`visit`, paths as strings) are
    equal, the structured event lists the theorems speak about are equal. -/
theorem visit_determines_visitP (t t' : Table) (i i' : Nat) (f f' : SFile) (h : visit t i f = visit t' i' f') :
    visitP t i f = visitP t' i' f' :=
  (List.map_inj_right render_injective).mp h

/-- **The wire string of a walk determines the walk.** `eventsStr (visit …)` — the comma-separated `kind:path[@own|@other]`
    text that is compared with the harness's recording — is injective on walks: every callback of a walk has one of the
    twelve known kinds and only type references carry the own/other flag (`visitP_OK`), kinds and paths contain no `:`,
    `,`, `@`, so the text can be split back in exactly one way. -/
theorem wire_determines_walk (t t' : Table) (i i' : Nat) (f f' : SFile)
    (h : eventsStr (visit t i f) = eventsStr (visit t' i' f')) : visitP t i f = visitP t' i' f' :=
  eventsStr_inj _ _ (visitP_OK t i f) (visitP_OK t' i' f') h

/-- **The whole observation determines every file's walk.** If two programs have the same expected observation
    (`visitDump`: the walks of the files joined by `|`, then the fixed trailer), they have the same number of files and the
    same structured walk for every file. Equality of the compared strings is equality of the event sequences. -/
theorem observation_determines_walks (p p' : Program) (h : visitDump p = visitDump p') :
    (p.zipIdx.map fun (f, i) => visitP (buildTable p) i f) = (p'.zipIdx.map fun (f, i) => visitP (buildTable p') i f) :=
  visitDump_inj p p' h

/-- the driver's run-time check "rendered paths are pairwise distinct" (K line `render`) can never fire -/
theorem rendered_paths_nodup (t : Table) (self : Nat) (f : SFile) : ((visit t self f).map (·.path)).Nodup := by
  unfold visit
  rw [List.map_map]
  exact (List.pairwise_map.1 (visit_nodup t self f)).map _ (fun _ _ hne heq => hne (pathStr_inj _ _ heq))

/-! ## the order statement at full strength -/

/-- `pathLt` (a Boolean function: compare the first differing step by class, then index; a proper prefix first) decides
    the document order, and the document order is a strict total order: irreflexive, transitive, any two different
    paths comparable. -/
theorem pathLt_strict_total :
    (∀ a b, pathLt a b = true ↔ Path.lt a b) ∧ (∀ a, pathLt a a = false) ∧
    (∀ a b c, pathLt a b = true → pathLt b c = true → pathLt a c = true) ∧
    (∀ a b, pathLt a b = true ∨ a = b ∨ pathLt b a = true) :=
  ⟨pathLt_iff, fun a => Bool.eq_false_iff.mpr fun h => lex_irrefl a ((pathLt_iff a a).mp h),
   fun a b c h h' => (pathLt_iff a c).mpr (lex_trans ((pathLt_iff a b).mp h) ((pathLt_iff b c).mp h')),
   fun a b => by simp only [pathLt_iff]; exact lex_total a b⟩

/-- a container precedes everything below it; below a common container the sibling order of the first differing step
    decides, whatever follows -/
theorem pathLt_facts (q : Path) (s : Seg) (tl : Path) (a b : Seg) (x y : Path) :
    pathLt q (q ++ s :: tl) = true ∧ (segLt a b = true → pathLt (q ++ a :: x) (q ++ b :: y) = true) :=
  ⟨(pathLt_iff _ _).mpr (lex_prefix q s tl), fun h => (pathLt_iff _ _).mpr (lex_sibling q ((segLt_iff a b).mp h) x y)⟩

/-- **The walk is strictly increasing in the document order** (one statement for the whole order property): in the list
    of presented paths every earlier path is `pathLt` every later one. With `pathLt_strict_total` and `pathLt_facts` this
    gives: no path twice (irreflexive), containers before contents, siblings and everything below them in declaration
    order, parameters before return members, key before value, success before failure, at every depth. -/
theorem visit_sorted (t : Table) (self : Nat) (f : SFile) :
    ((visitP t self f).map PEvent.path).Pairwise (fun a b => pathLt a b = true) :=
  (visit_order t self f).map PEvent.path (fun _ _ h => (pathLt_iff _ _).mpr h)

/-- **The paths of the walk are determined by the specification**: the sequence of presented paths is *the* strictly
    increasing enumeration of the set `Declared f ∪ BelowAlias t f` — any list that is strictly increasing in `pathLt` and has exactly
    those members is the sequence of the walk. "Every element exactly once, in source order" in one statement. -/
theorem visit_is_sorted_enumeration (t : Table) (self : Nat) (f : SFile) (L : List Path)
    (hs : L.Pairwise (fun a b => pathLt a b = true)) (hm : ∀ p, p ∈ L ↔ Declared f p ∨ BelowAlias t f p) :
    L = (visitP t self f).map PEvent.path := by
  refine sorted_ext L _ (hs.imp (fun h => (pathLt_iff _ _).mp h)) ?_ (fun p => by rw [hm p, presented_iff])
  exact (visit_order t self f).map PEvent.path (fun _ _ h => h)

/-! ## kinds and own/other-file flags: the event at a position

  * `kindAt f p` — the kind of the element at position `p`: read off the last step (`file`, `mod` → "module", `f·` → "field",
    `o·` → "operation", `p·`/`r·` → "parameter", `e·` → "enumerator", `.t .te .tk .tv .ts .tf` → "typeref"), for `d j` the kind of
    the `j`-th definition of the file.
  * `flagAt t self f p` — `false` ("own file") unless `p` lies at/below the reference of an owner; there it is
    `flagTy t self fuel scope false ty r` (`flagTy_spec` gives its rules). -/

/-- **The rules of the own/other-file flag below a reference** (`fr` = the flag of the reference itself): (1) the reference
    itself keeps `fr`; (2) a step into a written nested reference keeps the flag; (3) passing through a name bound to an
    alias of an anonymous type, the flag becomes "the alias chain ends in another file" (`exprFile t id sc != self`) and
    the descent continues in the alias's type and scope; (4) hence at every written position the flag is `fr`. -/
theorem flagTy_spec (t : Table) (self fuel : Nat) (sc : String) (fr : Bool) :
    (∀ ty, flagTy t self fuel sc fr ty [] = fr) ∧
    (∀ ty c s p, (∀ id, ty ≠ .named id) → TyExpr.child ty s = some c →
        flagTy t self fuel sc fr ty (s :: p) = flagTy t self fuel sc fr c p) ∧
    (∀ id e s' attrs p, p ≠ [] → resolveNamed t .type id sc = .ok (.expr e s', attrs) →
        flagTy t self (fuel + 1) sc fr (.named id) p = flagTy t self fuel s' (exprFile t id sc != self) e p) ∧
    (∀ ty p, DeclaredTy ty p → flagTy t self fuel sc fr ty p = fr) :=
  ⟨flagTy_nil t self fuel sc fr, fun _ _ _ p _ hc => flagTy_step t self fuel sc fr hc p,
   fun id e s' attrs p hp hr => flagTy_named t self fuel sc fr id e s' attrs p hp hr,
   fun ty p h => flagTy_declared t self fuel sc fr p ty h⟩

/-- **Every callback is the event of its position**: its kind is the kind of the element at its path and its own/other
    flag is the one the position determines. Together with `presented_iff` and `visit_sorted` nothing about a walk is
    left open (`walk_is_determined`). -/
theorem event_by_position (t : Table) (self : Nat) (f : SFile) (e : PEvent) (h : e ∈ visitP t self f) :
    e = ⟨kindAt f e.path, e.path, flagAt t self f e.path⟩ := by
  obtain ⟨-, hk, hf⟩ := (mem_visitP_spec t self f e).mp h
  cases e; simp_all

/-- the flag by position: declared positions are "own file"; an alias-descended position `q ++ tl` (written name `q`
    bound to the anonymous type `e` of scope `s`) carries `flagTy` started with "the alias chain of the name ends in
    another file" -/
theorem flag_by_position (t : Table) (self : Nat) (f : SFile) :
    (∀ p, Declared f p → flagAt t self f p = false) ∧
    (∀ q tl id e s attrs, refAt f q = some (.named id) → resolveNamed t .type id (fileScope f) = .ok (.expr e s, attrs) →
        tl ≠ [] → flagAt t self f (q ++ tl) = flagTy t self (numAliases t) s (exprFile t id (fileScope f) != self) e tl) :=
  ⟨flagAt_declared t self f, fun q tl id e s attrs hq hr htl => flagAt_below t self f q tl id e s attrs hq hr htl⟩

/-- **Other-file references only below aliases.** A callback flagged "written in another file" is a type reference and
    lies strictly below a written reference naming an alias of an anonymous type; everything declared in the walked file
    is presented as own. -/
theorem other_file_only_below_alias (t : Table) (self : Nat) (f : SFile) (e : PEvent) (h : e ∈ visitP t self f)
    (hf : e.foreign = true) : BelowAlias t f e.path ∧ e.kind = "typeref" := by
  obtain ⟨hp, -, hfl⟩ := (mem_visitP_spec t self f e).mp h
  constructor
  · refine hp.resolve_left (fun hd => ?_)
    rw [hfl, flagAt_declared t self f e.path hd] at hf
    cases hf
  · exact Decidable.byContradiction (fun hk => by rw [(visitP_OK t self f e h).2 hk] at hf; cases hf)

/-- **The walk is determined by the specification.** Let `L` be the strictly increasing (`pathLt`) list of the paths that
    are declared in the file or lie below a written alias of an anonymous type. Then the walk is exactly `L` with, at
    every path, the kind of the element there and the flag of that position: every element exactly once, in source
    order, as the right kind of callback. -/
theorem walk_is_determined (t : Table) (self : Nat) (f : SFile) (L : List Path)
    (hs : L.Pairwise (fun a b => pathLt a b = true)) (hm : ∀ p, p ∈ L ↔ Declared f p ∨ BelowAlias t f p) :
    visitP t self f = L.map (fun p => ⟨kindAt f p, p, flagAt t self f p⟩) := by
  rw [visit_is_sorted_enumeration t self f L hs hm, List.map_map]
  exact (List.map_id _).symm.trans (List.map_congr_left fun e he => event_by_position t self f e he)

def exFile : SFile :=
  { fileAttrs := [], module := some ⟨[], "M"⟩,
    defs := [ .alias [] [] "T" (.mk [] (.seq (.mk [] (.prim .bool) false)) false),
              .struct [] [] false "S" [⟨[], [], none, "a", .mk [] (.named "T") false⟩,
                                       ⟨[], [], none, "b", .mk [] (.dict (.mk [] (.prim .int32) false) (.mk [] (.named "T") true)) false⟩] ] }

example : (visitWritten exFile).map (fun e => (e.kind, e.path)) =
    [("file", [.file]), ("module", [.mod]), ("alias", [.d 0]), ("typeref", [.d 0, .t]), ("typeref", [.d 0, .t, .te]),
     ("struct", [.d 1]), ("field", [.d 1, .f 0]), ("typeref", [.d 1, .f 0, .t]),
     ("field", [.d 1, .f 1]), ("typeref", [.d 1, .f 1, .t]), ("typeref", [.d 1, .f 1, .t, .tk]), ("typeref", [.d 1, .f 1, .t, .tv])] := by
  simp [visitWritten, exFile, fileF, flat, idxF, defF, defKind, fieldsF, Ctx.tref, trefF, tyF, Forest.append, TRef.ty]

example : isOwner "field" ∧ isOwner "parameter" ∧ isOwner "alias" ∧ ¬ isOwner "operation" := by decide +kernel

example : Declared exFile [.d 1, .f 1, .t, .tv] ∧ ¬ Declared exFile [.d 1, .f 1, .t, .tv, .te] ∧ ¬ Declared exFile [.d 2] :=
  ⟨trivial, id, id⟩

/-! `exFile2` (Lemmas/VisitExample.lean) is
    `module M  typealias T = Sequence<bool>  typealias U = Dictionary<int32, T>  struct S { a: T, b: U, c: Sequence<T> }`
    with the table `exTab = buildTable [exFile2]` -/

/-- the walk of the example: `T`'s element reference is presented at `d0.t.e` (where it is written) and once more under
    every use of `T`: `d1.t.v.e`, `d2.f0.t.e`, `d2.f1.t.v.e` (through `U`, nested), `d2.f2.t.e.e` -/
example : (visitP exTab 0 exFile2).map (fun e => pathStr e.path) =
    ["file", "mod", "d0", "d0.t", "d0.t.e", "d1", "d1.t", "d1.t.k", "d1.t.v", "d1.t.v.e", "d2", "d2.f0", "d2.f0.t", "d2.f0.t.e",
     "d2.f1", "d2.f1.t", "d2.f1.t.k", "d2.f1.t.v", "d2.f1.t.v.e", "d2.f2", "d2.f2.t", "d2.f2.t.e", "d2.f2.t.e.e"] := by
  simp [visitP, ctxOf, visitFuel, ex_numAliases, fileScope, exFile2, fileF, flat, idxF, defF, defKind, fieldsF, Ctx.tref, trefF, tyF,
    Forest.append, TRef.ty, tr, ex_res_T, ex_res_U]
  decide

/-- four of the six alias-descended paths of the example (`d2.f1.t.k` and `d2.f1.t.v` are the other two) are `BelowAlias`:
    through `T`, through `U` and then `T`, below a nested written reference, inside an alias definition; the first of them is
    not `Declared` -/
example : BelowAlias exTab exFile2 [.d 2, .f 0, .t, .te] ∧ BelowAlias exTab exFile2 [.d 2, .f 1, .t, .tv, .te] ∧
    BelowAlias exTab exFile2 [.d 2, .f 2, .t, .te, .te] ∧ BelowAlias exTab exFile2 [.d 1, .t, .tv, .te] ∧
    ¬ Declared exFile2 [.d 2, .f 0, .t, .te] :=
  ⟨⟨[.d 2, .f 0, .t], [.te], "T", _, "M", [], rfl, by simp, ex_refs.1, ex_res_T, ex_numAliases ▸ ex_inT.1⟩,
   ⟨[.d 2, .f 1, .t], [.tv, .te], "U", _, "M", [], rfl, by simp, ex_refs.2.2.1, ex_res_U, ex_numAliases ▸ ex_inU⟩,
   ⟨[.d 2, .f 2, .t, .te], [.te], "T", _, "M", [], rfl, by simp, ex_refs.2.1, ex_res_T, ex_numAliases ▸ ex_inT.1⟩,
   ⟨[.d 1, .t, .tv], [.te], "T", _, "M", [], rfl, by simp, ex_refs.2.2.2.1, ex_res_T, ex_numAliases ▸ ex_inT.1⟩,
   id⟩

/-- `T` is used at `d2.f0.t` and at `d2.f2.t.e`: its element reference is presented under both, once each -/
example : ((visitP exTab 0 exFile2).map PEvent.path).count [.d 2, .f 0, .t, .te] = 1 ∧
    ((visitP exTab 0 exFile2).map PEvent.path).count [.d 2, .f 2, .t, .te, .te] = 1 := by
  have := alias_node_once_per_use exTab 0 exFile2 [.d 2, .f 0, .t] [.d 2, .f 2, .t, .te] "T" _ "M" [] ex_refs.1 ex_refs.2.1 (by decide)
    ex_res_T [.te] (by simp) (ex_numAliases ▸ ex_inT.1)
  exact ⟨this.1, this.2.1⟩

/-- … and nothing else below the use: `d2.f0.t.e.e` and `d2.f0.t.k` are never presented -/
example : ((visitP exTab 0 exFile2).map PEvent.path).count [.d 2, .f 0, .t, .te, .te] = 0 ∧
    ((visitP exTab 0 exFile2).map PEvent.path).count [.d 2, .f 0, .t, .tk] = 0 :=
  ⟨(once_per_use exTab 0 exFile2 [.d 2, .f 0, .t] "T" _ "M" [] ex_refs.1 ex_res_T [.te, .te] (by simp)).2 (ex_numAliases ▸ ex_inT.2.1),
   (once_per_use exTab 0 exFile2 [.d 2, .f 0, .t] "T" _ "M" [] ex_refs.1 ex_res_T [.tk] (by simp)).2 (ex_numAliases ▸ ex_inT.2.2)⟩

example : pathLt [.d 1, .o 0, .p 3, .t, .te] [.d 1, .o 0, .r 0] = true ∧ pathLt [.d 0, .t] [.d 0, .t, .tk] = true ∧
    pathLt [.d 0, .t, .tk, .te] [.d 0, .t, .tv] = true ∧ pathLt [.d 2] [.d 10] = true ∧ pathLt [.mod] [.file] = false := by decide +kernel

example : pathStr [.d 10, .o 2, .r 0, .t, .tv, .te] = "d10.o2.r0.t.v.e" ∧ pathStr [.d 1, .e 0, .f 1, .t, .ts] = "d1.e0.f1.t.s" := by decide +kernel

/-- two files: file 0 `module N  typealias T0 = Sequence<bool>`, file 1 `module M  struct S { a: N::T0 }`; walking file 1
    presents the element reference written in file 0 below the field's type, flagged "other file" -/
example : (visitP exTab2 1 exFileB).map (fun e => (e.kind, pathStr e.path, e.foreign)) =
    [("file", "file", false), ("module", "mod", false), ("struct", "d0", false), ("field", "d0.f0", false),
     ("typeref", "d0.f0.t", false), ("typeref", "d0.f0.t.e", true)] := by
  simp [visitP, ctxOf, visitFuel, ex2_numAliases, fileScope, exFileB, fileF, flat, idxF, defF, defKind, fieldsF, Ctx.tref, trefF, tyF,
    Forest.append, TRef.ty, tr, ex2_res, ex2_exprFile]
  decide

example : kindAt exFileB [.d 0] = "struct" ∧ kindAt exFileB [.d 0, .f 0] = "field" ∧ kindAt exFileB [.d 0, .f 0, .t, .te] = "typeref" ∧
    kindAt exFile2 [.d 1] = "alias" ∧ kindAt exFile2 [.mod] = "module" :=
  ⟨rfl, rfl, rfl, rfl, rfl⟩

/-- the flag of `d0.f0.t.e` in file 1 is "other" because the chain of `N::T0` ends in file 0 ≠ 1; walking the same text as
    file 0 of another program would give "own" -/
example : flagAt exTab2 1 exFileB [.d 0, .f 0, .t, .te] = true ∧ flagAt exTab2 1 exFileB [.d 0, .f 0, .t] = false := by
  constructor
  · have h := (flag_by_position exTab2 1 exFileB).2 [.d 0, .f 0, .t] [.te] "N::T0" _ "N" []
      rfl ex2_res (by simp)
    rw [show ([Seg.d 0, .f 0, .t] ++ [Seg.te]) = [.d 0, .f 0, .t, .te] from rfl] at h
    rw [h, show fileScope exFileB = "M" from rfl, ex2_exprFile]
    rw [flagTy_step _ _ _ _ _ (c := .prim .bool) rfl, flagTy_nil]
    decide
  · exact (flag_by_position exTab2 1 exFileB).1 _ trivial

example : Event.str (PEvent.render ⟨"typeref", [.d 0, .f 0, .t, .te], true⟩) = "typeref:d0.f0.t.e@other" ∧
    Event.str (PEvent.render ⟨"field", [.d 0, .f 0], false⟩) = "field:d0.f0" := by decide +kernel

end Slicec.C20

#print axioms Slicec.C20.visit_order
#print axioms Slicec.C20.visit_order_iff
#print axioms Slicec.C20.visit_nodup
#print axioms Slicec.C20.container_first
#print axioms Slicec.C20.source_order
#print axioms Slicec.C20.sibling_order_facts
#print axioms Slicec.C20.type_after_owner
#print axioms Slicec.C20.nested_order
#print axioms Slicec.C20.alias_flattened
#print axioms Slicec.C20.unpatched_not_descended
#print axioms Slicec.C20.unpatched_owner_events
#print axioms Slicec.C20.declared_subset
#print axioms Slicec.C20.written_types_exact
#print axioms Slicec.C20.own_file_only
#print axioms Slicec.C20.inTy_spec
#print axioms Slicec.C20.refAt_spec
#print axioms Slicec.C20.presented_iff
#print axioms Slicec.C20.below_alias_not_declared
#print axioms Slicec.C20.visit_complete
#print axioms Slicec.C20.presented_count
#print axioms Slicec.C20.event_once
#print axioms Slicec.C20.use_is_unique
#print axioms Slicec.C20.once_per_use
#print axioms Slicec.C20.alias_node_once_per_use
#print axioms Slicec.C20.pathStr_injective
#print axioms Slicec.C20.render_injective
#print axioms Slicec.C20.visit_determines_visitP
#print axioms Slicec.C20.wire_determines_walk
#print axioms Slicec.C20.observation_determines_walks
#print axioms Slicec.C20.rendered_paths_nodup
#print axioms Slicec.C20.pathLt_strict_total
#print axioms Slicec.C20.pathLt_facts
#print axioms Slicec.C20.visit_sorted
#print axioms Slicec.C20.visit_is_sorted_enumeration
#print axioms Slicec.C20.flagTy_spec
#print axioms Slicec.C20.event_by_position
#print axioms Slicec.C20.flag_by_position
#print axioms Slicec.C20.other_file_only_below_alias
#print axioms Slicec.C20.walk_is_determined
