/-
  C15 — Results are reproducible and do not depend on the order of the inputs.
  Route: every use of a hash container in the compiler is order-free (extracted list, obligation
  `hash_uses_order_free`), so the only way the order of the input files can reach a result is the order in
  which they are folded into the name table (and into the list of definitions the validators walk).

  Under the side condition `UniqueKeys P` (different files never declare the same scoped name, except that they may
  re-open the same module; within one file anything goes) the table is a finite map up to the order of its entries, and
  the multiset of error codes of `validate` (C04) — hence the verdict, the set of codes and the `codes` projection the
  harness compares —, every file's compiled content and the multiset of located lint sites (C13), with the level each is
  emitted with, are the same for every order of the files; `unique_keys_needed_*` show what happens without it. When
  every declared name is an identifier — true of everything a source text can produce — the side condition follows from
  acceptance (a key shared by two files is a redefinition or a definition named like a module, both rejected in every
  order), so the verdict is order independent with no side condition at all; the error *set* of a rejected program is
  not. The same is shown for the complete pipeline `validateFull`, whose extra phases (shape check, alias gate,
  inheritance check) are modelled on positions in AST order: each depends on the name table and the keys only.
-/
import SlicecVerif.Lemmas.Perm
import SlicecVerif.Lemmas.PermValidate
import SlicecVerif.Lemmas.PermLints
import SlicecVerif.Lemmas.PermIdent
import SlicecVerif.Lemmas.PermElab
import SlicecVerif.Lemmas.PermPipeline
import SlicecVerif.Lemmas.Accepted
import SlicecVerif.Props.C04
import SlicecVerif.Gen.HashUses

namespace Slicec.C15

open Slicec Slicec.Validate

/-- methods whose result cannot depend on the iteration order of a hash container -/
def orderFree : List String :=
  ["insert", "get", "get_mut", "contains", "contains_key", "entry", "remove", "clone", "is_empty", "len", "extend", "retain",
   -- capacity management and whole-container operations: no element order can be observed through them
   "reserve", "try_reserve", "shrink_to_fit", "shrink_to", "capacity", "clear",
   -- keyed access / set predicates whose result is a function of the *set* of elements
   "get_key_value", "remove_entry", "take", "replace", "get_or_insert_with", "is_subset", "is_superset", "is_disjoint"]

/-- every method the compiler calls on a HashMap / HashSet binding (list regenerated from slicec/src on every run) is on
    the list `orderFree`: no `iter`/`keys`/`values`/`drain` among them. That the listed methods cannot show a hash order is
    read off their documentation and trusted; a `for … in map` loop is not a method call and not in the extracted list. -/
theorem hash_uses_order_free : ∀ u ∈ Gen.hashUses, orderFree.contains u.2.2 = true := by decide +kernel

/-! ## Part 1: the table as a finite map -/

/-- the name table built from indexed files (each file keeps its identity when the list is permuted) -/
def buildTableIdx (fs : List (SFile × Nat)) : Table := primTable ++ fs.flatMap fun (f, i) => fileEntries i f

theorem buildTable_eq (p : Program) : buildTable p = buildTableIdx p.zipIdx := rfl

/-- listing the files in a different order permutes the table and nothing else. -/
theorem table_perm (fs1 fs2 : List (SFile × Nat)) (h : fs1.Perm fs2) : (buildTableIdx fs1).Perm (buildTableIdx fs2) :=
  List.Perm.append_left _ (h.flatMap_right _)

/-- with pairwise distinct scoped names, a lookup does not depend on the order of the files. -/
theorem lookup_order_independent (fs1 fs2 : List (SFile × Nat)) (h : fs1.Perm fs2)
    (hnd : (buildTableIdx fs1).keys.Nodup) (k : String) :
    (buildTableIdx fs1).find k = (buildTableIdx fs2).find k :=
  Table.find_perm _ _ (table_perm fs1 fs2 h) hnd k

/-- … nor does the outward scope search … -/
theorem scope_search_order_independent (fs1 fs2 : List (SFile × Nat)) (h : fs1.Perm fs2)
    (hnd : (buildTableIdx fs1).keys.Nodup) (id scope : String) :
    findNodeWithScope (buildTableIdx fs1) id scope = findNodeWithScope (buildTableIdx fs2) id scope :=
  findNodeWithScope_congr (Table.find_perm _ _ (table_perm fs1 fs2 h) hnd) id scope

/-- … nor the resolution of any type reference, base or underlying type, through alias chains of any
    length (the bound definition, the accumulated attributes, and the error if there is one). -/
theorem resolution_order_independent (fs1 fs2 : List (SFile × Nat)) (h : fs1.Perm fs2)
    (hnd : (buildTableIdx fs1).keys.Nodup) (w : Want) (id scope : String) :
    resolveNamed (buildTableIdx fs1) w id scope = resolveNamed (buildTableIdx fs2) w id scope :=
  resolveNamed_congr (Table.find_perm _ _ (table_perm fs1 fs2 h) hnd) (numAliases_perm _ _ (table_perm fs1 fs2 h)) w id scope

/-! ## Part 2: the checking pipeline and the lints under a permutation of the files

`P.Perm P'`: the same files in another order. `UniqueKeys P` (Lemmas/PermTable.lean, decidable): for any two different
files of `P`, a scoped name declared by a definition of one of them (the definition itself or one of its fields,
operations, parameters, return members, enumerators) is declared nowhere in the other — neither by a definition nor as
its module. Two files may declare the same module, with different attributes. -/

/-- the side condition does not depend on the order either -/
theorem uniqueKeys_perm (P P' : Program) (hp : P.Perm P') : UniqueKeys P ↔ UniqueKeys P' :=
  ⟨UniqueKeys.perm hp, UniqueKeys.perm hp.symm⟩

/-- **the name table.** The tables built from the files in the two orders answer every lookup with the same node — same
    kind, key, module scope, identifier, alias target, primitive and attributes (`NodeInfo.norm` forgets only the index of
    the declaring file, which the permutation changes, and the attributes of a module declaration, which no consumer
    reads) — and hold the same number of aliases. Unlike `lookup_order_independent` this is about `buildTable` itself
    (files re-indexed by position) and needs no globally distinct keys: shared modules and clashes inside one file are
    allowed. -/
theorem name_table_order_independent (P P' : Program) (hp : P.Perm P') (hu : UniqueKeys P) :
    (∀ k, ((buildTable P).find k).map NodeInfo.norm = ((buildTable P').find k).map NodeInfo.norm) ∧
    numAliases (buildTable P) = numAliases (buildTable P') :=
  buildTable_sim P P' hp hu

/-- **resolution.** Every reference (type position, base interface, underlying type), written in any scope, resolves in the
    two orders to the same thing: the same error, or the same node (up to `norm`) / written type expression with the same
    attributes accumulated along the alias chain. -/
theorem resolution_order_independent_files (P P' : Program) (hp : P.Perm P') (hu : UniqueKeys P) (w : Want) (id scope : String) :
    (resolveNamed (buildTable P) w id scope).map normR = (resolveNamed (buildTable P') w id scope).map normR :=
  resolveNamed_sim _ _ (buildTable_sim P P' hp hu) w id scope

/-- **definitions by key.** The definition a scoped name denotes for the validators (last writer wins) is the same. -/
theorem definition_lookup_order_independent (P P' : Program) (hp : P.Perm P') (hu : UniqueKeys P) (key : String) :
    findDef P key = findDef P' key :=
  findDef_perm P P' hp hu key

/-- **the cycle gate** gives the same answer in both orders (same dependency edges, same reachability). -/
theorem cycle_gate_order_independent (P P' : Program) (hp : P.Perm P') (hu : UniqueKeys P) : hasCycle P = hasCycle P' :=
  hasCycle_perm hp (.of_perm hp hu)

/-- **the redefinition scan** reports the same multiset of codes in both orders — without any side condition (the hash-map
    scan reports one code per repeated name whatever the order in which the names are met). -/
theorem redefinition_scan_order_independent (P P' : Program) (hp : P.Perm P') : (namesRule.codes P).Perm (namesRule.codes P') :=
  names_codes_perm P P' hp

/-- **the visitor rules.** For every rule of the validating visitor, the contexts it is applied to in the permuted program
    are a permutation of the contexts in the original — including everything in a context that was computed through the
    name table or the definitions: resolved underlying types of enums, attributes inherited through aliases, the inherited
    operations of an interface (transitive bases), the key-type environment of the dictionary-key rule. -/
theorem rule_contexts_order_independent (b : Bool) (P P' : Program) (hp : P.Perm P') (hu : UniqueKeys P) :
    ∀ r ∈ visitorRules b, (r.ctxs P).Perm (r.ctxs P') :=
  visitor_ctxs_perm b hp (.of_perm hp hu)

/-- **the error codes.** The codes reported for the permuted program are a permutation of the codes reported for the
    original: the same phase is the first to report (parse-time checks, attributes, resolution, cycle gate, redefinitions,
    visitor) and it reports the same codes the same number of times. -/
theorem error_codes_order_independent (P P' : Program) (hp : P.Perm P') (hu : UniqueKeys P) : (validate P).Perm (validate P') :=
  validate_perm hp (.of_perm hp hu)

/-- **the verdict does not depend on the order of the files**: the program is accepted in one order exactly when it is
    accepted in the other. -/
theorem verdict_order_independent (P P' : Program) (hp : P.Perm P') (hu : UniqueKeys P) : validate P = [] ↔ validate P' = [] := by
  rw [← List.length_eq_zero_iff, ← List.length_eq_zero_iff, (validate_perm hp (.of_perm hp hu)).length_eq]

/-- **the set of error codes does not depend on the order of the files** (for a rejected program: which codes it is
    rejected with). -/
theorem error_set_order_independent (P P' : Program) (hp : P.Perm P') (hu : UniqueKeys P) (c : String) :
    c ∈ validate P ↔ c ∈ validate P' :=
  (validate_perm hp (.of_perm hp hu)).mem_iff

/-- … and so the `codes` projection the `compile` engine compares (sorted set of codes, `-` when empty) is the same string. -/
theorem codes_projection_order_independent (P P' : Program) (hp : P.Perm P') (hu : UniqueKeys P) :
    codesProjection (validate P) = codesProjection (validate P') :=
  codesProjection_perm_eq (validate_perm hp (.of_perm hp hu))

/-- the same on the specification side (C04 `accept_iff`): well-formedness — every language rule of the property — does not
    depend on the order of the files. -/
theorem wellFormed_order_independent (P P' : Program) (hp : P.Perm P') (hu : UniqueKeys P) : WellFormed P ↔ WellFormed P' := by
  rw [← C04.accept_iff, ← C04.accept_iff]
  exact verdict_order_independent P P' hp hu

/-- **the compiled content.** The canonical dump of a file (C02's `fileS`: every element with its attributes, tags, enumerator
    values, and every type reference, base and underlying type with the definition it was bound to and the attributes
    collected through aliases) is the same string whatever the order of the files; the dump of the permuted program consists
    of the same per-file dumps, permuted. -/
theorem compiled_content_order_independent (P P' : Program) (hp : P.Perm P') (hu : UniqueKeys P) :
    (∀ f, fileS (buildTable P) f = fileS (buildTable P') f) ∧
    (P.map (fileS (buildTable P))).Perm (P'.map (fileS (buildTable P'))) :=
  fileS_perm P P' hp hu

/-- **the warnings.** A lint site records the *position* of its file in the input list, which the permutation changes;
    `LintSite.located` replaces the position by the file itself. The located lint sites of the permuted program — which lint,
    in which file, about which element, with which recorded scope, `allow` chain and place in the file — are a permutation of
    those of the original: the multiset of lints the compiler records does not depend on the order of the files. -/
theorem lint_sites_order_independent (P P' : Program) (hp : P.Perm P') (hu : UniqueKeys P) :
    ((lintSites P).map (LintSite.located P)).Perm ((lintSites P').map (LintSite.located P')) :=
  lintSites_located_perm P P' hp hu

/-- **the emitted warnings.** … and each of them is emitted with the same level (`warning` or `allowed`) in both orders, once
    `into_updated` has applied the `--allow` values of the command line (`cli`, any), the `allow` attributes of the file the
    lint lies in, and the `allow` attributes of the element the recorded scope string names (looked up in the name table,
    last writer wins): the multiset of (file, lint, level) does not depend on the order of the files. -/
theorem emitted_warnings_order_independent (cli : List String) (P P' : Program) (hp : P.Perm P') (hu : UniqueKeys P) :
    ((lintSites P).map fun s => (s.located P, emittedLevel cli P s)).Perm
      ((lintSites P').map fun s => (s.located P', emittedLevel cli P' s)) :=
  lintLevels_perm cli P P' hp hu

/-- in particular the number of lints of each kind is the same -/
theorem lint_kinds_order_independent (P P' : Program) (hp : P.Perm P') (hu : UniqueKeys P) :
    ((lintSites P).map (·.kind)).Perm ((lintSites P').map (·.kind)) := by
  simpa [List.map_map, Function.comp_def, LintSite.located, LintSite.setFile] using
    (lintSites_located_perm P P' hp hu).map (fun x => x.2.kind)

/-! ## Part 3: the verdict without the side condition

`IdentNames P` (Lemmas/PermIdent.lean, decidable): every name a definition declares (its own, its members', their
members') is a non-empty string without `:`; every module path is a `::`-separated non-empty list of such strings. The
lexer produces nothing else. -/

/-- the side condition in terms of definitions only. `DistinctDefinitions P`: every file with definitions has a module
    declaration, no two definitions share a fully-scoped name, and no definition shares its fully-scoped name with a module
    the program declares or encloses (`module A::B::C` declares `A`, `A::B`, `A::B::C`) — the three things the parse-time
    module check and the redefinition scan of the global scope enforce. -/
def DistinctDefinitions (P : Program) : Prop :=
  (∀ f ∈ P, f.defs ≠ [] → f.module.isSome = true) ∧ ((allDefs P).map defKey).Nodup ∧
  ∀ x ∈ (allDefs P).map defKey, x ∉ modulePrefixes P

instance (P : Program) : Decidable (DistinctDefinitions P) := by unfold DistinctDefinitions; infer_instance

/-- **with identifiers as names, distinct definitions give unique keys**: the keys of members (`M::S::x`) live below the key
    of their definition, so two files can only share a key when they share a definition key or when the module path of one
    runs through a definition key of the other. -/
theorem uniqueKeys_of_distinct_definitions (P : Program) (hid : IdentNames P) (h : DistinctDefinitions P) : UniqueKeys P :=
  uniqueKeys_of_names P hid h.1 h.2.1 h.2.2

/-- … so for such programs — accepted or rejected for any other reason — the multiset of error codes does not depend on the
    order of the files. -/
theorem error_codes_order_independent_of_distinct_definitions (P P' : Program) (hp : P.Perm P') (hid : IdentNames P)
    (h : DistinctDefinitions P) : (validate P).Perm (validate P') :=
  validate_perm hp (.of_perm hp (uniqueKeys_of_distinct_definitions P hid h))

/-- **an accepted program has unique keys** (names being identifiers): if two different files declare the same scoped name,
    then either both define it (same module path, same definition name) or a definition of one file has the scoped name of
    a module the other declares or encloses — the redefinition rule rejects both. More precisely the parse-time rules
    (a file with definitions has a module declaration) and the redefinition rule suffice. -/
theorem accepted_programs_have_unique_keys (P : Program) (hid : IdentNames P) (h : validate P = []) : UniqueKeys P := by
  have hw := accepted_wellFormed P h
  exact uniqueKeys_of_rules P hid hw.1 (hw.2 namesRule (by simp [gatedRules]))

/-- **the verdict does not depend on the order of the files — no side condition**: for every program whose names are
    identifiers, and every order of its files, the program is accepted in one order exactly when it is in the other. -/
theorem verdict_order_independent_of_identifiers (P P' : Program) (hp : P.Perm P') (hid : IdentNames P) :
    validate P = [] ↔ validate P' = [] :=
  ⟨fun h => (verdict_order_independent P P' hp (accepted_programs_have_unique_keys P hid h)).mp h,
   fun h => (verdict_order_independent P' P hp.symm (accepted_programs_have_unique_keys P' (hid.perm hp) h)).mp h⟩

/-- for an accepted program nothing else depends on the order either: the lints and the levels they are emitted with -/
theorem accepted_warnings_order_independent (cli : List String) (P P' : Program) (hp : P.Perm P') (hid : IdentNames P)
    (h : validate P = []) :
    validate P' = [] ∧
    ((lintSites P).map fun s => (s.located P, emittedLevel cli P s)).Perm
      ((lintSites P').map fun s => (s.located P', emittedLevel cli P' s)) :=
  ⟨(verdict_order_independent_of_identifiers P P' hp hid).mp h,
   lintLevels_perm cli P P' hp (accepted_programs_have_unique_keys P hid h)⟩

/-- **the second sentence of the property, on the model, without side condition.** For every program whose names are
    identifiers, every order `P'` of its files and every list `cli` of `--allow` values: listing the files in a different
    order does not change whether the program is accepted, and for an accepted program changes neither any file's
    compiled content nor the multiset of warnings (each with the file it lies in and the level it is emitted with). -/
theorem input_order_independent (cli : List String) (P P' : Program) (hp : P.Perm P') (hid : IdentNames P) :
    (validate P = [] ↔ validate P' = []) ∧
    (validate P = [] →
      (∀ f, fileS (buildTable P) f = fileS (buildTable P') f) ∧
      ((lintSites P).map fun s => (s.located P, emittedLevel cli P s)).Perm
        ((lintSites P').map fun s => (s.located P', emittedLevel cli P' s))) :=
  ⟨verdict_order_independent_of_identifiers P P' hp hid, fun h =>
    have hu := accepted_programs_have_unique_keys P hid h
    ⟨(fileS_perm P P' hp hu).1, lintLevels_perm cli P P' hp hu⟩⟩

/-- a program rejected by the parse-time checks (literals, tags, return tuples, missing module declaration) or by attribute
    patching is rejected with the same codes in every order, without any side condition: these phases never consult the
    name table. (The redefinition scan is order independent as well, `redefinition_scan_order_independent`; what can depend
    on the order for a program with a cross-file key clash are the two phases in between, resolution and the cycle gate —
    `unique_keys_needed_for_error_set`.) -/
theorem early_rejection_order_independent (P P' : Program) (hp : P.Perm P') (h : parseCodes P ≠ [] ∨ attrPatchRule.codes P ≠ []) :
    (validate P).Perm (validate P') := by
  unfold validate phases
  refine firstNonEmpty_cons_perm' (parseCodes_perm hp) fun e1 => ?_
  refine firstNonEmpty_cons_perm' (attrPatch_codes_perm hp) fun e2 => ?_
  exact h.elim (absurd e1) (absurd e2)

/-! ## Part 4: the complete verdict (`validateFull`, Model/Pipeline.lean)

`validate` is not the compiler's complete verdict: the parser's E017 for bases / underlying types that are not names, the alias
gate (E019) and the interface-inheritance check (E032) of `detect_cycles` are phases of `validateFull` only. Their models (C05)
number aliases, anonymous types and interfaces by POSITION in AST order, which a permutation of the files changes; the
theorems below show that their verdicts do not. -/

/-- the shape check is per file: its codes — with the other parse-time codes — are permuted with the files (no side condition) -/
theorem parse_phase_full_order_independent (P P' : Program) (hp : P.Perm P') : (parseCodesFull P).Perm (parseCodesFull P') :=
  parseCodesFull_perm hp

/-- **the inheritance check, position-free.** With pairwise distinct definition keys, the inheritance graph on positions
    (`Cyc.igraphOfProgram`, what `check_interface_for_inheritance_cycles` is modelled on) has a loop exactly when the graph
    on KEYS has one — `b` is a step from `a` when `b` is the scoped name of an interface a base of the interface named `a`
    denotes (`Validate.directBases`, the by-name graph the shadowing rule walks). -/
theorem inheritance_loop_iff_key_loop (P : Program) (hnd : ((allDefs P).map defKey).Nodup) :
    (∃ i, Cyc.EReach (Cyc.igEdges (Cyc.igraphOfProgram P)) i i) ↔ ∃ a, KReach (BaseStep P) a a := by
  constructor
  · rintro ⟨i, hi⟩
    obtain ⟨a, _, ha, _, _⟩ := (igReach_iff P hnd i i).mp hi
    exact ⟨a, (igLoop_iff P hnd ha).mp hi⟩
  · rintro ⟨a, ha⟩
    obtain ⟨c, hc⟩ := ha.head
    obtain ⟨i, hi⟩ := List.getElem?_of_mem hc.mem_iKeys
    exact ⟨i, (igLoop_iff P hnd hi).mpr ha⟩

/-- … and the graph on keys is the same relation for every order of the files: the inheritance check reports nothing in one
    order exactly when it reports nothing in the other. -/
theorem inheritance_check_order_independent (P P' : Program) (hp : P.Perm P') (hu : UniqueKeys P)
    (hnd : ((allDefs P).map defKey).Nodup) :
    Cyc.ifaceLoopErrors (Cyc.igraphOfProgram P) = [] ↔ Cyc.ifaceLoopErrors (Cyc.igraphOfProgram P') = [] :=
  ifaceLoop_nil_perm hp (.of_perm hp hu) hnd

/-- **the alias gate, position-free.** In a program `validate` accepts, `revisits_anonymous_type` reports no alias exactly
    when the flattening descent into the underlying type of every alias definition ends (`trefWithin`: through the written
    anonymous types and, where a name resolves through aliases to a written type, on into that type — a function of the
    name table only, no positions). "Silent ⇒ the descent is bounded" is C08's `accepted_descent_is_bounded`; the converse —
    a reachable cycle of anonymous types carries walks of every length, and the descent follows every walk — is
    `unbounded_below_cycle` (Lemmas/AliasGraph.lean). -/
theorem alias_gate_iff_descent_ends (P : Program) (hacc : validate P = []) :
    Cyc.aliasGateErrors P = [] ↔ ∀ a ∈ Cyc.aliasDefs P, ∃ F, trefWithin (buildTable P) a.2.1 F a.2.2 = true := by
  -- the number of reports is the number of aliases into which the descent does not end
  rw [← List.length_eq_zero_iff, aliasGateErrors_length P (accepted_aliasKeys_nodup P hacc) (accepted_refsOK P hacc),
    List.countP_eq_zero]
  simp only [decide_eq_true_eq, Classical.not_not]

/-- … and the descent is the same function on the tables of both orders: the alias gate is silent in one order exactly when it
    is silent in the other (programs `validate` accepts — in one order, hence in both). -/
theorem alias_gate_order_independent (P P' : Program) (hp : P.Perm P') (hu : UniqueKeys P) (hacc : validate P = []) :
    Cyc.aliasGateErrors P = [] ↔ Cyc.aliasGateErrors P' = [] :=
  aliasGate_nil_perm hp (.of_perm hp hu) hacc

/-- **the complete verdict does not depend on the order of the files**, under the side condition `UniqueKeys`. -/
theorem verdict_full_order_independent (P P' : Program) (hp : P.Perm P') (hu : UniqueKeys P) :
    validateFull P = [] ↔ validateFull P' = [] :=
  ⟨validateFull_nil_perm hp (.of_perm hp hu), validateFull_nil_perm hp.symm (.of_perm hp.symm (hu.perm hp))⟩

/-- **the complete verdict does not depend on the order of the files — no side condition**: for every program whose names are
    identifiers (everything a source text can denote) and every order of its files, the complete front end — parser checks
    incl. the shape of bases and underlying types, attribute patching, resolution, alias gate, inheritance and containment
    cycles, redefinitions, validating visitor — accepts in one order exactly when it accepts in the other. -/
theorem verdict_full_order_independent_of_identifiers (P P' : Program) (hp : P.Perm P') (hid : IdentNames P) :
    validateFull P = [] ↔ validateFull P' = [] :=
  ⟨fun h => validateFull_nil_perm hp (.of_perm hp (accepted_programs_have_unique_keys P hid (C04.accepted_full_accepted P h))) h,
   fun h => validateFull_nil_perm hp.symm
     (.of_perm hp.symm (accepted_programs_have_unique_keys P' (hid.perm hp) (C04.accepted_full_accepted P' h))) h⟩

/-- the same on the specification side (C04 `accept_iff_full`) -/
theorem wellFormedFull_order_independent (P P' : Program) (hp : P.Perm P') (hid : IdentNames P) :
    WellFormedFull P ↔ WellFormedFull P' := by
  rw [← C04.accept_iff_full, ← C04.accept_iff_full]
  exact verdict_full_order_independent_of_identifiers P P' hp hid

/-- **the second sentence of the property for the complete front end.** For every program whose names are identifiers, every
    order `P'` of its files and every list `cli` of `--allow` values: the complete verdict is the same, and for an accepted
    program every file's compiled content and the multiset of warnings (each with its file and emitted level) are. -/
theorem input_order_independent_full (cli : List String) (P P' : Program) (hp : P.Perm P') (hid : IdentNames P) :
    (validateFull P = [] ↔ validateFull P' = []) ∧
    (validateFull P = [] →
      (∀ f, fileS (buildTable P) f = fileS (buildTable P') f) ∧
      ((lintSites P).map fun s => (s.located P, emittedLevel cli P s)).Perm
        ((lintSites P').map fun s => (s.located P', emittedLevel cli P' s))) :=
  ⟨verdict_full_order_independent_of_identifiers P P' hp hid,
   fun h => ((input_order_independent cli P P' hp hid).2 (C04.accepted_full_accepted P h))⟩

/-- **what the alias gate reports, alias by alias, position-free.** In a program whose alias keys are pairwise distinct and
    whose references resolve — accepted or not —, the number of E019 diagnostics of the alias gate is the number of alias
    definitions into whose underlying type the flattening descent does not end. -/
theorem alias_gate_count_position_free (P : Program) (hnd : ((allDefs P).map defKey).Nodup) (hr : resolveCodes P = []) :
    (Cyc.aliasGateErrors P).length =
      (Cyc.aliasDefs P).countP fun al =>
        @decide (¬ ∃ F, trefWithin (buildTable P) al.2.1 F al.2.2 = true) (Classical.propDecidable _) :=
  aliasGateErrors_length P (.of_defKeys hnd) (.of_codes hr)

/-- … so the alias gate reports the same NUMBER of aliases in every order of the files (it is only reached when the
    references resolve, which then holds in both orders). -/
theorem alias_gate_count_order_independent (P P' : Program) (hp : P.Perm P') (hu : UniqueKeys P)
    (hnd : ((allDefs P).map defKey).Nodup) (hr : resolveCodes P = []) :
    (Cyc.aliasGateErrors P).length = (Cyc.aliasGateErrors P').length :=
  aliasGateErrors_length_perm hp (.of_perm hp hu) hnd hr

/-- the inheritance check reports the same NUMBER of interfaces in every order: the interface definitions whose key lies on a
    loop of the graph on keys -/
theorem inheritance_count_order_independent (P P' : Program) (hp : P.Perm P') (hu : UniqueKeys P)
    (hnd : ((allDefs P).map defKey).Nodup) :
    (Cyc.ifaceLoopErrors (Cyc.igraphOfProgram P)).length = (Cyc.ifaceLoopErrors (Cyc.igraphOfProgram P')).length :=
  ifaceLoopErrors_length_perm hp (.of_perm hp hu) hnd

/-- the multiset of codes of the complete pipeline under `UniqueKeys` ALONE — FULL STATEMENT, not proved. `UniqueKeys` allows
    two definitions of ONE file to share their key (`typealias A = …` twice in a file); C05's models of the alias gate and
    of the inheritance check identify definitions by position AND by key (`idxOf`: the first definition with the key), and
    for such programs the position-free characterisations used below are not available ("programs whose type names are
    unique" is the stated domain of C05). The property does not speak of the codes of a rejected program. -/
def error_codes_full_order_independent : Prop :=
  ∀ P P' : Program, P.Perm P' → UniqueKeys P → (validateFull P).Perm (validateFull P')

/-- **the error codes of the complete pipeline** — what is proved of the statement above: with, in addition, pairwise
    distinct definition keys (`((allDefs P).map defKey).Nodup`, decidable; part of `DistinctDefinitions`), the codes reported for
    the permuted program are a permutation of the codes reported for the original: the same phase is the first to report —
    parser checks incl. the shape of bases / underlying types, attributes, resolution, alias gate, inheritance + containment
    cycles, redefinitions, visitor — and it reports the same codes the same number of times. -/
theorem error_codes_full_order_independent_partial (P P' : Program) (hp : P.Perm P') (hu : UniqueKeys P)
    (hnd : ((allDefs P).map defKey).Nodup) : (validateFull P).Perm (validateFull P') :=
  validateFull_perm hp (.of_perm hp hu) hnd

/-- … in particular for programs whose names are identifiers and whose definitions are distinct (`DistinctDefinitions`) -/
theorem error_codes_full_order_independent_of_distinct_definitions (P P' : Program) (hp : P.Perm P') (hid : IdentNames P)
    (h : DistinctDefinitions P) : (validateFull P).Perm (validateFull P') :=
  validateFull_perm hp (.of_perm hp (uniqueKeys_of_distinct_definitions P hid h)) h.2.1

/-- … hence the same set of codes and the same `codes` projection string the `compile` engine compares -/
theorem codes_projection_full_order_independent (P P' : Program) (hp : P.Perm P') (hu : UniqueKeys P)
    (hnd : ((allDefs P).map defKey).Nodup) :
    (∀ c, c ∈ validateFull P ↔ c ∈ validateFull P') ∧ codesProjection (validateFull P) = codesProjection (validateFull P') :=
  have h := validateFull_perm hp (.of_perm hp hu) hnd
  ⟨fun _ => h.mem_iff, codesProjection_perm_eq h⟩

/-! ## what happens without `UniqueKeys` -/

def mkFile (m : String) (defs : List Def) : SFile := { fileAttrs := [], module := some ⟨[], m⟩, defs := defs }
def fld (n : String) (t : TyExpr) : Field := { doc := [], attrs := [], tag := none, name := n, ty := .mk [] t false }
def prm (n : String) (t : TyExpr) : Param := { attrs := [], tag := none, name := n, stream := false, ty := .mk [] t false }

/-- `module M  struct S {}` / `module M  interface S {}` / `module M  struct U { f: S }` -/
def clashFiles : List SFile :=
  [mkFile "M" [.struct [] [] false "S" []], mkFile "M" [.iface [] [] "S" [] []], mkFile "M" [.struct [] [] false "U" [fld "f" (.named "S")]]]

/-- **`UniqueKeys` cannot be dropped from `error_set_order_independent`.** Two files define `M::S`, once as a struct and
    once as an interface; a third uses `S` as a field type. The program is rejected in every order (the redefinition rule
    sees the clash in any order — this is what the repairs of D-15a/b achieved for the verdict), but *with which code*
    depends on the last writer of the key: if the interface is parsed last the reference fails to resolve as a type
    (E017, and the compilation stops before the redefinition scan); if the struct is parsed last it resolves and the
    redefinition scan reports E010. -/
theorem unique_keys_needed_for_error_set :
    IdentNames clashFiles ∧ ¬ UniqueKeys clashFiles ∧
    validate [clashFiles[0]!, clashFiles[1]!, clashFiles[2]!] = [code "TypeMismatch"] ∧
    validate [clashFiles[1]!, clashFiles[0]!, clashFiles[2]!] = [code "Redefinition"] := by
  decide +kernel

/-- `struct S { t: T }` / `struct S {}` / `struct T { s: S }` / `struct T {}`, all in `module M` -/
def cycleClashFiles : List SFile :=
  [mkFile "M" [.struct [] [] false "S" [fld "t" (.named "T")]], mkFile "M" [.struct [] [] false "S" []],
   mkFile "M" [.struct [] [] false "T" [fld "s" (.named "S")]], mkFile "M" [.struct [] [] false "T" []]]

/-- the cycle gate, too, sees the last writer of a duplicated key: with both empty variants parsed last no cycle is found
    and the redefinitions are reported; with the variants that refer to each other parsed last the cycle is reported and the
    redefinition scan is never reached. Rejected either way. -/
theorem unique_keys_needed_for_error_set_cycle :
    IdentNames cycleClashFiles ∧ ¬ UniqueKeys cycleClashFiles ∧
    validate [cycleClashFiles[0]!, cycleClashFiles[1]!, cycleClashFiles[2]!, cycleClashFiles[3]!] = [code "Redefinition", code "Redefinition"] ∧
    validate [cycleClashFiles[1]!, cycleClashFiles[0]!, cycleClashFiles[3]!, cycleClashFiles[2]!] = [code "InfiniteSizeCycle"] := by
  decide +kernel

/-- a "definition" named `S::x` (expressible in the abstract syntax only: the grammar admits no `::` in the name of a
    definition) next to a struct `S` with a field `x`, and a user of `S::x` -/
def oddFiles : List SFile :=
  [mkFile "M" [.struct [] [] false "S::x" []], mkFile "M" [.struct [] [] false "S" [fld "x" (.prim .bool)]],
   mkFile "M" [.struct [] [] false "U" [fld "f" (.named "S::x")]]]

/-- **… nor from `verdict_order_independent`, on the model.** The redefinition rule compares definitions with definitions
    and with modules; it does not compare a *member's* scoped name with a definition's. The only way to make those two
    collide without also tripping the redefinition rule is a definition whose name contains `::` — which no source text
    can produce. On such an abstract program the verdict does depend on the order: the key `M::S::x` is the struct in one
    order and the field (not a type) in the other. For programs that can be written, every key clash between different
    files implies a redefinition or a definition named like a module, which is rejected in every order. -/
theorem unique_keys_needed_for_verdict_on_abstract_syntax :
    ¬ IdentNames oddFiles ∧ ¬ UniqueKeys oddFiles ∧
    validate [oddFiles[1]!, oddFiles[0]!, oddFiles[2]!] = [] ∧
    validate [oddFiles[0]!, oddFiles[1]!, oddFiles[2]!] = [code "TypeMismatch"] := by
  decide +kernel

/-- the excluded case of part 1 is real (D-15a): `module A::B` in one file and `struct B` in `module A` of another share
    the key `A::B`; whichever file comes last wins the table, so a reference to `B` resolves to the struct in
    one order and to the module (a type mismatch) in the other. -/
theorem key_clash_is_order_dependent :
    let f1 : SFile := { fileAttrs := [], module := some ⟨[], "A::B"⟩, defs := [.struct [] [] false "X" []] }
    let f2 : SFile := { fileAttrs := [], module := some ⟨[], "A"⟩, defs := [.struct [] [] false "B" []] }
    ((buildTable [f1, f2]).find "A::B").map (·.kind) = some .struct ∧
    ((buildTable [f2, f1]).find "A::B").map (·.kind) = some .module := by
  decide +kernel

/-! ## non-vacuity -/

/-- part 1: two files with distinct names -/
example :
    let f1 : SFile := { fileAttrs := [], module := some ⟨[], "M"⟩, defs := [.struct [] [] false "S" []] }
    let f2 : SFile := { fileAttrs := [], module := some ⟨[], "N"⟩, defs := [.custom [] [] "C"] }
    (buildTableIdx [(f1, 0), (f2, 1)]).keys.Nodup := by decide +kernel

/-- `module A  struct X { y: B::Y }` — refers to the second file -/
def g1 : SFile := mkFile "A" [.struct [] [] false "X" [fld "y" (.named "B::Y")]]
/-- `module A::B  struct Y { w: ::C::W }  typealias T = X` — refers to the third file, and (outward scope search) to the first -/
def g2 : SFile := mkFile "A::B" [.struct [] [] false "Y" [fld "w" (.named "::C::W")], .alias [] [] "T" (.mk [] (.named "X") false)]
/-- `module C  enum W : uint8 { P }  interface I { op(x: A::B::T) }` — refers to the second file through an alias of the first -/
def g3 : SFile := mkFile "C"
  [.enum [] [] false false "W" (some (.mk [] (.prim .uint8) false)) [{ doc := [], attrs := [], name := "P", fields := none, value := none }],
   .iface [] [] "I" [] [{ doc := [], attrs := [], idempotent := false, name := "op", params := [prm "x" (.named "A::B::T")], ret := .none }]]

private theorem g123_uniqueKeys : UniqueKeys [g1, g2, g3] := by decide +kernel
private theorem g123_identNames : IdentNames [g1, g2, g3] := by decide +kernel
private theorem g123_accepted_full : validateFull [g1, g2, g3] = [] := by decide +kernel
private theorem g123_accepted : validate [g1, g2, g3] = [] := C04.accepted_full_accepted _ g123_accepted_full

private theorem g123_accepted_of_perm {P : Program} (hp : [g1, g2, g3].Perm P) : validate P = [] :=
  (verdict_order_independent_of_identifiers _ P hp g123_identNames).mp g123_accepted

private theorem g312_perm : [g1, g2, g3].Perm [g3, g1, g2] := List.perm_append_comm (l₁ := [g1, g2]) (l₂ := [g3])

/-- a three-file program with references across the files satisfies the side conditions and is accepted in all six orders … -/
example : UniqueKeys [g1, g2, g3] ∧ IdentNames [g1, g2, g3] := ⟨g123_uniqueKeys, g123_identNames⟩
example : validate [g1, g2, g3] = [] ∧ validate [g1, g3, g2] = [] ∧ validate [g2, g1, g3] = [] ∧
          validate [g2, g3, g1] = [] ∧ validate [g3, g1, g2] = [] ∧ validate [g3, g2, g1] = [] :=
  ⟨g123_accepted, g123_accepted_of_perm (.cons _ (.swap _ _ _)), g123_accepted_of_perm (.swap _ _ _),
   g123_accepted_of_perm (List.perm_append_comm (l₁ := [g1]) (l₂ := [g2, g3])),
   g123_accepted_of_perm g312_perm,
   g123_accepted_of_perm (List.reverse_perm [g3, g2, g1])⟩
/-- … one order follows from another by the theorem -/
example : validate [g2, g1, g3] = [] :=
  (verdict_order_independent [g1, g2, g3] [g2, g1, g3] (List.Perm.swap _ _ _) g123_uniqueKeys).mp g123_accepted
/-- … without checking the side condition `UniqueKeys`: the names are identifiers -/
example : validate [g3, g1, g2] = [] :=
  (verdict_order_independent_of_identifiers [g1, g2, g3] [g3, g1, g2] g312_perm g123_identNames).mp g123_accepted
/-- … and it is rejected, whatever the order, without the file the others depend on -/
example : validate [g1, g3] ≠ [] ∧ validate [g3, g1] ≠ [] := by
  decide +kernel

/-- a rejected program with distinct definitions (a reference to a type that does not exist): the side conditions hold, and
    the codes agree in both orders as `error_codes_order_independent_of_distinct_definitions` says -/
example :
    let f1 := mkFile "M" [.struct [] [] false "S" [fld "a" (.named "Nope")]]
    let f2 := mkFile "N" [.custom [] [] "C"]
    IdentNames [f1, f2] ∧ DistinctDefinitions [f1, f2] ∧ validate [f1, f2] = [code "DoesNotExist"] ∧ validate [f2, f1] = [code "DoesNotExist"] := by
  decide +kernel

/-- a rejected program under the side condition: a containment cycle through two files, same code in both orders -/
example :
    let f1 := mkFile "M" [.struct [] [] false "S" [fld "a" (.named "T")]]
    let f2 := mkFile "M" [.struct [] [] false "T" [fld "b" (.named "S")]]
    UniqueKeys [f1, f2] ∧ validate [f1, f2] = [code "InfiniteSizeCycle"] ∧ validate [f2, f1] = [code "InfiniteSizeCycle"] := by
  decide +kernel

/-- the side condition is weaker than "all keys of the table distinct": two files re-open module `M` (here with different
    attributes), and an operation has a parameter and a return member of the same name (accepted by the compiler; two
    entries under the key `M::I::op::a`) -/
def opSameNames : Def :=
  .iface [] [] "I" [] [{ doc := [], attrs := [], idempotent := false, name := "op", params := [prm "a" (.prim .bool)],
                         ret := .tuple [prm "a" (.prim .bool), prm "b" (.prim .bool)] }]
example :
    let f1 : SFile := { fileAttrs := [], module := some ⟨[⟨"cs::x", []⟩], "M"⟩, defs := [opSameNames] }
    let f2 := mkFile "M" [.struct [] [] false "S" []]
    UniqueKeys [f1, f2] ∧ ¬ (buildTable [f1, f2]).keys.Nodup := by
  decide +kernel
example :
    let f1 := mkFile "M" [opSameNames]
    let f2 := mkFile "M" [.struct [] [] false "S" []]
    UniqueKeys [f1, f2] ∧ ¬ (buildTable [f1, f2]).keys.Nodup ∧ validate [f1, f2] = [] ∧ validate [f2, f1] = [] := by
  decide +kernel

/-- lints: a deprecated struct of one file used in two others, one lint per use, located in the using file, in both orders -/
example :
    let f1 := mkFile "M" [.struct [] [⟨"deprecated", []⟩] false "Old" []]
    let f2 := mkFile "M" [.struct [] [] false "A" [fld "x" (.named "Old")]]
    let f3 := mkFile "N" [.struct [] [] false "B" [fld "y" (.named "M::Old")]]
    UniqueKeys [f1, f2, f3] ∧
    (lintSites [f1, f2, f3]).map (fun s => (s.kind, s.file, s.scope)) = [("Deprecated", 1, some "M::A::x"), ("Deprecated", 2, some "N::B::y")] ∧
    (lintSites [f3, f1, f2]).map (fun s => (s.kind, s.file, s.scope)) = [("Deprecated", 0, some "N::B::y"), ("Deprecated", 2, some "M::A::x")] := by
  decide +kernel

/-! ### the complete verdict -/

/-- `module M  interface A : B {}` / `module M  interface B : A {}`: an inheritance loop across two files -/
def loopFiles : List SFile :=
  [mkFile "M" [.iface [] [] "A" [.mk [] (.named "B") false] []], mkFile "M" [.iface [] [] "B" [.mk [] (.named "A") false] []]]
/-- `module M  typealias A = Sequence<N::B>` / `module N  typealias B = Dictionary<int32, M::A>`: an alias loop across two files -/
def aliasLoopFiles : List SFile :=
  [mkFile "M" [.alias [] [] "A" (.mk [] (.seq (.mk [] (.named "N::B") false)) false)],
   mkFile "N" [.alias [] [] "B" (.mk [] (.dict (.mk [] (.prim .int32) false) (.mk [] (.named "M::A") false)) false)]]

/-- both are accepted by `validate` and rejected by the complete pipeline, in both orders, with the same codes -/
example : validate loopFiles = [] ∧ validateFull loopFiles = [code "InfiniteSizeCycle", code "InfiniteSizeCycle"] ∧
    validateFull loopFiles.reverse = [code "InfiniteSizeCycle", code "InfiniteSizeCycle"] := by
  decide +kernel
example : validate aliasLoopFiles = [] ∧
    validateFull aliasLoopFiles = [code "SelfReferentialTypeAliasNeedsConcreteType", code "SelfReferentialTypeAliasNeedsConcreteType"] ∧
    validateFull aliasLoopFiles.reverse = [code "SelfReferentialTypeAliasNeedsConcreteType", code "SelfReferentialTypeAliasNeedsConcreteType"] := by
  decide +kernel
/-- the three-file program above is accepted by the complete pipeline in one order, hence — by the theorem — in another -/
example : validateFull [g3, g1, g2] = [] :=
  (verdict_full_order_independent_of_identifiers [g1, g2, g3] [g3, g1, g2] g312_perm g123_identNames).mp g123_accepted_full
/-- the multiset theorem applied: the codes of the two loops agree in both orders without evaluating the second order -/
example : (validateFull loopFiles).Perm (validateFull loopFiles.reverse) :=
  error_codes_full_order_independent_partial _ _ (List.reverse_perm _).symm (by decide +kernel) (by decide +kernel)
example : (validateFull aliasLoopFiles).Perm (validateFull aliasLoopFiles.reverse) :=
  error_codes_full_order_independent_of_distinct_definitions _ _ (List.reverse_perm _).symm (by decide +kernel) (by decide +kernel)
/-- the key-level inheritance graph of the loop: `M::A → M::B → M::A` -/
example : KReach (BaseStep loopFiles) "M::A" "M::A" :=
  .cons (b := "M::B") (by unfold BaseStep; decide +kernel) (.single (by unfold BaseStep; decide +kernel))

end Slicec.C15

#print axioms Slicec.C15.hash_uses_order_free
#print axioms Slicec.C15.buildTable_eq
#print axioms Slicec.C15.table_perm
#print axioms Slicec.C15.lookup_order_independent
#print axioms Slicec.C15.scope_search_order_independent
#print axioms Slicec.C15.resolution_order_independent
#print axioms Slicec.C15.key_clash_is_order_dependent
#print axioms Slicec.C15.uniqueKeys_perm
#print axioms Slicec.C15.name_table_order_independent
#print axioms Slicec.C15.resolution_order_independent_files
#print axioms Slicec.C15.definition_lookup_order_independent
#print axioms Slicec.C15.cycle_gate_order_independent
#print axioms Slicec.C15.redefinition_scan_order_independent
#print axioms Slicec.C15.rule_contexts_order_independent
#print axioms Slicec.C15.error_codes_order_independent
#print axioms Slicec.C15.verdict_order_independent
#print axioms Slicec.C15.error_set_order_independent
#print axioms Slicec.C15.codes_projection_order_independent
#print axioms Slicec.C15.wellFormed_order_independent
#print axioms Slicec.C15.compiled_content_order_independent
#print axioms Slicec.C15.lint_sites_order_independent
#print axioms Slicec.C15.lint_kinds_order_independent
#print axioms Slicec.C15.emitted_warnings_order_independent
#print axioms Slicec.C15.uniqueKeys_of_distinct_definitions
#print axioms Slicec.C15.error_codes_order_independent_of_distinct_definitions
#print axioms Slicec.C15.accepted_programs_have_unique_keys
#print axioms Slicec.C15.verdict_order_independent_of_identifiers
#print axioms Slicec.C15.accepted_warnings_order_independent
#print axioms Slicec.C15.input_order_independent
#print axioms Slicec.C15.early_rejection_order_independent
#print axioms Slicec.C15.unique_keys_needed_for_error_set
#print axioms Slicec.C15.unique_keys_needed_for_error_set_cycle
#print axioms Slicec.C15.unique_keys_needed_for_verdict_on_abstract_syntax
#print axioms Slicec.C15.parse_phase_full_order_independent
#print axioms Slicec.C15.inheritance_loop_iff_key_loop
#print axioms Slicec.C15.inheritance_check_order_independent
#print axioms Slicec.C15.alias_gate_iff_descent_ends
#print axioms Slicec.C15.alias_gate_order_independent
#print axioms Slicec.C15.verdict_full_order_independent
#print axioms Slicec.C15.verdict_full_order_independent_of_identifiers
#print axioms Slicec.C15.wellFormedFull_order_independent
#print axioms Slicec.C15.input_order_independent_full
#print axioms Slicec.C15.alias_gate_count_position_free
#print axioms Slicec.C15.alias_gate_count_order_independent
#print axioms Slicec.C15.inheritance_count_order_independent
#print axioms Slicec.C15.error_codes_full_order_independent_partial
#print axioms Slicec.C15.error_codes_full_order_independent_of_distinct_definitions
#print axioms Slicec.C15.codes_projection_full_order_independent
