/-
  C08 — The encoded generator request is decodable and says what the AST says.

  Objects: `convert` / `encodeRequest` (Model/Request.lean) mirror slice_file_converter.rs / definition_types.rs /
  `encode_generate_code_request`; their field orders, discriminants and request shape are the tables of
  `Gen.EncoderShapes`, regenerated from the Rust source on every run. `decodeBySchema` / `decodeCall`
  (Model/SchemaCodec.lean) is a generic Slice reader driven by `Gen.CompilerSchema`, regenerated from
  slice/Compiler/*.slice by an independent mini-parser. The model's bytes are compared byte for byte with the real
  encoder's on every run (Drv/C08.lean, harness/src/proj_c08.rs, procrun/c08.py).
-/
import SlicecVerif.Lemmas.Request
import SlicecVerif.Lemmas.RequestContent
import SlicecVerif.Lemmas.RequestFromVal
import SlicecVerif.Lemmas.RequestBridge
import SlicecVerif.Lemmas.PipelineBridge

namespace Slicec.C08

open Slicec

/-! ## the two sources agree on shapes (generated obligations) -/

/-- Rust `snake_case` → Slice `camelCase` -/
def camelCase (s : String) : String :=
  let rec go : List Char → Bool → List Char
    | [], _ => []
    | '_' :: cs, _ => go cs true
    | c :: cs, up => (if up then c.toUpper else c) :: go cs false
  String.ofList (go s.toList false)

def schemaFieldNames (n : String) : Option (List String) :=
  (Gen.schemaStructs.find? (fun s => s.name == n)).map fun s => s.fields.map (·.name)

/-- For every struct encoded by `implement_encode_into_for_struct!`, the macro's field list — the order in which the
    fields are written — is exactly the field order of the struct of the same name in slice/Compiler/*.slice. -/
theorem field_order_matches_schema :
    ∀ e ∈ Gen.macroEncoders, schemaFieldNames e.1 = some (e.2.map camelCase) := by decide +kernel

/-- …and the macro lists the fields, by name, in the order the Rust struct declares them. -/
theorem macro_order_is_declaration_order :
    ∀ e ∈ Gen.macroEncoders, (Gen.rustStructs.find? (fun s => s.name == e.1)).map (fun s => s.fields.map (·.1)) = some e.2 := by
  decide +kernel

/-- The `encoder.encode*` calls of the five hand-written encoders, in textual order, as extracted from the Rust source: the
    bit-sequence bool first, the fields in schema order, the optional field, the tag end marker last; discriminant,
    payload, tag end marker for the two enums; size then pairs for the arguments. The table is compared with this literal
    only; what ties `encodeEntityInfo`, `encodeField`, `encodeMsgComp` and `encodeSymbol` to the schema is
    `mirror_*` (Lemmas/Request.lean). -/
theorem manual_encoder_shapes :
    Gen.manualEncoders =
      [("EntityInfo", ["encode:self.comment.is_some()", "encode:&self.identifier", "encode:&self.attributes", "encode:comment_value", "encode_varint:TAG_END_MARKER"]),
       ("Field", ["encode:self.tag.is_some()", "encode:&self.entity_info", "encode_varint:tag_value", "encode:&self.data_type", "encode_varint:TAG_END_MARKER"]),
       ("MessageComponent", ["encode_varint:discriminant", "encode:v", "encode:v", "encode_varint:TAG_END_MARKER"]),
       ("Arguments", ["encode_size:self.0.len()", "encode:e1", "encode:e2"]),
       ("Symbol", ["encode_varint:discriminant", "encode:v", "encode:v", "encode:v", "encode:v", "encode:v", "encode:v", "encode:v", "encode:v", "encode:v", "encode_varint:TAG_END_MARKER"])] ∧
    Gen.encoderTagEndMarker = Gen.tagEndMarker := by decide +kernel

def rustDiscriminants (n : String) : Option (List (String × Int)) :=
  (Gen.rustEnums.find? (fun e => e.name == n)).map fun e => e.variants.map fun v => (v.name, (v.disc : Int))

def schemaDiscriminants (n : String) : Option (List (String × Int)) :=
  (Gen.schemaEnums.find? (fun e => e.name == n)).map fun e => (e.variants.map (·.name)).zip (variantValues 0 e.variants)

/-- The `repr(u8)` discriminants of the two enums that travel in the request are the enumerator values of the schema
    (same names, same order, same numbers). -/
theorem discriminants_match_schema :
    ∀ n ∈ ["Symbol", "MessageComponent"], rustDiscriminants n = schemaDiscriminants n ∧ (rustDiscriminants n).isSome := by decide +kernel

/-- The request is the operation name of the schema's only operation, then its first two parameters — sources before
    references — and the generator's arguments are its third parameter. -/
theorem request_shape_matches_schema :
    Gen.schemaOps.map (fun o => (o.name, o.params.map (·.name))) = [(Gen.requestOpName, ["sourceFiles", "referenceFiles", "args"])] ∧
    Gen.requestVectors = ["sources", "references"] ∧ Gen.requestThenArguments = true := by decide +kernel

/-! ## numeric type ids -/

/-- Every numeric type id `j` emitted for symbol `i` of a transmitted file satisfies `j < i`, and symbol `j` of that file
    is a Sequence / Dictionary / Result symbol. For every program, every source/reference split, either reading of the
    parameter documentation. (Induction over the conversion, which threads the growing symbol vector.) -/
theorem numeric_ids_backward (mode : DocMode) (fs : List ReqFile) (srcs refs : List SliceFileV)
    (h : convert mode fs = some (srcs, refs)) :
    ∀ f ∈ srcs ++ refs, ∀ (i : Nat) (s : SymbolV), f.contents[i]? = some s → ∀ r ∈ s.trefs, ∀ j, r.typeId = .anon j →
      j < i ∧ ∃ s', f.contents[j]? = some s' ∧ s'.isAnon = true := by
  intro f hf
  obtain ⟨rf, _, hc⟩ := convert_mem h hf
  exact (convertFile_spec mode _ rf f hc).2.1

/-- a numeric id is written in decimal digits only, so a reader can tell it from every keyword and scoped identifier
    (which start with a letter or `:`) -/
theorem numeric_id_is_decimal (j : Nat) : (toString j).toList.all Char.isDigit = true ∧ (toString j).toList ≠ [] := by
  rw [show (toString j).toList = Nat.toDigits 10 j from Nat.toList_repr]
  exact ⟨List.all_eq_true.mpr fun _ hc => Nat.isDigit_of_mem_toDigits (by decide) (by decide) hc, Nat.toDigits_ne_nil⟩

/-! ## the stream decodes, field by field according to the schema -/

/-- Generic: for EVERY schema and trailing bytes, and every type and value the schema-driven writer accepts, the
    schema-driven reader gives back what the writer wrote and leaves exactly the trailing bytes. (The writer refuses, with
    `none`, sequences and dictionaries of optionals, optional aliases, tagged or streamed fields and enumerations with an
    underlying type; the request uses none of them.) -/
theorem schema_codec_roundtrip (S : Schema) (fuel : Nat) (ty : Gen.STy) (v : SVal) (bs rest : Bytes)
    (h : encTy S fuel ty v = some bs) : decTy S fuel ty (bs ++ rest) = .ok (v, rest) :=
  decTy_encTy S fuel ty v bs rest h

/-- leaf round trips through the schema decoder: what the Rust-order encoder of an `Attribute` writes, read as the
    schema's `Attribute`, is that attribute, with exact consumption -/
theorem attribute_roundtrip (a : AttributeV) (bs rest : Bytes) (h : encodeAttribute a = some bs) :
    decodeBySchema CS "Attribute" (bs ++ rest) = .ok (toValAttribute a, rest) :=
  decTy_encTy _ _ _ _ _ _ ((mirror_Attribute _ a).trans h)

theorem typeRef_roundtrip (r : TypeRefV) (bs rest : Bytes) (h : encodeTypeRef r = some bs) :
    decodeBySchema CS "TypeRef" (bs ++ rest) = .ok (toValTypeRef r, rest) :=
  decTy_encTy _ _ _ _ _ _ ((mirror_TypeRef _ r).trans h)

theorem docComment_roundtrip (d : DocCommentV) (bs rest : Bytes) (h : encodeDocComment d = some bs) :
    decodeBySchema CS "DocComment" (bs ++ rest) = .ok (toValDocComment d, rest) :=
  decTy_encTy _ _ _ _ _ _ ((mirror_DocComment _ d).trans h)

/-- optional field through the bit sequence: `comment` present or absent -/
theorem entityInfo_roundtrip (e : EntityInfoV) (bs rest : Bytes) (h : encodeEntityInfo e = some bs) :
    decodeBySchema CS "EntityInfo" (bs ++ rest) = .ok (toValEntityInfo e, rest) :=
  decTy_encTy _ _ _ _ _ _ ((mirror_EntityInfo _ e).trans h)

/-- optional `tag: varint32?` in the middle of the field list -/
theorem field_roundtrip (f : FieldV) (bs rest : Bytes) (h : encodeField f = some bs) :
    decodeBySchema CS "Field" (bs ++ rest) = .ok (toValField f, rest) :=
  decTy_encTy _ _ _ _ _ _ ((mirror_Field _ f).trans h)

/-- variants: varint discriminant, the payload as a struct body, tag end marker -/
theorem symbol_roundtrip (s : SymbolV) (bs rest : Bytes) (h : encodeSymbol s = some bs) :
    decodeBySchema CS "Symbol" (bs ++ rest) = .ok (toValSymbol s, rest) :=
  decTy_encTy _ _ _ _ _ _ ((mirror_Symbol _ s).trans h)

theorem sliceFile_roundtrip (f : SliceFileV) (bs rest : Bytes) (h : encodeSliceFile f = some bs) :
    decodeBySchema CS "SliceFile" (bs ++ rest) = .ok (toValSliceFile f, rest) :=
  decTy_encTy _ _ _ _ _ _ ((mirror_SliceFile _ f).trans h)

/-- The whole request: read as a call of `generateCode` — the operation name, then `sourceFiles`, then
    `referenceFiles`, each according to the schema — the stream decodes completely into the request's content and what
    is left over is exactly what was appended after it (the generator's arguments): nothing of the request is left
    before them and nothing of them is consumed. For every request value the encoder accepts. -/
theorem request_decodes (srcs refs : List SliceFileV) (bs args : Bytes) (h : encodeRequest srcs refs = some bs) :
    decodeCall CS "generateCode" 2 (bs ++ args) = .ok (toValRequest srcs refs, args) :=
  request_roundtrip srcs refs bs args h

/-! ## the decoded content is the compiled program's -/

/-- For every compiled program, every source/reference split and every argument bytes, the stream decodes (completely, up to the arguments) into the
    untyped image of `(sources, references)`, where the two lists are — in compilation order, split by the source flag —
    the conversions of exactly the transmitted files (all files, minus those without a module declaration), and each
    converted file carries its path as given, its module's identifier and attributes, its file attributes, and in
    `contents` one named symbol per definition, same kind and identifier, in definition order (anonymous-type symbols in
    between). What each symbol says about its definition (members, flags, tags, values, type references, comments) is
    the subject of `content_read_back` / `content_faithful` below. -/
theorem content_faithful_partial (mode : DocMode) (fs : List ReqFile) (srcs refs : List SliceFileV) (bs args : Bytes)
    (hc : convert mode fs = some (srcs, refs)) (he : encodeRequest srcs refs = some bs) :
    decodeCall CS "generateCode" 2 (bs ++ args) = .ok (toValRequest srcs refs, args) ∧
    ∃ vs : List (Bool × SliceFileV),
      AllPairs (fun rf p => p.1 = rf.isSource ∧ Described mode (buildTable (programOf fs)) rf p.2) (transmitted fs) vs ∧
      srcs = (vs.filter (·.1)).map (·.2) ∧ refs = (vs.filter (fun x => !x.1)).map (·.2) := by
  obtain ⟨vs, hvs, hs, hr⟩ := convert_some hc
  exact ⟨request_roundtrip srcs refs bs args he, vs, convertAll_described mode _ fs vs hvs, hs, hr⟩

/-- the untyped image determines an attribute -/
theorem toValAttribute_injective (a b : AttributeV) (h : toValAttribute a = toValAttribute b) : a = b :=
  Option.some.inj (by rw [← fromVal_Attribute a, h, fromVal_Attribute b])

/-- **Documentation of return values reaches the generator.** The conversion the current source implements
    (`DocMode.current`, read off `get_doc_comment_for_parameter` by the translator) is the one the property demands: parameters
    are documented by the `@param` tags, return members by the `@returns` tags (by identifier; an unnamed `@returns` documents
    the return member of an operation that has exactly one). From a source whose `get_doc_comment_for_parameter` looks at the
    `@param` tags only (defect D-08a) the translator extracts `.asImplemented`, and this theorem does not compile. -/
theorem return_docs_as_demanded : DocMode.current = .asDemanded := by decide

theorem content_faithful_docs (fs : List ReqFile) : convert DocMode.current fs = convert .asDemanded fs := by
  rw [return_docs_as_demanded]

/-- the two modes really differ: on `@returns`-documented operations `.asImplemented` loses the text -/
example : paramDoc .asImplemented [] "M::I::op" (some { overview := none, params := [], returns := [(none, [.text "x"])], sees := [] }) true true "returnValue" = none
    ∧ (paramDoc .asDemanded [] "M::I::op" (some { overview := none, params := [], returns := [(none, [.text "x"])], sees := [] }) true true "returnValue").isSome = true := by
  decide

/-! ## the decoded content says what the abstract syntax says

`describe mode fs isSource` (Lemmas/RequestContent.lean) is the description of the request written by direct recursion on
the abstract syntax, as plain `map`s, WITHOUT the symbol vector the converter threads through `convDefs`: per transmitted
file the path, the module's identifier and attributes, the file attributes, and per definition in source order its kind,
entity information (identifier, attributes with arguments, doc comment with resolved links and see-tags) and members —
fields / operations with parameters and return members / enumerators with their values (explicit or previous + 1 from 0) —
each member with identifier, attributes, documentation, tag, and its type as a TREE (`RefShape`: names resolved, aliases
flattened with their attributes accumulated, anonymous types in place, `?`).
`readFile v` is what a generator gets from a transmitted file `v`: the named symbols in order, every numeric type id replaced
by the anonymous-type symbol it points to in `v.contents`. -/

/-- **The converted request reads back as the description of the program.** For every list of compiled files, every
    source/reference split and either reading of the parameter documentation: the source files of the request, read with
    numeric ids dereferenced, are exactly the descriptions of the files with the source flag that have a module declaration,
    in compilation order; likewise the reference files. Equality of whole descriptions: nothing is lost, added or
    reordered, every numeric id points to the anonymous type that was written at that place. No side condition. -/
theorem content_read_back (mode : DocMode) (fs : List ReqFile) (srcs refs : List SliceFileV)
    (h : convert mode fs = some (srcs, refs)) :
    srcs.map readFile = describe mode fs true ∧ refs.map readFile = describe mode fs false :=
  convert_read mode fs srcs refs h

/-- **Content faithfulness**: for the conversion the current source implements,
    the byte stream decodes — as a `generateCode` call, field by field according to the schema, leaving exactly the
    generator's arguments — into the untyped image of two lists of files which, read back with numeric ids dereferenced, are
    the description of the program's source files and of its reference files; return members are documented by the
    `@returns` tags (`DocMode.asDemanded`). -/
theorem content_faithful (fs : List ReqFile) (srcs refs : List SliceFileV) (bs args : Bytes)
    (hc : convert DocMode.current fs = some (srcs, refs)) (he : encodeRequest srcs refs = some bs) :
    decodeCall CS "generateCode" 2 (bs ++ args) = .ok (toValRequest srcs refs, args) ∧
    srcs.map readFile = describe .asDemanded fs true ∧ refs.map readFile = describe .asDemanded fs false := by
  rw [return_docs_as_demanded] at hc
  exact ⟨request_roundtrip srcs refs bs args he, convert_read .asDemanded fs srcs refs hc⟩

/-- **Content faithfulness, end to end: `fromVal (decoded request) = describe P`.** `fromValFile` (Lemmas/RequestFromVal.lean)
    reads the UNTYPED value the schema-driven reader returns for one `SliceFile` — positionally, by the schema's field order
    and enumerator numbers, a type id string being numeric when it is a non-empty string of decimal digits — and
    dereferences the numeric ids; it does not use the encoders or `toVal*`. For every program whose references resolve
    (`AllResolve`, needed only so that no NAME can be mistaken for a number: a named id is then a keyword or contains `::`),
    every source/reference split and every argument bytes: the stream decodes as a `generateCode` call into two lists of
    values and exactly the argument bytes, and reading the two lists gives the description of the program's source files
    and of its reference files. -/
theorem content_faithful_decoded (fs : List ReqFile) (srcs refs : List SliceFileV) (bs args : Bytes)
    (hc : convert DocMode.current fs = some (srcs, refs)) (hg : AllResolve fs = true) (he : encodeRequest srcs refs = some bs) :
    ∃ ss rs : List SVal, decodeCall CS "generateCode" 2 (bs ++ args) = .ok ([.list ss, .list rs], args) ∧
      optMap fromValFile ss = some (describe .asDemanded fs true) ∧
      optMap fromValFile rs = some (describe .asDemanded fs false) := by
  have hr := convert_readable _ fs srcs refs hc hg
  rw [return_docs_as_demanded] at hc
  obtain ⟨h1, h2⟩ := convert_read .asDemanded fs srcs refs hc
  rw [← h1, ← h2]
  exact ⟨srcs.map toValSliceFile, refs.map toValSliceFile, request_roundtrip srcs refs bs args he,
    fromVal_Files srcs fun v hv => hr v (List.mem_append_left _ hv),
    fromVal_Files refs fun v hv => hr v (List.mem_append_right _ hv)⟩

/-- the reader of the decoded value inverts the untyped image on every file whose named ids do not look numeric, and
    numeric ids are always read back as the same index -/
theorem decoded_value_determines_file (v : SliceFileV) (h : FileReadable v) : fromValSliceFile (toValSliceFile v) = some v :=
  fromVal_SliceFile v h

/-- The type of a member as a tree is the type as written: converting a written type reference (which may push
    anonymous-type symbols) and reading the result back in the resulting vector gives `shapeOfTRef` — names resolved in the
    scope they are written in, a name of an alias replaced by the alias's target, anonymous types nested in place. -/
theorem type_reference_shape (t : Table) (scope : String) (r : TRef) (syms : Syms) (h : SymsOK syms) :
    readRef (convTRef t scope elabFuel r syms).2 (convTRef t scope elabFuel r syms).1 = shapeOfTRef t scope elabFuel r :=
  convTRef_shape t scope elabFuel r syms

/-- …its `?` is the `?` written on it, and its attributes are the attributes written on it followed by those written on
    the underlying types of the aliases its name goes through, in chain order (`C03.alias_flatten` says what `extra` is). -/
theorem type_reference_flags (t : Table) (scope : String) (r : TRef) :
    (shapeOfTRef t scope elabFuel r).opt = r.opt ∧
    (shapeOfTRef t scope elabFuel r).attrs =
      convAttrs (r.attrs ++ (match r.ty with
        | .named id => (match resolveNamed t .type id scope with | .ok (_, extra) => extra | .error _ => [])
        | _ => [])) := by
  obtain ⟨ty, h⟩ := shapeOfTRef_mk t scope r
  rw [h]
  exact ⟨rfl, rfl⟩

/-! ### projections of `content_read_back`, each against an observation written directly on the syntax -/

/-- (i) **Files.** The source/reference split, the order of the files, and per file the path as given, the module's
    identifier and attributes and the file attributes: sources are exactly the files with the source flag that have a
    module declaration, in compilation order; references likewise. -/
theorem files_in_order (mode : DocMode) (fs : List ReqFile) (srcs refs : List SliceFileV)
    (h : convert mode fs = some (srcs, refs)) :
    srcs.map SliceFileV.header = obsHeaders fs true ∧ refs.map SliceFileV.header = obsHeaders fs false := by
  have := convert_observed h FileD.header _ (describe_headers mode fs)
  rwa [List.map_map, List.map_map] at this

/-- (ii) **Definitions.** Per transmitted file, the named symbols are the definitions of the file: same kinds, same
    identifiers, same order (anonymous-type symbols in between do not count). -/
theorem definitions_in_order (mode : DocMode) (fs : List ReqFile) (srcs refs : List SliceFileV)
    (h : convert mode fs = some (srcs, refs)) :
    srcs.map (fun v => v.contents.filterMap SymbolV.head) = obsDefHeads fs true ∧
    refs.map (fun v => v.contents.filterMap SymbolV.head) = obsDefHeads fs false := by
  simpa only [List.map_map, Function.comp_def, readFile_heads] using
    convert_observed h (fun d => d.definitions.map DefD.head) _ (describe_defHeads mode fs)

/-- (iii) (iv) **Members, flags, tags, values.** Per definition, in order: a struct's `compact` flag and its fields; an
    interface's bases (scoped identifiers of the interfaces the written names resolve to) and operations with `idempotent`,
    parameters, return members (a single unnamed return value is the member `returnValue`) and the two `stream` flags; an
    enum's `unchecked` / `compact` flags, underlying type, and enumerators with their values — the written literal, else the
    previous value + 1, starting from 0 (`enumerator_values`) — as absolute value and sign, or as discriminant, with the
    enumerator's fields. Every member with its identifier, its tag (`tag_as_written`) and the `?` of its type. -/
theorem members_in_order (mode : DocMode) (fs : List ReqFile) (srcs refs : List SliceFileV)
    (h : convert mode fs = some (srcs, refs)) :
    (srcs.map readFile).map (fun d => d.definitions.map DefD.obs) = obsDefs fs true ∧
    (refs.map readFile).map (fun d => d.definitions.map DefD.obs) = obsDefs fs false :=
  convert_observed h _ _ (describe_defObs mode fs)

/-- (v) (vi) **Attributes and documentation of definitions.** Per definition, in order: the identifier, the attributes in
    order with their arguments (`attribute_verbatim`), and the doc comment when the definition has a well-formed one —
    the overview with every `{@link X}` replaced by the scoped identifier `X` resolves to from the definition, the `@see`
    tags likewise (`convDoc`, `convLink`). Members carry theirs the same way (`describe`: `descField`, `descParam`,
    `descOp`, `descVariant`, `descEnumerator`); parameters and return members are documented by `paramDoc`. -/
theorem definition_infos_in_order (mode : DocMode) (fs : List ReqFile) (srcs refs : List SliceFileV)
    (h : convert mode fs = some (srcs, refs)) :
    (srcs.map readFile).map (fun d => d.definitions.map DefD.info) = obsDefInfos fs true ∧
    (refs.map readFile).map (fun d => d.definitions.map DefD.info) = obsDefInfos fs false :=
  convert_observed h _ _ (describe_defInfos mode fs)

/-- (vi) **Documentation of parameters and return values.** The documentation of a parameter is the text of the first
    `@param` tag with its identifier; that of a return member the text of the first `@returns` tag with its identifier — or
    without identifier when the operation has a single return value —, with the links resolved from the operation; no such
    tag, or no well-formed comment on the operation: no documentation. (`describe` uses `paramDoc` for these members.) -/
theorem parameter_documentation (t : Table) (opKey : String) (d : ReqDoc.ParsedDoc) (single : Bool) (name : String) :
    paramDoc .asDemanded t opKey (some d) false single name =
      (d.params.find? (fun p => p.1 == name)).map (fun p => { overview := convMsg t opKey p.2, seeTags := [] }) ∧
    paramDoc .asDemanded t opKey (some d) true single name =
      (d.returns.find? (fun r => r.1 == some name || (single && r.1 == none))).map
        (fun r => { overview := convMsg t opKey r.2, seeTags := [] }) ∧
    paramDoc .asDemanded t opKey none false single name = none ∧ paramDoc .asDemanded t opKey none true single name = none := by
  refine ⟨?_, ?_, rfl, rfl⟩
  · simp only [paramDoc]
    cases d.params.find? (fun p => p.1 == name) <;> simp
  · simp only [paramDoc]
    cases d.returns.find? (fun r => r.1 == some name || (single && r.1 == none)) <;> simp

/-- (iv) The value of the enumerator at position `i`: its literal when it has one; otherwise 0 for the first enumerator and
    the value of the enumerator before it plus one (wrapping in `i128`, as the compiler computes it) for the others. -/
theorem enumerator_values (es : List Enumerator) (i : Nat) (e : Enumerator) (he : es[i]? = some e) :
    (enumValues none es)[i]? = some (match e.value with
      | some l => l.value
      | none => if i = 0 then 0 else wrapI128 ((enumValues none es)[i - 1]?.getD 0)) :=
  enumValues_spec es none i e he

/-- …and the transmitted pair (absolute value, sign) gives the value back, for every value an enumerator of an integral
    underlying type can have (|v| < 2^64). -/
theorem enumerator_value_decodes (v : Int) (h : v.natAbs < 2 ^ 64) :
    (if decide (v < 0) then -(((v.natAbs % 2 ^ 64 : Nat) : Int)) else ((v.natAbs % 2 ^ 64 : Nat) : Int)) = v := by
  rw [Nat.mod_eq_of_lt h]
  by_cases hv : v < 0
  · simp only [hv, decide_true, if_true]; omega
  · simp only [hv, decide_false, Bool.false_eq_true, if_false]; omega

/-- (iii) A tag in the range the compiler accepts (0 … 2^31−1) is transmitted as written. -/
theorem tag_as_written (l : IntLit) (h0 : 0 ≤ l.value) (h1 : l.value < 2 ^ 31) : tagI32 l = l.value := by
  unfold tagI32
  have e : l.value % 2 ^ 32 = l.value := Int.emod_eq_of_lt h0 (by omega)
  rw [e]
  unfold toSigned
  have : (l.value.toNat) < 2 ^ 31 := by omega
  simp only [show (32 - 1 : Nat) = 31 by rfl]
  split
  · omega
  · omega

/-- (v) An attribute other than the four the converter rebuilds from their parsed form is transmitted verbatim: the directive and the
    arguments in order; `deprecated` keeps its message, `oneway` has no arguments, `compress` / `slicedFormat` keep which of
    `Args`, `Return` were given. -/
theorem attribute_verbatim (a : Attr) :
    (a.directive ≠ "compress" ∧ a.directive ≠ "slicedFormat" ∧ a.directive ≠ "deprecated" ∧ a.directive ≠ "oneway" →
      convAttr a = ⟨sb a.directive, a.args.map sb⟩) ∧
    (a.directive = "deprecated" → convAttr a = ⟨sb a.directive, (a.args.take 1).map sb⟩) ∧
    (a.directive = "oneway" → convAttr a = ⟨sb a.directive, []⟩) ∧
    (a.directive = "compress" ∨ a.directive = "slicedFormat" → convAttr a = ⟨sb a.directive,
      ((if a.args.contains "Args" then ["Args"] else []) ++ (if a.args.contains "Return" then ["Return"] else [])).map sb⟩) := by
  refine ⟨fun ⟨h1, h2, h3, h4⟩ => ?_, fun h => ?_, fun h => ?_, fun h => ?_⟩
  · simp [convAttr, canonAttr, h1, h2, h3, h4]
  · simp [convAttr, canonAttr, h]
  · simp [convAttr, canonAttr, h]
  · rcases h with h | h <;> simp [convAttr, canonAttr, h]

/-! ## named type ids and bases name entities of transmitted files -/

/-- **Every named type id and every base names an entity that exists in some transmitted file.** For every conversion
    result of a program in which every written reference resolves (`AllResolve`, decidable: no definition outside a module,
    no empty module path, every written type name — the underlying type of an enum excepted — resolves, directly or through
    aliases, to a type and every base to an interface, within the descent bound; this is what "compiled without E033 / E017 / E019 / a missing module" gives the
    converter): every NAMED type id occurring in a symbol of a transmitted file (types of fields, parameters, return
    members, enumerator fields, the target of a type alias, the element types of the anonymous-type symbols; not the
    `underlying` of an enum, which is not among `trefs` and is transmitted as written) is a primitive
    keyword or `module ++ "::" ++ identifier` of a struct / enum / custom-type symbol of some transmitted file — never of a
    type alias: a reference naming an alias carries the id of the alias's target — and every base of an interface symbol
    is `module ++ "::" ++ identifier` of an interface symbol of some transmitted file. -/
theorem named_ids_exist (mode : DocMode) (fs : List ReqFile) (srcs refs : List SliceFileV)
    (h : convert mode fs = some (srcs, refs)) (hg : AllResolve fs = true) :
    ∀ f ∈ srcs ++ refs, ∀ s ∈ f.contents,
      (∀ r ∈ s.trefs, ∀ id, r.typeId = .named id →
        (∃ p ∈ Prim.all, id = sb p.kw) ∨ EntityIn (srcs ++ refs) ["struct", "enum", "custom"] id) ∧
      (∀ v, s = .interface v → ∀ b ∈ v.bases, EntityIn (srcs ++ refs) ["interface"] b) := by
  intro v hv s hs
  obtain ⟨rf, hrf, hc⟩ := convert_mem h hv
  have hgrf := allResolve_file hg hrf
  refine ⟨fun r hr id hid => ?_, ?_⟩
  · exact ((convertFile_spec mode _ rf v hc).2.2 hgrf s hs r hr id hid).ok.imp_right (def_entity h hg)
  · rintro iv rfl b hb
    obtain ⟨scope, br, hbr, rfl⟩ := convertFile_bases mode _ rf v hc hgrf iv hs b hb
    exact def_entity h hg (base_ok (programOf fs) scope br hbr)

/-- **Every resolved link names an entity declared in a transmitted file.** About `convLink t key id`, which `convDoc`
    (Model/Request.lean) applies to every link of a doc comment (overview components, `@see` tags, the texts of `@param` /
    `@returns`), `id` the written identifier and `key` the scoped identifier of the commented entity. When `id` resolves from there to something other than a
    module, a parameter or a primitive, what is transmitted is the scoped identifier of the entity it resolves to, and that
    entity — a definition, a field, an operation, an enumerator or an enumerator's field — is declared in a file that is
    transmitted (`AllResolve`: no definition outside a module); otherwise the link is transmitted as written. -/
theorem resolved_links_exist (fs : List ReqFile) (hg : AllResolve fs = true) (selfKey id : String) :
    (∀ n, findNodeWithScope (buildTable (programOf fs)) id selfKey = some n →
      n.kind ≠ .module ∧ n.kind ≠ .parameter ∧ n.kind ≠ .primitive →
      convLink (buildTable (programOf fs)) selfKey id = sb n.key ∧
      ∃ rf ∈ transmitted fs, EntityOf rf.file n.key n.kind n.ident) ∧
    ((findNodeWithScope (buildTable (programOf fs)) id selfKey = none ∨
      ∃ n, findNodeWithScope (buildTable (programOf fs)) id selfKey = some n ∧
        (n.kind = .module ∨ n.kind = .parameter ∨ n.kind = .primitive)) →
      convLink (buildTable (programOf fs)) selfKey id = sb id) :=
  ⟨fun n hf hk => resolved_link_entity fs hg selfKey id n hf hk, unresolved_link_verbatim _ selfKey id⟩

/-! ## the guard follows from acceptance by the compiler model

`validate P` (Model/Validate.lean, C04) is the list of error codes of the whole pipeline: parse-time checks → attribute
patching → type-reference resolution (C03's `resolveNamed` on every written name, nested ones and alias targets included) →
cycle gate → redefinition scan → validating visitor; `validate P = []` = "the compiler model accepts `P`".
`AllResolve` asks of every file that (a) every written name and every base resolves, (b) the converter's descent on every
written reference stays within `elabFuel`, (c) a file with definitions has a module declaration, with a non-empty path.
Acceptance gives (a) and (c) up to `ParserShaped` (two conditions the parser imposes and the abstract syntax leaves open)
and does not give (b), which is `DescentWithin`; these two stay explicit, decidable hypotheses (each condition is shown to
be needed by a program in `Slicec.C08Demo`, Lemmas/RequestBridge.lean):

* `ParserShaped P` — a module declaration names a module (the grammar demands it; the abstract syntax does not) and every
  interface base is written as a name (a keyword or anonymous type as base is an E017 of the PARSER, `construct_interface`,
  which `validate` does not model);
* `DescentWithin P` — **the descent bound**: on every written type reference, with aliases replaced by their targets, the
  fuel `elabFuel = 64` of the converter model is not exhausted (at most 31 nested anonymous types). `elabFuel` is a constant
  of the MODEL — the Rust converter recurses without bound and the compiler accepts deeper types
  (`C08Demo.deep_accepted_not_within`: 32 nested sequences) — so it cannot follow from acceptance. It also excludes what
  the alias gate of `detect_cycles` rejects (`typealias A = Sequence<A>`, E019): that gate is C05's `aliasGateErrors` and is not
  a phase of `validate` (`C08Demo.aliasLoop_accepted_not_within`). What acceptance DOES give, once C05's gate is added
  (`validate P = []` and `Cyc.aliasGateErrors P = []`), is that the descent is finite and linear in the program size
  (`accepted_descent_is_bounded`: `2 d + 2 n + 5` units); so `DescentWithin` follows from a purely syntactic size condition
  (`NestingSmall`, `descent_bound_from_alias_gate`), and only the constant 64 stands between acceptance and the guard. -/

/-- (c) **"module declaration is required".** In a program the compiler model accepts, a file without module declaration
    has no definitions. -/
theorem definitions_need_a_module (P : Program) (hacc : validate P = []) (f : SFile) (hf : f ∈ P) (hm : f.module = none) :
    f.defs = [] :=
  accepted_moduleRequired P hacc f hf hm

/-- (a) **Every written name of an accepted program resolves, whatever the position.** For every definition of every file:
    each named reference written in a field / parameter / return-member / enumerator-field type or in an alias target — at
    any depth inside sequences, dictionaries and results — resolves (`resolveNamed … = .ok …`) in a type position from the
    module scope of its file; and every base written as a name resolves to a node, in an interface position. -/
theorem written_names_resolve (P : Program) (hacc : validate P = []) (f : SFile) (hf : f ∈ P) (d : Def) (hd : d ∈ f.defs) :
    (∀ r ∈ (Validate.defVisitedTRefs d).flatMap Validate.subRefsT, ∀ id, r.ty = .named id →
      ∃ v, resolveNamed (buildTable P) .type id f.modPath = .ok v) ∧
    (∀ doc attrs name bases ops, d = .iface doc attrs name bases ops → ∀ b ∈ bases, ∀ id, b.ty = .named id →
      ∃ n extra, resolveNamed (buildTable P) .interface id f.modPath = .ok (.node n, extra)) := by
  refine ⟨accepted_refsOK P hacc f hf d hd, ?_⟩
  rintro doc attrs name bases ops rfl b hb id hid
  obtain ⟨v, hv⟩ := accepted_basesOK P hacc f hf doc attrs name bases ops hd b hb id hid
  obtain ⟨n, extra, rfl⟩ := resolveNamed_interface_node _ _ _ _ hv
  exact ⟨n, extra, hv⟩

/-- (a) **The way back through an alias.** When a name resolves — directly or through a chain of aliases — to a written
    type expression `e` with module scope `s` (what the converter then descends into), `e` is the target of an alias
    definition of a file of the program whose module scope is `s`; in an accepted program every name written inside `e`
    therefore resolves from `s` as well. -/
theorem alias_target_is_a_site (P : Program) (hacc : validate P = []) (w : Want) (id scope : String) (e : TyExpr) (s : String)
    (extra : List Attr) (h : resolveNamed (buildTable P) w id scope = .ok (.expr e s, extra)) :
    (∃ f ∈ P, ∃ doc attrs name a o, Def.alias doc attrs name (.mk a e o) ∈ f.defs ∧ s = f.modPath) ∧
    (∀ r ∈ Validate.subRefsE e, ∀ id', r.ty = .named id' → ∃ v, resolveNamed (buildTable P) .type id' s = .ok v) :=
  ⟨resolveNamed_expr_origin P w id scope e s extra h,
   alias_target_refsOK P (fun f hf d hd => accepted_refsOK P hacc f hf d hd) w id scope e s extra h⟩

/-- (a) + (b), for EVERY descent budget: in an accepted program, a written type reference of a definition on which a budget
    `fuel` is not exhausted (`trefWithin`) is converted with that budget without any fallback (`trefResolves`: every name on
    the way resolves to a node or, through aliases, to a written type that converts without fallback). The constant
    `elabFuel` plays no role here. -/
theorem accepted_reference_converts (P : Program) (hacc : validate P = []) (f : SFile) (hf : f ∈ P) (d : Def) (hd : d ∈ f.defs)
    (r : TRef) (hr : r ∈ Validate.defVisitedTRefs d) (fuel : Nat)
    (hw : trefWithin (buildTable P) f.modPath fuel r = true) : trefResolves (buildTable P) f.modPath fuel r = true := by
  have hP := fun f hf d hd => accepted_refsOK P hacc f hf d hd
  exact (resolves_of_within P hP fuel).1 f.modPath r ((hP f hf d hd).sub fun x hx => List.mem_flatMap.mpr ⟨r, hr, hx⟩) hw

/-- (b) what the descent bound means where no alias of an anonymous type is involved: a reference whose written nesting of
    sequences / dictionaries / results is at most 31 stays within `elabFuel` (and more budget never hurts: `within_mono`). -/
theorem descent_bound_is_nesting_31 (t : Table) (scope : String) (r : TRef) (hn : trefNoAliasExpr t scope r = true)
    (hd : r.nesting ≤ 31) : trefWithin t scope elabFuel r = true :=
  (within_of_nesting t scope elabFuel).1 r hn (by simp only [elabFuel]; omega)

/-- (b) **With C05's alias gate, the descent of an accepted program is bounded by its size.** If the compiler model accepts
    `P` and the alias gate of `detect_cycles` (C05's `Cyc.aliasGateErrors`: `revisits_anonymous_type` on the graph of
    anonymous types, `alias_gate_reports_iff`) reports nothing, then for EVERY written type reference `r` — wherever it
    stands, whatever it names — the converter's descent on the flattened type needs at most `2 d + 2 n + 5` units, where
    `d = r.nesting` is the written nesting of anonymous types in `r` and `n = anonCount P` the number of anonymous types
    written in the alias definitions of `P`: the descent follows a path of the graph of anonymous types, on which — the gate
    being silent — no node occurs twice. (Without the gate: `typealias A = Sequence<A>` is accepted by `validate` and no
    budget suffices.) -/
theorem accepted_descent_is_bounded (P : Program) (hacc : validate P = []) (hgate : Cyc.aliasGateErrors P = [])
    (scope : String) (r : TRef) : trefWithin (buildTable P) scope (2 * r.nesting + 2 * anonCount P + 5) r = true :=
  accepted_gate_within P hacc hgate scope r

/-- … hence the descent bound of the converter model follows from acceptance, the alias gate and a syntactic size condition:
    `2 d + 2 n + 5 ≤ elabFuel` for every written reference of a visited position (`NestingSmall`, decidable without any
    name resolution). -/
theorem descent_bound_from_alias_gate (P : Program) (hacc : validate P = []) (hgate : Cyc.aliasGateErrors P = [])
    (hsmall : NestingSmall P = true) : DescentWithin P = true :=
  descentWithin_of_gate P hacc hgate hsmall

/-- **The bridge: compiled programs resolve.** For the list of files the driver builds from a program `P` (file `i` under the
    path given for it, a source file unless `i` is among the reference files): if the compiler model accepts `P`
    (`validate P = []`), `P` is shaped as the parser shapes it and its flattened types stay within the descent bound of the
    converter model, then the guard `AllResolve` of the three theorems above holds. -/
theorem compiled_programs_resolve (pathOf : Nat → String) (refs : List Nat) (P : Program)
    (hacc : validate P = []) (hshape : ParserShaped P = true) (hdepth : DescentWithin P = true) :
    AllResolve (reqFilesOf pathOf refs P) = true := by
  apply allResolve_of_accepted <;> rw [programOf_reqFilesOf] <;> assumption

/-- the same for any list of compiled files (any paths, any source/reference split, any order) -/
theorem compiled_files_resolve (fs : List ReqFile) (hacc : validate (programOf fs) = [])
    (hshape : ParserShaped (programOf fs) = true) (hdepth : DescentWithin (programOf fs) = true) : AllResolve fs = true :=
  allResolve_of_accepted fs hacc hshape hdepth

/-- the bridge with C05's alias gate in place of the resolution-dependent descent hypothesis: accepted by `validate`, passed
    by the alias gate, shaped as the parser shapes it, and syntactically small (`NestingSmall`) ⇒ `AllResolve` -/
theorem compiled_programs_resolve_gate (pathOf : Nat → String) (refs : List Nat) (P : Program)
    (hacc : validate P = []) (hgate : Cyc.aliasGateErrors P = []) (hshape : ParserShaped P = true)
    (hsmall : NestingSmall P = true) : AllResolve (reqFilesOf pathOf refs P) = true :=
  compiled_programs_resolve pathOf refs P hacc hshape (descentWithin_of_gate P hacc hgate hsmall)

/-- `named_ids_exist` with "the program is accepted by the compiler model" in place of `AllResolve`. -/
theorem named_ids_exist_of_accepted (mode : DocMode) (fs : List ReqFile) (srcs refs : List SliceFileV)
    (h : convert mode fs = some (srcs, refs)) (hacc : validate (programOf fs) = [])
    (hshape : ParserShaped (programOf fs) = true) (hdepth : DescentWithin (programOf fs) = true) :
    ∀ f ∈ srcs ++ refs, ∀ s ∈ f.contents,
      (∀ r ∈ s.trefs, ∀ id, r.typeId = .named id →
        (∃ p ∈ Prim.all, id = sb p.kw) ∨ EntityIn (srcs ++ refs) ["struct", "enum", "custom"] id) ∧
      (∀ v, s = .interface v → ∀ b ∈ v.bases, EntityIn (srcs ++ refs) ["interface"] b) :=
  named_ids_exist mode fs srcs refs h (compiled_files_resolve fs hacc hshape hdepth)

/-- `resolved_links_exist` with acceptance in place of `AllResolve` — acceptance ALONE: of the guard only "no definition
    outside a module" is used, which is the parse-time rule `moduleCheck` of `validate`. -/
theorem resolved_links_exist_of_accepted (fs : List ReqFile) (hacc : validate (programOf fs) = []) (selfKey id : String) :
    (∀ n, findNodeWithScope (buildTable (programOf fs)) id selfKey = some n →
      n.kind ≠ .module ∧ n.kind ≠ .parameter ∧ n.kind ≠ .primitive →
      convLink (buildTable (programOf fs)) selfKey id = sb n.key ∧
      ∃ rf ∈ transmitted fs, EntityOf rf.file n.key n.kind n.ident) ∧
    ((findNodeWithScope (buildTable (programOf fs)) id selfKey = none ∨
      ∃ n, findNodeWithScope (buildTable (programOf fs)) id selfKey = some n ∧
        (n.kind = .module ∨ n.kind = .parameter ∨ n.kind = .primitive)) →
      convLink (buildTable (programOf fs)) selfKey id = sb id) :=
  ⟨fun n hf hk => resolved_link_entity_accepted fs hacc selfKey id n hf hk, unresolved_link_verbatim _ selfKey id⟩

/-- `content_faithful_decoded` (bytes → decoded value → `describe P`) with acceptance in place of `AllResolve`. -/
theorem content_faithful_decoded_of_accepted (fs : List ReqFile) (srcs refs : List SliceFileV) (bs args : Bytes)
    (hc : convert DocMode.current fs = some (srcs, refs)) (hacc : validate (programOf fs) = [])
    (hshape : ParserShaped (programOf fs) = true) (hdepth : DescentWithin (programOf fs) = true)
    (he : encodeRequest srcs refs = some bs) :
    ∃ ss rs : List SVal, decodeCall CS "generateCode" 2 (bs ++ args) = .ok ([.list ss, .list rs], args) ∧
      optMap fromValFile ss = some (describe .asDemanded fs true) ∧
      optMap fromValFile rs = some (describe .asDemanded fs false) :=
  content_faithful_decoded fs srcs refs bs args hc (compiled_files_resolve fs hacc hshape hdepth) he

/-! ### acceptance by the COMPLETE pipeline (`validateFull`, Model/Pipeline.lean)

`validate` lacks the parser's E017 for a base that is not a name and the alias gate of `detect_cycles`; that is why
`compiled_programs_resolve_gate` asks for `ParserShaped` and `Cyc.aliasGateErrors P = []`. `validateFull` has both phases
(tied to the compiler by the stream of C04), so acceptance by it gives both. What stays explicit: `ModulesNamed` (a module
declaration with an empty path — expressible in the abstract syntax only, looked at by no phase) and `NestingSmall` (the
descent constant of the converter MODEL; `C08Demo.deep_accepted_full`). -/

/-- `ParserShaped` and the alias-gate hypothesis of `compiled_programs_resolve_gate` are consequences of acceptance by the
    complete pipeline (given named modules), and so is acceptance by `validate` -/
theorem accepted_full_gives_gate_hypotheses (P : Program) (hacc : validateFull P = []) (hmod : ModulesNamed P = true) :
    validate P = [] ∧ Cyc.aliasGateErrors P = [] ∧ ParserShaped P = true := by
  obtain ⟨hv, hs, hg, _⟩ := (Validate.validateFull_nil_iff P).mp hacc
  exact ⟨hv, hg, parserShaped_of_shape P hmod hs⟩

/-- **The bridge from the complete verdict.** If the complete pipeline accepts `P` (`validateFull P = []`: every phase of the
    front end, including the parser's shape check, the alias gate and the inheritance check), the module declarations of `P`
    are named and its written types are syntactically small, then the guard `AllResolve` holds for the file list the driver
    builds from `P`. -/
theorem compiled_programs_resolve_full (pathOf : Nat → String) (refs : List Nat) (P : Program)
    (hacc : validateFull P = []) (hmod : ModulesNamed P = true) (hsmall : NestingSmall P = true) :
    AllResolve (reqFilesOf pathOf refs P) = true := by
  obtain ⟨hv, hg, hs⟩ := accepted_full_gives_gate_hypotheses P hacc hmod
  exact compiled_programs_resolve_gate pathOf refs P hv hg hs hsmall

/-- the same for any list of compiled files (any paths, any source/reference split, any order) -/
theorem compiled_files_resolve_full (fs : List ReqFile) (hacc : validateFull (programOf fs) = [])
    (hmod : ModulesNamed (programOf fs) = true) (hsmall : NestingSmall (programOf fs) = true) : AllResolve fs = true := by
  obtain ⟨hv, hg, hs⟩ := accepted_full_gives_gate_hypotheses _ hacc hmod
  exact compiled_files_resolve fs hv hs (descent_bound_from_alias_gate _ hv hg hsmall)

/-- `named_ids_exist` with "the program is accepted by the complete pipeline" in place of `AllResolve`. -/
theorem named_ids_exist_of_accepted_full (mode : DocMode) (fs : List ReqFile) (srcs refs : List SliceFileV)
    (h : convert mode fs = some (srcs, refs)) (hacc : validateFull (programOf fs) = [])
    (hmod : ModulesNamed (programOf fs) = true) (hsmall : NestingSmall (programOf fs) = true) :
    ∀ f ∈ srcs ++ refs, ∀ s ∈ f.contents,
      (∀ r ∈ s.trefs, ∀ id, r.typeId = .named id →
        (∃ p ∈ Prim.all, id = sb p.kw) ∨ EntityIn (srcs ++ refs) ["struct", "enum", "custom"] id) ∧
      (∀ v, s = .interface v → ∀ b ∈ v.bases, EntityIn (srcs ++ refs) ["interface"] b) :=
  named_ids_exist mode fs srcs refs h (compiled_files_resolve_full fs hacc hmod hsmall)

/-- `resolved_links_exist` with acceptance by the complete pipeline — alone. -/
theorem resolved_links_exist_of_accepted_full (fs : List ReqFile) (hacc : validateFull (programOf fs) = []) (selfKey id : String) :
    (∀ n, findNodeWithScope (buildTable (programOf fs)) id selfKey = some n →
      n.kind ≠ .module ∧ n.kind ≠ .parameter ∧ n.kind ≠ .primitive →
      convLink (buildTable (programOf fs)) selfKey id = sb n.key ∧
      ∃ rf ∈ transmitted fs, EntityOf rf.file n.key n.kind n.ident) ∧
    ((findNodeWithScope (buildTable (programOf fs)) id selfKey = none ∨
      ∃ n, findNodeWithScope (buildTable (programOf fs)) id selfKey = some n ∧
        (n.kind = .module ∨ n.kind = .parameter ∨ n.kind = .primitive)) →
      convLink (buildTable (programOf fs)) selfKey id = sb id) :=
  resolved_links_exist_of_accepted fs ((Validate.validateFull_nil_iff _).mp hacc).1 selfKey id

/-- `content_faithful_decoded` (bytes → decoded value → `describe P`) with acceptance by the complete pipeline. -/
theorem content_faithful_decoded_of_accepted_full (fs : List ReqFile) (srcs refs : List SliceFileV) (bs args : Bytes)
    (hc : convert DocMode.current fs = some (srcs, refs)) (hacc : validateFull (programOf fs) = [])
    (hmod : ModulesNamed (programOf fs) = true) (hsmall : NestingSmall (programOf fs) = true)
    (he : encodeRequest srcs refs = some bs) :
    ∃ ss rs : List SVal, decodeCall CS "generateCode" 2 (bs ++ args) = .ok ([.list ss, .list rs], args) ∧
      optMap fromValFile ss = some (describe .asDemanded fs true) ∧
      optMap fromValFile rs = some (describe .asDemanded fs false) :=
  content_faithful_decoded fs srcs refs bs args hc (compiled_files_resolve_full fs hacc hmod hsmall) he

/-- a request the encoder accepts, with an anonymous type, an optional tag and a comment (strings as byte literals) -/
def demoFile : SliceFileV :=
  { path := [97], moduleDeclaration := ⟨[77], []⟩, attributes := [⟨[99, 115, 58, 58, 120], [[121]]⟩],
    contents := [.sequenceType ⟨⟨.named [98, 111, 111, 108], false, []⟩⟩,
                 .struct ⟨⟨[83], [], some ⟨[.text [100], .link [77, 58, 58, 83]], [[77, 58, 58, 83]]⟩⟩, false,
                          [⟨⟨[102], [], none⟩, some 2147483647, ⟨.named [48], true, []⟩⟩]⟩] }

example : (encSeqOf encodeSliceFile [demoFile, demoFile]).isSome = true := by decide +kernel
example : encodeAttribute ⟨[97], [[98]]⟩ = some [4, 97, 4, 4, 98, 252] := by decide +kernel
example : encodeField ⟨⟨[102], [], none⟩, some 0, ⟨.named [98, 111, 111, 108], false, []⟩⟩ =
    some [1, 0, 4, 102, 0, 252, 0, 16, 98, 111, 111, 108, 0, 0, 252, 252] := by decide +kernel
example : (match decodeBySchema CS "Attribute" [4, 97, 4, 4, 98, 252, 7] with
    | .ok (.struct [.str d, .list [.str a]], rest) => d == [97] && a == [98] && rest == [7]
    | _ => false) = true := by decide +kernel
example : camelCase "has_streamed_parameter" = "hasStreamedParameter" := by decide +kernel

/-! ### on a two-file program (Lemmas/RequestContent.lean, `C08Demo`)

`a.slice` (source): `[[cs::ns("X")]] module M  compact struct S { x: bool }  typealias A = [cs::t] Sequence<S?>`;
`b.slice` (reference): `module N`, `/// Holds {@link M::S}.` `/// @see M::S` `struct T { y: tag(3) [cs::u] M::A? }`,
`unchecked enum E { P, Q(w: M::S) = 5, R }`. -/

/-- every written reference resolves: the guard of `named_ids_exist` holds -/
example : AllResolve C08Demo.files = true := C08Demo.files_resolve

/-- the conversion: in the reference file the anonymous `Sequence<M::S?>` the alias stands for is symbol 0, and `T::y` refers
    to it by the numeric id 0 with both attributes (`cs::u` written on the field's type, `cs::t` on the alias's) -/
example : convert DocMode.current C08Demo.files = some ([C08Demo.convertedA], [C08Demo.convertedB]) :=
  return_docs_as_demanded ▸ C08Demo.convert_files

/-- the description of the reference file, written from the syntax: the doc comment with its link and see-tag resolved, the
    tagged optional field whose type is the flattened alias as a tree, the variant enum with values 0, 5, 6 -/
example : describe .asDemanded C08Demo.files false = [C08Demo.describedB] := C08Demo.describe_refs

/-- …and `content_read_back` on it: the converted reference file reads back as that description -/
example : [C08Demo.convertedB].map readFile = [C08Demo.describedB] := by
  rw [← C08Demo.describe_refs]
  exact (content_read_back .asDemanded C08Demo.files _ _ C08Demo.convert_files).2

/-- …and from the untyped value a schema-driven reader gets for that file -/
example : optMap fromValFile [toValSliceFile C08Demo.convertedB] = some [C08Demo.describedB] := by
  have hr := convert_readable .asDemanded C08Demo.files _ _ C08Demo.convert_files C08Demo.files_resolve
  rw [← C08Demo.describe_refs, ← (content_read_back .asDemanded C08Demo.files _ _ C08Demo.convert_files).2]
  exact fromVal_Files [C08Demo.convertedB] fun v hv => hr v (List.mem_append_right _ hv)

/-- `named_ids_exist` applies: e.g. the element type of symbol 0 of the reference file is `M::S`, a struct symbol of the
    source file -/
example : EntityIn ([C08Demo.convertedA] ++ [C08Demo.convertedB]) ["struct", "enum", "custom"] (sb "M::S") := by
  have h := named_ids_exist .asDemanded C08Demo.files _ _ C08Demo.convert_files C08Demo.files_resolve
    C08Demo.convertedB (List.mem_append_right _ List.mem_cons_self)
    (.sequenceType ⟨⟨.named (sb "M::S"), true, []⟩⟩) List.mem_cons_self
  rcases h.1 ⟨.named (sb "M::S"), true, []⟩ List.mem_cons_self (sb "M::S") rfl with ⟨p, _, hp⟩ | h
  · exfalso; revert p; simp only [sb_eq_data]; decide +kernel
  · exact h

/-- **the guard is needed (1).** `module M  struct S { x: Nope }`: the converter produces a request in which the type id of
    `x` is the unresolved name as written — neither a keyword nor an entity of a transmitted file. (`AllResolve` is false.) -/
example : AllResolve C08Demo.bad1 = false ∧ ∃ srcs refs, convert DocMode.current C08Demo.bad1 = some (srcs, refs) ∧
    ∃ f ∈ srcs ++ refs, ∃ s ∈ f.contents, ∃ r ∈ s.trefs, ∃ id, r.typeId = .named id ∧
      ¬ ((∃ p ∈ Prim.all, id = sb p.kw) ∨ EntityIn (srcs ++ refs) ["struct", "enum", "custom"] id) :=
  ⟨C08Demo.bad1_not_resolved, C08Demo.bad1_dangling _⟩

/-- **the guard is needed (2).** `custom C` in a file without module declaration, used by `module M  struct S { x: C }`: the
    name resolves, but the defining file is not transmitted (when module-less files are skipped), so the id `C` names nothing
    the generator can see. -/
example (hs : Gen.requestSkipsModuleless = true) :
    AllResolve C08Demo.bad2 = false ∧ ∃ srcs refs, convert DocMode.current C08Demo.bad2 = some (srcs, refs) ∧
    ∃ f ∈ srcs ++ refs, ∃ s ∈ f.contents, ∃ r ∈ s.trefs, ∃ id, r.typeId = .named id ∧
      ¬ ((∃ p ∈ Prim.all, id = sb p.kw) ∨ EntityIn (srcs ++ refs) ["struct", "enum", "custom"] id) :=
  ⟨C08Demo.bad2_not_resolved, C08Demo.bad2_dangling _ hs⟩

/-! ### acceptance by the compiler model -/

/-- the two-file program is accepted by `validate`, shaped as the parser shapes it and within the descent bound: the
    corollaries apply to it … -/
example : validate (programOf C08Demo.files) = [] ∧ ParserShaped (programOf C08Demo.files) = true ∧
    DescentWithin (programOf C08Demo.files) = true :=
  ⟨C08Demo.demo_accepted, C08Demo.demo_shaped, C08Demo.demo_within⟩

/-- … the guard follows (not evaluated: derived from acceptance) … -/
example : AllResolve C08Demo.files = true :=
  compiled_files_resolve C08Demo.files C08Demo.demo_accepted C08Demo.demo_shaped C08Demo.demo_within

/-- … also in the form of the driver's file list (file 1 a reference file) … -/
example : AllResolve (reqFilesOf (fun i => "f" ++ toString i ++ ".slice") [1] (programOf C08Demo.files)) = true :=
  compiled_programs_resolve _ [1] _ C08Demo.demo_accepted C08Demo.demo_shaped C08Demo.demo_within

/-- … and `named_ids_exist_of_accepted` gives, e.g., that the element type `M::S` of symbol 0 of the reference file is a
    struct symbol of a transmitted file -/
example : EntityIn ([C08Demo.convertedA] ++ [C08Demo.convertedB]) ["struct", "enum", "custom"] (sb "M::S") := by
  have h := named_ids_exist_of_accepted .asDemanded C08Demo.files _ _ C08Demo.convert_files C08Demo.demo_accepted
    C08Demo.demo_shaped C08Demo.demo_within C08Demo.convertedB (List.mem_append_right _ List.mem_cons_self)
    (.sequenceType ⟨⟨.named (sb "M::S"), true, []⟩⟩) List.mem_cons_self
  rcases h.1 ⟨.named (sb "M::S"), true, []⟩ List.mem_cons_self (sb "M::S") rfl with ⟨p, _, hp⟩ | h
  · exfalso; revert p; simp only [sb_eq_data]; decide +kernel
  · exact h

/-- … and its descent bound also follows from C05's alias gate and its size (`d ≤ 1`, `n = 1`: 9 units of 64) -/
example : DescentWithin (programOf C08Demo.files) = true :=
  descent_bound_from_alias_gate _ C08Demo.demo_accepted C08Demo.demo_gate C08Demo.demo_small

/-- `resolved_links_exist_of_accepted` on it: the link `{@link M::S}` in the comment of `N::T` travels as `M::S`, and the
    struct is declared in a transmitted file -/
example : convLink (buildTable (programOf C08Demo.files)) "N::T" "M::S" = sb "M::S" ∧
    ∃ rf ∈ transmitted C08Demo.files, EntityOf rf.file "M::S" .struct "S" := by
  obtain ⟨n, hf, hkey, hkind, hident⟩ := C08Demo.find_S_in_T
  have := (resolved_links_exist_of_accepted C08Demo.files C08Demo.demo_accepted "N::T" "M::S").1 n hf (by rw [hkind]; decide)
  rwa [hkey, hkind, hident] at this

/-- `accepted_descent_is_bounded` on it: the field type `[cs::u] M::A?` of `T::y` (written nesting 0; one anonymous type is
    written in alias definitions) is flattened within 2·0 + 2·1 + 5 = 7 units -/
example : trefWithin (buildTable (programOf C08Demo.files)) "N" 7 (.mk [⟨"cs::u", []⟩] (.named "M::A") true) = true :=
  accepted_descent_is_bounded _ C08Demo.demo_accepted C08Demo.demo_gate "N" (.mk [⟨"cs::u", []⟩] (.named "M::A") true)

/-- **the descent bound is needed and does not follow from acceptance**: a struct whose field nests 32 sequences is accepted
    by the compiler model (and by the real compiler), yet the converter model's descent is exhausted on it; 31 fit -/
example : validate (programOf C08Demo.deep) = [] ∧ ParserShaped (programOf C08Demo.deep) = true ∧
    DescentWithin (programOf C08Demo.deep) = false ∧ AllResolve C08Demo.deep = false ∧
    trefWithin (buildTable (programOf C08Demo.deep)) "M" elabFuel (C08Demo.nestSeq 31) = true :=
  C08Demo.deep_accepted_not_within

/-- **`validate` has no alias gate**: `typealias A = Sequence<A>` passes every phase of `validate`; C05's model of the gate
    reports it (E019), the descent never ends on it -/
example : validate (programOf C08Demo.aliasLoop) = [] ∧ ParserShaped (programOf C08Demo.aliasLoop) = true ∧
    Cyc.aliasGateErrors (programOf C08Demo.aliasLoop) = ["M::A"] ∧
    DescentWithin (programOf C08Demo.aliasLoop) = false ∧ AllResolve C08Demo.aliasLoop = false :=
  C08Demo.aliasLoop_accepted_not_within

/-- **`ParserShaped` is needed**: `interface I : bool {}` and a module declaration without a name pass `validate` -/
example : (validate (programOf C08Demo.primBase) = [] ∧ DescentWithin (programOf C08Demo.primBase) = true ∧
      ParserShaped (programOf C08Demo.primBase) = false ∧ AllResolve C08Demo.primBase = false) ∧
    (validate (programOf C08Demo.noName) = [] ∧ DescentWithin (programOf C08Demo.noName) = true ∧
      ParserShaped (programOf C08Demo.noName) = false ∧ AllResolve C08Demo.noName = false) :=
  C08Demo.shape_needed

/-- implicit enumerator values: `P, Q = 5, R` are 0, 5, 6 -/
example : enumValues none [⟨[], [], "P", none, none⟩, ⟨[], [], "Q", none, some ⟨false, 10, 5, false⟩⟩, ⟨[], [], "R", none, none⟩] =
    [0, 5, 6] := by decide

/-! ### acceptance by the complete pipeline -/

/-- the two-file program is accepted by the complete pipeline, its modules are named, it is syntactically small: the guard is
    DERIVED — no shape hypothesis, no alias-gate hypothesis, no resolution-dependent hypothesis -/
example : AllResolve C08Demo.files = true :=
  compiled_files_resolve_full C08Demo.files C08Demo.demo_accepted_full C08Demo.demo_modules_named C08Demo.demo_small
example : AllResolve (reqFilesOf (fun i => "f" ++ toString i ++ ".slice") [1] (programOf C08Demo.files)) = true :=
  compiled_programs_resolve_full _ [1] _ C08Demo.demo_accepted_full C08Demo.demo_modules_named C08Demo.demo_small

/-- the two programs that `validate` accepts and the compiler rejects are rejected by the complete pipeline with the
    compiler's codes (E019, E017): no hypothesis has to exclude them -/
example : validateFull (programOf C08Demo.aliasLoop) = [Validate.code "SelfReferentialTypeAliasNeedsConcreteType"] ∧
    validateFull (programOf C08Demo.primBase) = [Validate.code "TypeMismatch"] :=
  ⟨C08Demo.aliasLoop_rejected_full, C08Demo.primBase_rejected_full⟩

/-- **`ModulesNamed` is needed**: a module declaration without a name passes every phase — no source text can express it -/
example : validateFull (programOf C08Demo.noName) = [] ∧ ModulesNamed (programOf C08Demo.noName) = false ∧
    AllResolve C08Demo.noName = false := C08Demo.noName_accepted_full

/-- **`NestingSmall` is needed**: 32 nested sequences are accepted by the complete pipeline (and the compiler); the converter
    MODEL's descent constant is exceeded -/
example : validateFull (programOf C08Demo.deep) = [] ∧ ModulesNamed (programOf C08Demo.deep) = true ∧
    NestingSmall (programOf C08Demo.deep) = false ∧ AllResolve C08Demo.deep = false := C08Demo.deep_accepted_full

end Slicec.C08

#print axioms Slicec.C08.field_order_matches_schema
#print axioms Slicec.C08.macro_order_is_declaration_order
#print axioms Slicec.C08.manual_encoder_shapes
#print axioms Slicec.C08.discriminants_match_schema
#print axioms Slicec.C08.request_shape_matches_schema
#print axioms Slicec.C08.numeric_ids_backward
#print axioms Slicec.C08.numeric_id_is_decimal
#print axioms Slicec.C08.schema_codec_roundtrip
#print axioms Slicec.C08.attribute_roundtrip
#print axioms Slicec.C08.typeRef_roundtrip
#print axioms Slicec.C08.docComment_roundtrip
#print axioms Slicec.C08.entityInfo_roundtrip
#print axioms Slicec.C08.field_roundtrip
#print axioms Slicec.C08.symbol_roundtrip
#print axioms Slicec.C08.sliceFile_roundtrip
#print axioms Slicec.C08.request_decodes
#print axioms Slicec.C08.content_faithful_partial
#print axioms Slicec.C08.return_docs_as_demanded
#print axioms Slicec.C08.content_faithful_docs
#print axioms Slicec.C08.toValAttribute_injective
#print axioms Slicec.C08.content_read_back
#print axioms Slicec.C08.content_faithful
#print axioms Slicec.C08.content_faithful_decoded
#print axioms Slicec.C08.decoded_value_determines_file
#print axioms Slicec.C08.type_reference_shape
#print axioms Slicec.C08.type_reference_flags
#print axioms Slicec.C08.files_in_order
#print axioms Slicec.C08.definitions_in_order
#print axioms Slicec.C08.members_in_order
#print axioms Slicec.C08.definition_infos_in_order
#print axioms Slicec.C08.parameter_documentation
#print axioms Slicec.C08.enumerator_values
#print axioms Slicec.C08.enumerator_value_decodes
#print axioms Slicec.C08.tag_as_written
#print axioms Slicec.C08.attribute_verbatim
#print axioms Slicec.C08.named_ids_exist
#print axioms Slicec.C08.resolved_links_exist
#print axioms Slicec.C08.definitions_need_a_module
#print axioms Slicec.C08.written_names_resolve
#print axioms Slicec.C08.alias_target_is_a_site
#print axioms Slicec.C08.accepted_reference_converts
#print axioms Slicec.C08.descent_bound_is_nesting_31
#print axioms Slicec.C08.compiled_programs_resolve
#print axioms Slicec.C08.compiled_files_resolve
#print axioms Slicec.C08.named_ids_exist_of_accepted
#print axioms Slicec.C08.resolved_links_exist_of_accepted
#print axioms Slicec.C08.content_faithful_decoded_of_accepted
#print axioms Slicec.C08.accepted_descent_is_bounded
#print axioms Slicec.C08.descent_bound_from_alias_gate
#print axioms Slicec.C08.compiled_programs_resolve_gate
#print axioms Slicec.C08.compiled_programs_resolve_full
#print axioms Slicec.C08.compiled_files_resolve_full
#print axioms Slicec.C08.accepted_full_gives_gate_hypotheses
#print axioms Slicec.C08.named_ids_exist_of_accepted_full
#print axioms Slicec.C08.resolved_links_exist_of_accepted_full
#print axioms Slicec.C08.content_faithful_decoded_of_accepted_full
