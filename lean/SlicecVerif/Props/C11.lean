/-
  C11 — Decoding untrusted bytes fails cleanly: no crash, no over-read.
  The model's `decode` returns `Except DErr _` by type: there is no panic outcome because the translator finds
  no panic site in the non-test code of slice-codec (`Gen.CodecPanics` lists what it finds; obligation `no_panic_sites`).
-/
import SlicecVerif.Lemmas.Decode
import SlicecVerif.Gen.CodecPanics

namespace Slicec.C11

open Slicec

/-- a successful decode consumed a non-empty prefix of the input and nothing else: the unread part
    is a suffix of the input (never reads outside the buffer, always makes progress). -/
theorem decode_consumes_prefix (t : Ty) (bs : Bytes) (v : Val t) (rest : Bytes)
    (h : decode t bs = .ok (v, rest)) : ∃ pre, pre ≠ [] ∧ bs = pre ++ rest :=
  decode_spfx t bs v rest h

/-- bool strictness: only the bytes 0 and 1 are accepted. -/
theorem bool_strict (bs : Bytes) (v : Bool) (rest : Bytes) (h : decode .bool bs = .ok (v, rest)) :
    ∃ b, bs = b :: rest ∧ ((b = 0 ∧ v = false) ∨ (b = 1 ∧ v = true)) :=
  decBool_ok bs v rest h

/-- decoded strings are valid UTF-8. -/
theorem string_valid_utf8 (bs : Bytes) (s : Bytes) (rest : Bytes) (h : decode .str bs = .ok (s, rest)) :
    validUTF8 s = true := by
  rw [show decode .str bs = decStr bs from rfl, decStr_eq] at h
  obtain ⟨n, r, _, h⟩ := andThen_ok h
  obtain ⟨raw, r', _, h⟩ := andThen_ok h
  split at h
  · cases h; assumption
  · cases h

/-- narrowed variable-width integers are in range (never truncated). -/
theorem varint32_in_range (bs : Bytes) (v : Int) (rest : Bytes) (h : decode .varint32 bs = .ok (v, rest)) :
    -(2 ^ 31) ≤ v ∧ v ≤ 2 ^ 31 - 1 := (narrow_ok _ _ _ _ _ h).2

theorem varuint32_in_range (bs : Bytes) (v : Int) (rest : Bytes) (h : decode .varuint32 bs = .ok (v, rest)) :
    0 ≤ v ∧ v ≤ 2 ^ 32 - 1 := (narrow_ok _ _ _ _ _ h).2

/-- a decoded dictionary has distinct keys (a duplicate is an error), for both map types. -/
theorem dict_keys_distinct (k v : Ty) (bs : Bytes) (es : List (Val k × Val v)) (rest : Bytes)
    (h : decode (.dictH k v) bs = .ok (es, rest) ∨ decode (.dictB k v) bs = .ok (es, rest)) :
    (es.map Prod.fst).Nodup := by
  rw [decode_dictH, decode_dictB] at h
  obtain ⟨n, r, _, h⟩ : ∃ n r, decVaruintRaw bs = .ok (n, r) ∧ decEntries (decode k) (decode v) n [] r = .ok (es, rest) :=
    h.elim andThen_ok andThen_ok
  exact (decEntries_keys _ _ _ _ _ _ _ h).2.1

/-- memory for elements is paid for by input: a decoded sequence has at most as many elements as
    bytes were consumed. -/
theorem seq_count_bounded (t : Ty) (bs : Bytes) (vs : List (Val t)) (rest : Bytes)
    (h : decode (.seq t) bs = .ok (vs, rest)) : vs.length ≤ bs.length - rest.length := by
  rw [decode_seq] at h
  obtain ⟨n, r, hn, h⟩ := andThen_ok h
  have h1 := (decVaruintRaw_spfx _ _ _ hn).length_lt
  obtain ⟨h2, h3⟩ := decList_count _ _ _ _ _ (decode_spfx t) h
  omega

/-- time is governed by the input, not by the announced length: whatever element count `n` the input
    announces, the sequence loop (in its counting copy `decListCalls`) calls the element decoder at most
    `length + 1` times: it stops at the first failure and every success consumes at least one byte. -/
theorem loop_calls_bounded (t : Ty) (n : Nat) (bs : Bytes) :
    decListCalls (decode t) n bs ≤ bs.length + 1 :=
  decListCalls_le (decode t) (decode_spfx t) n bs

/-- the translator's formula for what `HashMap::decode_from` pre-allocates never exceeds the unread input. -/
theorem hash_reservation_bounded (announced : Nat) (rest : Bytes) :
    Gen.hashMapReserve announced rest.length ≤ rest.length := by
  unfold Gen.hashMapReserve; omega

/-- … and the same for sequences (elements pre-allocated) and strings (bytes allocated): never more than the unread bytes,
    whatever length the input announces. -/
theorem vec_reservation_bounded (announced : Nat) (rest : Bytes) :
    Gen.vecReserve announced rest.length ≤ rest.length := by
  unfold Gen.vecReserve; omega

theorem string_reservation_bounded (announced : Nat) (rest : Bytes) :
    Gen.stringReserve announced rest.length ≤ rest.length := by
  unfold Gen.stringReserve; split <;> omega

/-- `skip_tagged_fields` needs no more fuel than the model gives it (the loop terminates). -/
theorem skip_fuel_sufficient (fuel : Nat) (bs : Bytes) (h : bs.length < fuel) :
    skipTagged fuel bs = skipTaggedFields bs :=
  skipTagged_fuel fuel (bs.length + 1) bs h (by omega)

/-- the translator's list of `todo!`/`unimplemented!`/`panic!`/`unwrap`/`expect` sites in non-test code of
    slice-codec is empty. -/
theorem no_panic_sites : Gen.codecPanicSites = [] := rfl

/-- Framing — "no over-read" in the strong sense. A successful decode depends only on the bytes it
    consumed: with any bytes appended behind the input, the same value is decoded and exactly the appended
    bytes are additionally left unread. So the decoder not only stays inside the buffer
    (`decode_consumes_prefix`), it does not even look at the unread part of it — what follows a value in a
    buffer (the next field, another message, attacker-chosen padding) cannot influence how the value is
    read. For every type incl. nested sequences and dictionaries, every input. -/
theorem decode_framed (t : Ty) (bs : Bytes) (v : Val t) (rest ex : Bytes)
    (h : decode t bs = .ok (v, rest)) : decode t (bs ++ ex) = .ok (v, rest ++ ex) :=
  Slicec.decode_framed t bs v rest ex h

/-- consequence: decoding the first of two inputs from their concatenation leaves exactly the second
    (the second conjunct repeats `hb`). -/
theorem decode_sequential (t u : Ty) (a b : Bytes) (x : Val t) (y : Val u) (rest : Bytes)
    (ha : decode t a = .ok (x, [])) (hb : decode u b = .ok (y, rest)) :
    decode t (a ++ b) = .ok (x, b) ∧ decode u b = .ok (y, rest) := by
  exact ⟨decode_framed t a x [] b ha, hb⟩

/-- framing for a run of `n` consecutive decodes (a stream of values without a length prefix): appended
    bytes change neither the values read nor what is consumed. -/
theorem decode_stream_framed (t : Ty) (n : Nat) (bs : Bytes) (vs : List (Val t)) (rest ex : Bytes)
    (h : decList (decode t) n bs = .ok (vs, rest)) :
    decList (decode t) n (bs ++ ex) = .ok (vs, rest ++ ex) :=
  (decList_local (decode_local t) n).framed bs vs rest ex h

example : decode (.seq (.uint .w1)) [8, 7, 9] = .ok (([7, 9] : List Int), []) := by rfl
example : decode (.seq (.uint .w1)) ([8, 7, 9] ++ [0xff, 0xff]) = .ok (([7, 9] : List Int), [0xff, 0xff]) := by rfl
example : decode (.dictH (.uint .w1) .bool) [8, 1, 1, 1, 0] = .error .dupKey := by rfl
example : decode .bool [2] = .error (.illegalBool 2) := by rfl
example : decode (.seq (.uint .w8)) [0x02, 0x00, 0x00, 0x40] = .error (.eob 8 0) := by rfl
example : skipTaggedFields [4, 8, 1, 2, 0xfc, 9] = .ok ((), [9]) := by rfl

end Slicec.C11

#print axioms Slicec.C11.decode_consumes_prefix
#print axioms Slicec.C11.bool_strict
#print axioms Slicec.C11.string_valid_utf8
#print axioms Slicec.C11.varint32_in_range
#print axioms Slicec.C11.varuint32_in_range
#print axioms Slicec.C11.dict_keys_distinct
#print axioms Slicec.C11.seq_count_bounded
#print axioms Slicec.C11.loop_calls_bounded
#print axioms Slicec.C11.hash_reservation_bounded
#print axioms Slicec.C11.vec_reservation_bounded
#print axioms Slicec.C11.string_reservation_bounded
#print axioms Slicec.C11.skip_fuel_sufficient
#print axioms Slicec.C11.no_panic_sites
#print axioms Slicec.C11.decode_framed
#print axioms Slicec.C11.decode_sequential
#print axioms Slicec.C11.decode_stream_framed
