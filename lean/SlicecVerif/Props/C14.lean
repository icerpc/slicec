/-
  C14 — Emitted diagnostics are complete, well-formed and match the totals.
  Statements are about the emitter model `Model/Emit.lean` (colours off) for all diagnostic lists,
  all strings and all source files; the model is tied to diagnostic_emitter.rs / slice_file.rs by the
  `emit` correspondence engine (byte-exact) and by the extracted format table `Gen.EmitFormat`.
-/
import SlicecVerif.Lemmas.Emit

namespace Slicec.C14

open Slicec Slicec.Emit

/-- Escaping loses nothing: for every string (quotes, backslashes, all control characters, U+007F,
    U+2028, non-ASCII, astral) the JSON reader gives back exactly the string that was escaped. -/
theorem json_string_roundtrip (s : String) : readJsonString (jsonEscape s) = some s := by
  simp [readJsonString, jsonEscape, String.toList_ofList, readBody_escChars, String.ofList_toList]

/-- The escaped text never contains a raw quote, so a string literal ends where the emitter ended it:
    reading `"` + escape(s) + `"` + anything returns `s` and leaves exactly the `anything`. -/
theorem json_string_self_delimiting (s : String) (rest : List Char) :
    readStr (jsonStr s ++ rest) = some (s, rest) :=
  readStr_jsonStr s rest

/-- One object, one line: what is written for a diagnostic is its object followed by exactly one
    newline, and the object itself contains no newline — in fact no character below U+0020 at all
    (so no carriage return, no escape character either), whatever the messages and file names hold. -/
theorem json_one_line (d : Diag) :
    (emitJsonOne d).toList = jsonObj d ++ ['\n'] ∧ '\n' ∉ jsonObj d ∧ ∀ c ∈ jsonObj d, 32 ≤ c.toNat := by
  exact ⟨by simp [emitJsonOne, jsonLine], fun h => by simpa using NoCtl_jsonObj d _ h, NoCtl_jsonObj d⟩

/-- The JSON stream has exactly as many newlines as there are diagnostics that are not allowed. -/
theorem json_line_count (ds : List Diag) :
    (emitJson ds).toList.count '\n' = (ds.filter notAllowed).length := by
  simp only [emitJson, String.toList_ofList, emitJsonChars_eq]
  induction ds.filter notAllowed with
  | nil => simp
  | cons d ds ih =>
    have h0 : (jsonObj d).count '\n' = 0 := List.count_eq_zero.mpr (json_one_line d).2.1
    simp [List.count_append, jsonLine, h0, ih]

/-- JSON format: the stream is the concatenation, in recording order, of one line per diagnostic
    that is not allowed — nothing before, between or after them. -/
theorem emit_order_once_json (ds : List Diag) :
    emitJson ds = String.join ((ds.filter notAllowed).map emitJsonOne) := by
  apply String.toList_inj.mp
  simp only [emitJson, String.toList_ofList, emitJsonChars_eq, String.toList_join]
  induction ds.filter notAllowed with
  | nil => simp
  | cons d ds ih => simp [emitJsonOne, ih]

/-- Human format: the emitter runs the block computation of every diagnostic that is not allowed,
    in recording order, one each, and nothing else. -/
theorem emit_order_once_human (files : List SrcFile) (ds : List Diag) :
    emitHumanChars files ds = seqRes ((ds.filter notAllowed).map (humanBlock files)) :=
  emitHumanChars_eq files ds

/-- Human format, when nothing crashes: the output is the concatenation of the blocks of the
    diagnostics that are not allowed, in order, one each (`human_block_shape` says what a block is). -/
theorem emit_order_once_human_ok (files : List SrcFile) (ds : List Diag) (out : String)
    (h : emitHuman files ds = .ok out) :
    ∃ blocks : List (List Char),
      (ds.filter notAllowed).map (humanBlock files) = blocks.map Outcome.ok ∧
      out = String.ofList blocks.flatten := by
  obtain ⟨cs, h2, rfl⟩ := emitHuman_ok files ds out h
  rw [emitHumanChars_eq] at h2
  obtain ⟨bl, h3, rfl⟩ := seqRes_ok _ _ h2
  exact ⟨bl, h3, rfl⟩

/-- The block of a diagnostic, when its snippets can be drawn, is its headline with level, code and
    message, then its own location and snippet, then its notes in order. -/
theorem human_block_shape (files : List SrcFile) (d : Diag) (b : List Char) (h : humanBlock files d = .ok b) :
    ∃ sn ns, emitOptSnippet files d.span = .ok sn ∧ emitNotes files d.notes = .ok ns ∧
      b = (humanPrefix d.level).toList ++ [' ', '['] ++ d.code.toList ++ [']', ':', ' '] ++ d.message.toList ++ ['\n'] ++ sn ++ ns := by
  obtain ⟨sn, h1, h⟩ := bind_ok _ _ _ h
  obtain ⟨ns, h2, h⟩ := bind_ok _ _ _ h
  exact ⟨sn, ns, h1, h2, (Outcome.ok.inj h).symm⟩

/-- The location part of a block: ` --> <file>:<row>:<col>` with the span's own file name and start
    position, then the snippet of the first file of that name, then a newline. -/
theorem snippet_location_line (files : List SrcFile) (sp : Span) (out : List Char) (h : emitSnippet files sp = .ok out) :
    ∃ f sn, files.find? (fun f => f.path == sp.file) = some f ∧ getSnippet f.text.toList sp.start sp.stop = .ok sn ∧
      out = " --> ".toList ++ sp.file.toList ++ [':'] ++ decChars sp.start.row ++ [':'] ++ decChars sp.start.col ++ ['\n'] ++ sn ++ ['\n'] := by
  unfold emitSnippet at h
  split at h
  · cases h
  · rename_i f hf
    obtain ⟨sn, hsn, h⟩ := bind_ok _ _ _ h
    exact ⟨f, sn, hf, hsn, (Outcome.ok.inj h).symm⟩

/-- Suppressed lints leave no trace: in both formats the output (or the crash) is the same as if the
    allowed diagnostics had never been recorded; the totals are unchanged too. -/
theorem allowed_leave_no_trace (files : List SrcFile) (ds : List Diag) :
    emitJson ds = emitJson (ds.filter notAllowed) ∧
    emitHuman files ds = emitHuman files (ds.filter notAllowed) ∧
    totals ds = totals (ds.filter notAllowed) := by
  refine ⟨?_, ?_, (totals_filter ds).symm⟩
  · rw [emitJson, emitJson, emitJsonChars_eq, emitJsonChars_eq, filter_notAllowed_idem]
  · rw [emitHuman, emitHuman, emitHumanChars_eq, emitHumanChars_eq, filter_notAllowed_idem]

/-- The totals are exactly the numbers of warnings and of errors among the diagnostics that are
    shown (allowed ones count for nothing), and the failure status is raised exactly when an error
    is among them. -/
theorem totals_agree (ds : List Diag) :
    (totals ds).1 = ((ds.filter notAllowed).filter fun d => d.level == .warning).length ∧
    (totals ds).2 = ((ds.filter notAllowed).filter fun d => d.level == .error).length ∧
    (totals ds).1 + (totals ds).2 = (ds.filter notAllowed).length ∧
    (exitFailure ds = true ↔ ∃ d ∈ ds, d.level = .error) := by
  have h := totals_filter ds
  rw [totals_eq] at h
  refine ⟨congrArg Prod.fst h.symm, congrArg Prod.snd h.symm, totals_sum ds, ?_⟩
  simp only [exitFailure, totals_eq, bne_iff_ne, ne_eq, List.length_eq_zero_iff, List.filter_eq_nil_iff, beq_iff_eq,
    Classical.not_forall, Decidable.not_not, exists_prop]

/-- What a consumer reads back from an emitted line is exactly the five fields `message`, `severity`,
    `span`, `notes`, `error_code` (in this order, nothing else on the line) holding the diagnostic's own
    message, level name, span, notes and code — for every diagnostic, whatever its strings contain. -/
theorem json_shape (d : Diag) :
    readDiagLine (emitJsonOne d) = some ⟨d.message, severity d.level, d.span, d.notes, d.code⟩ := by
  simp [readDiagLine, emitJsonOne, jsonLine, String.toList_ofList, readDiagChars_jsonObj]

/-- The severities read back from the JSON stream add up to the totals: the lines that say `error`
    are as many as `total_errors`, those that say `warning` as many as `total_warnings`. -/
theorem json_severities_match_totals (ds : List Diag) :
    ((ds.filter notAllowed).filter fun d => (readDiagLine (emitJsonOne d)).map (·.severity) == some "warning").length = (totals ds).1 ∧
    ((ds.filter notAllowed).filter fun d => (readDiagLine (emitJsonOne d)).map (·.severity) == some "error").length = (totals ds).2 := by
  have hs : ∀ d : Diag,
      ((readDiagLine (emitJsonOne d)).map (·.severity) == some "warning") = (d.level == .warning) ∧
      ((readDiagLine (emitJsonOne d)).map (·.severity) == some "error") = (d.level == .error) := by
    intro d; rw [json_shape]
    cases d.level <;> simp [severity, Gen.severityError, Gen.severityWarning]
  exact ⟨by simp only [(hs _).1, (totals_agree ds).1], by simp only [(hs _).2, (totals_agree ds).2.1]⟩

/-- JSON format never writes a raw escape character (nor any other control character except the
    newline that ends each object): U+001B inside a message or file name is written as `\u001b`. -/
theorem no_escape_when_disabled_json (ds : List Diag) :
    '\x1b' ∉ (emitJson ds).toList ∧ ∀ c ∈ (emitJson ds).toList, 32 ≤ c.toNat ∨ c = '\n' := by
  have hall : ∀ c ∈ (emitJson ds).toList, 32 ≤ c.toNat ∨ c = '\n' := by
    intro c hc
    simp only [emitJson, String.toList_ofList, emitJsonChars_eq, List.mem_flatten, List.mem_map] at hc
    obtain ⟨l, ⟨d, _, rfl⟩, hcl⟩ := hc
    simp only [jsonLine, List.mem_append, List.mem_singleton] at hcl
    rcases hcl with h | h
    · exact Or.inl (NoCtl_jsonObj d c h)
    · exact Or.inr h
  exact ⟨fun h => by simpa using hall _ h, hall⟩

/-- Human format with colours off: every character written is either one of the emitter's own fixed
    characters (punctuation, digits, the words error / warning / note, spaces) or occurs in an input —
    a source text, or a diagnostic's code, message, file name or note. -/
theorem human_output_chars_from_inputs (files : List SrcFile) (ds : List Diag) (out : String)
    (h : emitHuman files ds = .ok out) :
    ∀ c ∈ out.toList, c ∈ fixedAlphabet ∨ c ∈ inputChars files ds := by
  obtain ⟨cs, h2, rfl⟩ := emitHuman_ok files ds out h
  rw [String.toList_ofList]
  refine CharsFromR_emitHumanChars files ds (inputChars files ds) ?_ ?_ cs h2
  · intro f hf c hc
    exact List.mem_append_left _ (List.mem_flatMap.mpr ⟨f, hf, hc⟩)
  · intro d hd c hc
    exact List.mem_append_right _ (List.mem_flatMap.mpr ⟨d, hd, hc⟩)

/-- With colours disabled the human output contains U+001B only if an input string does. -/
theorem no_escape_when_disabled (files : List SrcFile) (ds : List Diag) (out : String)
    (h : emitHuman files ds = .ok out) (hesc : '\x1b' ∈ out.toList) : '\x1b' ∈ inputChars files ds := by
  rcases human_output_chars_from_inputs files ds out h _ hesc with h1 | h1
  · exact absurd h1 (by decide +kernel)
  · exact h1

/-- The snippet arithmetic cannot underflow (no crash, in any build) when the span is 1-based and ordered:
    a diagnostic located in a known file then gets its snippet. (`SpanOk` also asks that a span over several
    lines does not start behind the end of its first line as `lines()` keeps it; the proof does not use that.) -/
theorem snippet_no_underflow (files : List SrcFile) (sp : Span) (f : SrcFile)
    (hf : files.find? (fun f => f.path == sp.file) = some f) (hok : SpanOk f.text.toList sp.start sp.stop) :
    ∃ out, emitSnippet files sp = .ok out := by
  obtain ⟨sn, hsn⟩ := getSnippet_ok f.text.toList sp.start sp.stop hok.1 hok.2.1 hok.2.2.1 hok.2.2.2.1
  unfold emitSnippet
  simp only [hf, hsn]
  exact ⟨_, rfl⟩

/-- A span the lexers hand out for a CRLF file is drawn, and so is that of the same program with LF ends. The witness is
    chosen, outside the statement, as one that does not meet the last clause of `SpanOk`: the lexers count the `\r` of a
    `\r\n` as a column, `lines()` strips it, so the span 2:9–3:17 starts behind its first line, `/// doc` of 7 characters
    (`saturating_sub` then leaves nothing to highlight on that line). -/
theorem snippet_crlf_witness_drawn :
    (match getSnippet "module M\r\n/// doc\r\nunchecked enum E : string { A }\r\n".toList ⟨2, 9⟩ ⟨3, 17⟩ with
      | .ok _ => true | _ => false) = true ∧
    ∃ out, getSnippet "module M\n/// doc\nunchecked enum E : string { A }\n".toList ⟨2, 8⟩ ⟨3, 17⟩ = .ok out := by
  constructor
  · obtain ⟨out, h⟩ := getSnippet_ok "module M\r\n/// doc\r\nunchecked enum E : string { A }\r\n".toList ⟨2, 9⟩ ⟨3, 17⟩
      (by decide) (by decide) (by decide) (by decide)
    rw [h]
  · exact getSnippet_ok _ _ _ (by decide) (by decide) (by decide) (by decide)

/-- Highlight geometry (shared with C09), against the source line as it is shown: after one space, with every
    tab expanded. The underline starts exactly under the first spanned character of that expanded line
    and is exactly as wide as the expanded spanned text; an empty span is marked by `/\` whose slash
    sits in the column before that position. -/
theorem highlight_geometry (line : List Char) (hs he : Nat) (hle : hs ≤ he) (hlen : he ≤ line.length) :
    getHighlight line hs he = .ok (
      if hs = he then List.replicate (expandTabs (line.take hs)).length ' ' ++ ['/', '\\']
      else List.replicate (1 + (expandTabs (line.take hs)).length) ' ' ++
           List.replicate (expandTabs ((line.drop hs).take (he - hs))).length '-') := by
  unfold getHighlight
  simp only [expandTabs_length]
  split
  · simp; decide
  · have hlt : ¬ he < hs := by omega
    simp only [hlt, if_false]
    have hseg : ((line.drop hs).take (he - hs)).length = he - hs := by
      simp [List.length_take, List.length_drop]; omega
    rw [widthOf_eq ((line.drop hs).take (he - hs)), hseg]

example : readJsonString (jsonEscape "a\"b\\c\n\x01\x7f") = some "a\"b\\c\n\x01\x7f" := json_string_roundtrip _
example : jsonEscape "a\"\n\x1b" = "a\\\"\\n\\u001b" := by decide
example : totals [⟨"E002", "m", .error, none, []⟩, ⟨"L", "m", .allowed, none, []⟩, ⟨"L", "m", .warning, none, []⟩] = (1, 1) := by decide

end Slicec.C14

#print axioms Slicec.C14.json_string_roundtrip
#print axioms Slicec.C14.json_string_self_delimiting
#print axioms Slicec.C14.json_one_line
#print axioms Slicec.C14.json_line_count
#print axioms Slicec.C14.emit_order_once_json
#print axioms Slicec.C14.emit_order_once_human
#print axioms Slicec.C14.emit_order_once_human_ok
#print axioms Slicec.C14.human_block_shape
#print axioms Slicec.C14.snippet_location_line
#print axioms Slicec.C14.allowed_leave_no_trace
#print axioms Slicec.C14.totals_agree
#print axioms Slicec.C14.json_shape
#print axioms Slicec.C14.json_severities_match_totals
#print axioms Slicec.C14.no_escape_when_disabled_json
#print axioms Slicec.C14.human_output_chars_from_inputs
#print axioms Slicec.C14.no_escape_when_disabled
#print axioms Slicec.C14.snippet_no_underflow
#print axioms Slicec.C14.snippet_crlf_witness_drawn
#print axioms Slicec.C14.highlight_geometry
