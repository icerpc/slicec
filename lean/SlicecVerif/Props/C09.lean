/-
  C09 — Reported locations point at the right source text.
  The printer (Model/Print.lean) lays a program out and records, for every element, the location of the
  first character of its first own token and the location right after its last own token. The theorems
  below show, for every item list and every layout, that these recorded spans are 1-based, counted in characters,
  start ≤ end and inside the text (`spans_wellformed`), and, for item lists that pass `itemsOk` and `itemsTight`, exactly
  at token boundaries (`spans_are_token_extents_items`); the correspondence (projection `spans`) then compares them with
  the spans of the real AST.

  The lexical half: the model of the Slice lexer WITH locations (Model/SliceLexerLoc.lean — `advance_buffer`,
  `self.cursor`, the `(start, token, end)` every arm of `lex_next_slice_token` returns; tied to the real lexer by
  stream `C09lex`) assigns to the rendered text, for every `fileOk` file, every layout and every seed, exactly the
  token locations the printer recorded (`tokenLocs`; of a spelling that is several tokens, a scoped name or directive
  `A::B`, the printer records the outer ends only, and the tokens in between are that spelling read on its own from the
  recorded start), and, if the file is `fileTight` as well, every span the printer reports runs from
  the start of a token of that stream to the end of a token of that stream — the first token after the element's `op`
  marker and the last token before its `cl` marker, i.e. what `@L` / `@R` around the element's production deliver.  What
  remains by correspondence is the Slice parser (LALRPOP tables, grammar actions): projection `spans`.

  The comment half: the comment lexer with locations (Model/CommentLoc.lean; stream `C09clex`) on EVERY list of lines —
  it erases to C16's lexer, its tokens tile their lines, columns count characters, the stream is ordered when the lines
  sit on increasing rows — and the comment parser on that stream (Model/CommentDocLoc.lean: `@L` / `@R` of the comment
  grammar, `create_doc_comment`, the comment lints; streams `C09doc` / `C09docp`): both ends of the span of every part of
  a doc comment, of a rejected comment's lint and of a validator's comment lint are token boundaries of the comment's own
  stream (the comment's own start lies three columns left of one) and so lie within the comment's lines.
-/
import SlicecVerif.Lemmas.Layout
import SlicecVerif.Lemmas.SliceLexerLocLayout
import SlicecVerif.Lemmas.SliceLexerItems
import SlicecVerif.Lemmas.SliceLexerLocItems
import SlicecVerif.Lemmas.CommentLoc
import SlicecVerif.Lemmas.CommentDocLocParts

namespace Slicec.C09

open Slicec

/-- the single fact behind all location arithmetic: advancing over `a ++ b` is advancing over `a`, then `b`. -/
theorem advance_fold (l : Loc) (a b : List Char) : (a ++ b).foldl advance l = b.foldl advance (a.foldl advance l) :=
  List.foldl_append

/-- columns count characters — tabs, carriage returns and non-ASCII characters are one column each — and
    a text without line break stays on its row. -/
theorem columns_in_characters (l : Loc) (cs : List Char) (h : '\n' ∉ cs) :
    cs.foldl advance l = ⟨l.row, l.col + cs.length⟩ := by
  induction cs generalizing l with
  | nil => rfl
  | cons c cs ih =>
    rw [List.foldl_cons, ih _ (List.not_mem_of_not_mem_cons h), List.length_cons]
    simp [advance, (List.ne_of_not_mem_cons h).symm]; omega

/-- a line break starts the next row at column 1. -/
theorem newline_resets (l : Loc) : advance l '\n' = ⟨l.row + 1, 1⟩ := by simp [advance]

/-- the printer's bookkeeping at one token: when `emitTok` writes `s` after the text `t`, the text becomes `t ++ s`, every
    pending element is opened at the location after `t`, and `lastEnd` becomes the location after `t ++ s`. (That the
    LEXER gives its tokens these locations is `token_extent_exact` and `layout_locations_items` below.) -/
theorem token_loc_exact (st : LState) (s : String) (d : Bool) (h : LInv st) :
    textOf (emitTok st s d) = textOf st ++ s ∧
    (∀ p ∈ st.pendingOpen, (p, advanceStr ⟨1, 1⟩ (textOf st)) ∈ (emitTok st s d).opened) ∧
    (emitTok st s d).lastEnd = advanceStr ⟨1, 1⟩ (textOf st ++ s) := by
  refine ⟨by simp [textOf, emitTok], ?_, ?_⟩
  · intro p hp
    simp only [emitTok, List.mem_append, List.mem_map]
    left; exact ⟨p, hp, by rw [h.loc]⟩
  · simp only [emitTok]; rw [advanceStr_append, ← h.loc]

/-- the printer's bookkeeping at the end of an element: `closeSpan` records the start the element was opened with and the
    current `lastEnd`, and nothing else. (That these are the start of the element's first own token and the end of its
    last is `token_loc_exact` for the printer and `spans_are_token_extents` for the lexer.) -/
theorem span_tight (st : LState) (p : String) (start : Loc) (h : st.opened.find? (fun x => x.1 == p) = some (p, start)) :
    (closeSpan st p).spans = ⟨p, start, st.lastEnd⟩ :: st.spans := by
  simp [closeSpan, h]

/-- every span recorded by `render`, for every item list, layout style and seed: start ≤ end, the start's row and
    column count from 1, and the span ends inside the rendered text. -/
theorem spans_wellformed (style seed : Nat) (items : List Item) (s : SpanRec)
    (hs : s ∈ (render style seed items).2) :
    s.start.le s.stop ∧ 1 ≤ s.start.row ∧ 1 ≤ s.start.col ∧
    s.stop.le (advanceStr ⟨1, 1⟩ (render style seed items).1) := by
  rw [SLex.render_spans] at hs
  have htext := SLex.render_toList style seed items (st := items.foldl (renderItem style) (SLex.renderInit seed)) rfl
  have hinv := foldl_renderItem_inv style items _ (SLex.renderInit_LInv seed)
  generalize items.foldl (renderItem style) (SLex.renderInit seed) = st at hs hinv htext
  obtain ⟨a, b, c⟩ := hinv.spans_ok s (List.mem_reverse.mp hs)
  refine ⟨a, b.1, b.2, Loc.le_trans c (Loc.le_trans hinv.lastEnd_le ?_)⟩
  -- the cursor lies at the end of the text, or in front of the line break added after a doc line
  show st.loc.le ((render style seed items).1.toList.foldl advance ⟨1, 1⟩)
  rw [htext, List.foldl_append, SLex.foldl_advance_txt st hinv]
  exact foldl_advance_le _ _

/-! non-vacuity: a concrete layout with a tab, a CR and a non-ASCII character before the token -/
example : advanceStr ⟨1, 1⟩ "\t\r é/* */\nab" = ⟨2, 3⟩ := by decide +kernel
example : ((render 0 0 [.op "x", .tok "struct", .sp, .tok "S", .cl "x"]).2.map fun s => (s.path, s.start, s.stop)) =
    [("x", ⟨1, 1⟩, ⟨1, 9⟩)] := by decide +kernel

/-! ## the lexer's locations (Model/SliceLexerLoc.lean) -/

open Slicec.SLex

/-- one call of `lex_next_slice_token`, for EVERY buffer, cursor and attribute mode: without the locations it is the call of
    the C02 model; the cursor after the call is the cursor before it advanced (`advance_buffer`) over exactly the characters
    the call consumed; what it returns is tagged with the cursor on entry as its start — so an escaped identifier starts at
    its backslash, a string at its opening quote, `::` `->` `[[` `]]` at their first character — except a doc comment, which
    starts three columns further (after `///`); the end it is tagged with is the cursor after the call (`LStep.items`). -/
theorem lexer_call_located (a : Bool) (cur : Loc) (c : Char) (cs : List Char) :
    (lexNextLoc a cur c cs).step = lexNext a c cs ∧
    (∃ pre, c :: cs = pre ++ (lexNext a c cs).rest ∧ (lexNextLoc a cur c cs).cur = pre.foldl advance cur) ∧
    ((∀ d, (lexNext a c cs).res ≠ .tok (.doc d)) → (lexNextLoc a cur c cs).start = cur) ∧
    (∀ d, (lexNext a c cs).res = .tok (.doc d) → (lexNextLoc a cur c cs).start = ⟨cur.row, cur.col + 3⟩) := by
  refine ⟨lexNextLoc_step a cur c cs, lexNextLoc_cur a cur c cs, ?_, ?_⟩
  · intro hnd
    rw [lexNextLoc_start]
    cases hres : (lexNext a c cs).res with
    | tok t => exact startAt_of_not_doc t cur fun d e => hnd d (by rw [hres, e])
    | _ => rfl
  · intro d hd
    rw [lexNextLoc_start, hd]
    rfl

/-- **Erasure.** Dropping the locations from the located lexer gives the lexer of C02 — the iterator's whole output
    (`lexRun`), and what the parser sees (`lexSlice`), whatever the start location of the block. -/
theorem lexer_locations_erase (a : Bool) (cur : Loc) (cs : List Char) :
    (lexRunLoc a cur cs).erase = lexRun a cs ∧ (lexSliceLocAt cur cs).erase = lexSlice cs ∧ (lexSliceLoc cs).erase = lexSlice cs :=
  ⟨lexRunLoc_erase a cur cs, lexSliceLocAt_erase cur cs, lexSliceLoc_erase cs⟩

/-- when a block is exhausted, the cursor has been advanced over every character of it (comments, strings, white space,
    unknown symbols included): rows and columns never drift. -/
theorem lexer_cursor_at_end (a : Bool) (cur : Loc) (cs : List Char) : (lexRunLoc a cur cs).cur = cs.foldl advance cur :=
  lexRunLoc_cur a cur cs

/-- **Every token lies exactly over its spelling — for EVERY text** (not only printed programs), every block start and
    attribute mode: each token / error the lexer returns cuts the text as `pre ++ mid ++ post` with its end = the location
    after `pre ++ mid` and its start = the location after `pre` (a doc comment: three columns later, after its `///`), both
    counted from the block start by `advance`; and for a token, `mid` is the token's spelling (`spells`: the identifier with
    or without its backslash, the string with its quotes, the literal, the keyword's table entry, the punctuation,
    `///` + the doc text + a possibly stripped CR). -/
theorem token_extent_exact (a : Bool) (cur : Loc) (cs : List Char) :
    ∀ it ∈ (lexRunLoc a cur cs).items, ∃ pre mid post, cs = pre ++ mid ++ post ∧
      it.stop = (pre ++ mid).foldl advance cur ∧
      (match it.item with
       | .tok t => spells t mid ∧ it.start = t.startAt (pre.foldl advance cur)
       | .err _ => it.start = pre.foldl advance cur) :=
  lexRunLoc_extent a cur cs

/-- the separation lemma of C02 with locations: if the text `s` ends in a way that `r` cannot change (`compat`), the located
    output on `s ++ r` is the located output on `s` followed by the located output on `r` read as a block that starts at
    the location where `s` ends. -/
theorem lex_is_local_located (a : Bool) (cur : Loc) (s r : List Char) (h : compat (lexRun a s).last r = true) :
    (lexRunLoc a cur (s ++ r)).items =
      (lexRunLoc a cur s).items ++ (lexRunLoc (lexRun a s).attr (s.foldl advance cur) r).items :=
  lexRunLoc_append a cur s r h

/-- a spelling consumed by ONE call of the lexer (every punctuation and two-character token, keyword, identifier, escaped
    identifier, integer literal, string literal with its quotes, doc line): its located output is that one token from the
    location where the spelling starts to the location where it ends; a doc comment starts three columns later. -/
theorem one_call_extent (a : Bool) (cur : Loc) (c : Char) (cs : List Char) (t : SliceTok)
    (hrest : (lexNext a c cs).rest = []) (hres : (lexNext a c cs).res = .tok t) :
    (lexRunLoc a cur (c :: cs)).items = [⟨.tok t, t.startAt cur, (c :: cs).foldl advance cur⟩] :=
  lexRunLoc_oneTok a cur c cs t hrest hres

/-- an identifier as the printer writes it — `w`, or `\w` (always `\w` when `w` is a keyword): ONE identifier token from
    the first character of the spelling, the BACKSLASH included, to the end of the spelling. -/
theorem escaped_identifier_extent (a : Bool) (cur : Loc) (s : String) (esc : Bool)
    (hesc : keywords.contains s = true → esc = true) (hid : isIdentText s.toList = true) :
    (lexRunLoc a cur (if esc then "\\" ++ s else s).toList).items =
      [⟨.tok (.ident s.toList), cur, advanceStr cur (if esc then "\\" ++ s else s)⟩] :=
  lexRunLoc_identSpelling a cur s esc (checkKeyword_of_escaped hesc) hid

/-- a doc line `///` + text (text on one line, not starting with a fourth slash): ONE doc-comment token that starts after
    the three slashes and ends at the end of the line (a CR in front of the line break is stripped from the token's text
    but lies inside its extent). -/
theorem doc_line_extent (a : Bool) (cur : Loc) (s : String) (h1 : s.toList.head? ≠ some '/') (h2 : s.toList.contains '\n' = false) :
    (lexRunLoc a cur ("///" ++ s).toList).items =
      [⟨.tok (.doc (stripCr s.toList)), ⟨cur.row, cur.col + 3⟩, advanceStr cur ("///" ++ s)⟩] :=
  lexRunLoc_docSpelling a cur s h1 h2

/-- a text that starts and ends with a character that is neither white space nor a slash and does not end inside a line
    comment (a scoped name `A::\B::C`, any single token): the first element of its located output starts where the text
    starts, the last one ends where the text ends. -/
theorem tight_text_extent (a : Bool) (cur : Loc) (cs : List Char) (h : tightText cs = true) (hline : (lexRun a cs).last ≠ .line) :
    (∃ i tl, (lexRunLoc a cur cs).items = i :: tl ∧ i.start = cur) ∧
    (∃ it, (lexRunLoc a cur cs).items.getLast? = some it ∧ it.stop = cs.foldl advance cur) := by
  obtain ⟨⟨i, tl, h1, h2, _⟩, hlast⟩ := lexRunLoc_tight a cur cs h hline
  exact ⟨⟨i, tl, h1, h2⟩, hlast⟩

/-! ## printer and lexer agree on every token location -/

/-- what `tokenLocs` (the printer's notes, `trace`) adds for one item — only locations `emitTok` itself recorded:
    * an identifier item: one identifier token `(start, stop)` of `emitTok`, backslash included if written;
    * an optional comma: nothing if the layout did not write it (never in layout 0), else one `Comma` token `(start, stop)`;
    * separators and span markers: nothing;
    * a `tok s` item whose spelling one call of the lexer consumes as the token `t` (not a doc comment): `t` at `(start, stop)`;
    * a doc line (one line, no fourth slash): the doc comment at `(start + 3 columns, stop)`. -/
theorem printer_notes (style : Nat) (T : Trace) :
    (∀ s, (traceStep style T (.ident s)).toks =
        T.toks ++ [⟨.ident s.toList, T.st.loc, (renderItem style T.st (.ident s)).lastEnd⟩]) ∧
    ((traceStep style T .optComma).toks = T.toks ∨
      (style ≠ 0 ∧ (traceStep style T .optComma).toks = T.toks ++ [⟨.comma, T.st.loc, (renderItem style T.st .optComma).lastEnd⟩])) ∧
    (∀ n p, (traceStep style T (.nl n)).toks = T.toks ∧ (traceStep style T .sp).toks = T.toks ∧
      (traceStep style T .glue).toks = T.toks ∧ (traceStep style T (.op p)).toks = T.toks ∧ (traceStep style T (.cl p)).toks = T.toks) ∧
    (∀ s c cs t, s.toList = c :: cs → (lexNext T.attr c cs).rest = [] → (lexNext T.attr c cs).res = .tok t → (∀ d, t ≠ .doc d) →
      (traceStep style T (.tok s)).toks = T.toks ++ [⟨t, T.st.loc, (renderItem style T.st (.tok s)).lastEnd⟩]) ∧
    (∀ s, s.toList.head? ≠ some '/' → s.toList.contains '\n' = false →
      (traceStep style T (.docLine s)).toks =
        T.toks ++ [⟨.doc (stripCr s.toList), ⟨T.st.loc.row, T.st.loc.col + 3⟩, (renderItem style T.st (.docLine s)).lastEnd⟩]) := by
  refine ⟨fun s => rfl, ?_, ?_, ?_, ?_⟩
  · obtain ⟨rng, hT | ⟨hs, hT⟩⟩ := traceStep_optComma style T
    · left
      rw [hT]
    · right
      refine ⟨hs, ?_⟩
      rw [← traceStep_st, hT]
      rfl
  · intro n p
    exact ⟨rfl, rfl, rfl, rfl, (traceStep_cl style T p).2⟩
  · intro s c cs t hs hrest hres hnd
    simp only [traceStep, Trace.emit, hs]
    rw [one_call_extent T.attr T.st.loc c cs t hrest hres, startAt_of_not_doc t _ hnd]
    simp only [toksLocOf, renderItem, emitTok, advanceStr, hs]
  · intro s h1 h2
    simp only [traceStep, Trace.emit, lexRunLoc_docSpelling T.attr T.st.loc s h1 h2, toksLocOf]
    rfl

/-- **Located layout theorem, item lists.** For every item list that passes the separation check of C02 (`itemsOk`), every
    layout and every seed: the located lexer reads the rendered text (one block starting at 1:1) without error as exactly
    the located token list the printer noted (`tokenLocs`): the k-th token has the start and end `render` recorded when
    it wrote that token. -/
theorem layout_locations_items (layout seed : Nat) (items : List Item) (h : itemsOk items = true) :
    lexSliceLoc (render layout seed items).1.toList = .ok (tokenLocs layout seed items) :=
  lex_render_loc layout seed items h

/-- **Located layout theorem.** For EVERY abstract file that satisfies the decidable leaf conditions `fileOk` of C02, every
    layout (tabs, CR LF, lone CR, multi-byte characters, comments in every gap, optional commas, escaped identifiers) and
    every seed: the lexer's located token list of the rendered text is exactly the printer's `tokenLocs` — token for token
    the (start, end) recorded by `emitTok` where a spelling is one token (see `printer_notes`), and for a spelling that is
    several (`A::B`) that spelling read on its own from the recorded start — and, locations dropped, it is the token list
    `tokensWith false cs (fileItems f)` of C02's `layout_independence` (`cs` = the layout's optional commas). -/
theorem layout_locations (f : SFile) (hf : fileOk f = true) (layout seed : Nat) :
    lexSliceLoc (render layout seed (fileItems f)).1.toList = .ok (tokenLocs layout seed (fileItems f)) ∧
    ∃ cs : List Bool, (layout = 0 → cs = []) ∧
      (tokenLocs layout seed (fileItems f)).map (·.tok) = tokensWith false cs (fileItems f) := by
  have hok := itemsOk_fileItems f hf
  have h1 := lex_render_loc layout seed (fileItems f) hok
  refine ⟨h1, ?_⟩
  obtain ⟨cs, hcs, h2⟩ := lex_render layout seed (fileItems f) hok
  refine ⟨cs, hcs, ?_⟩
  have h3 := lexSliceLoc_erase (render layout seed (fileItems f)).1.toList
  rw [h1, h2] at h3
  simpa [LexResultLoc.erase] using h3

/-! ## reported spans are token extents -/

/-- **Spans are token extents, item lists.** For every item list that passes the separation check and writes only tight
    texts, every layout and seed: the spans `render` reports are, one for one and in order, the spans
    `(path, spelling start of token i, end of token j)` of the located token list, where `spanTokens` names `i` = the first
    token written after the element's `op path` marker and `j` = the last token written before its `cl path` marker
    (`i ≤ j`, both in range).  `spellStart` is the token's start, except that a doc comment's `///` is counted in. -/
theorem spans_are_token_extents_items (layout seed : Nat) (items : List Item) (hok : itemsOk items = true)
    (ht : itemsTight items = true) :
    (render layout seed items).2 = (spanTokens layout seed items).map (spanOfTokens (tokenLocs layout seed items)) ∧
    ∀ e ∈ spanTokens layout seed items, e.2.1 ≤ e.2.2 ∧ e.2.2 < (tokenLocs layout seed items).length :=
  spans_render layout seed items hok ht

/-- everything the printer writes for a `fileOk` file whose directives / scoped names / module path start and end with a
    non-blank, non-slash character and whose doc lines do not start with a slash (`fileTight`) is a tight text. -/
theorem printer_writes_tight_texts (f : SFile) (hf : fileOk f = true) (ht : fileTight f = true) :
    itemsTight (fileItems f) = true :=
  itemsTight_fileItems f hf ht

/-- the name conditions of `fileTight` follow from the syntactic criterion of C02 (`names_with_identifier_segments`): a
    scoped name whose `::`-separated segments are identifiers (first may be empty) is printed as a tight text, and so is
    a directive made of identifiers joined by `::`. -/
theorem tight_names_with_identifier_segments (id : String) (h : nameSegsOk (id.splitOn "::") = true) :
    tightText (escapeScoped id).toList = true :=
  tightText_of_segments id h

/-- the directive half of the criterion: identifiers joined by `::` (keywords allowed inside attributes) are tight. -/
theorem tight_directives_with_identifier_segments (segs : List String) (hne : segs ≠ [])
    (h : ∀ s ∈ segs, isIdentText s.toList = true) (args : List String) :
    attrTight ⟨"::".intercalate segs, args⟩ = true :=
  tightText_directive segs hne h

/-- **Spans are token extents.** For EVERY abstract file with `fileOk f` and `fileTight f`, every layout and every seed:
    the lexer reads the rendered text as `toks = tokenLocs …` (`layout_locations`) and the spans the printer reports —
    the ones the correspondence compares with the compiler's — are exactly `(path, spelling start of token i, end of
    token j)` for the `(path, i, j)` of `spanTokens`: first token after `op path`, last token before `cl path`. -/
theorem spans_are_token_extents (f : SFile) (hf : fileOk f = true) (ht : fileTight f = true) (layout seed : Nat) :
    lexSliceLoc (render layout seed (fileItems f)).1.toList = .ok (tokenLocs layout seed (fileItems f)) ∧
    (render layout seed (fileItems f)).2 =
      (spanTokens layout seed (fileItems f)).map (spanOfTokens (tokenLocs layout seed (fileItems f))) ∧
    ∀ e ∈ spanTokens layout seed (fileItems f), e.2.1 ≤ e.2.2 ∧ e.2.2 < (tokenLocs layout seed (fileItems f)).length := by
  have hok := itemsOk_fileItems f hf
  have h := spans_render layout seed (fileItems f) hok (itemsTight_fileItems f hf ht)
  exact ⟨lex_render_loc layout seed (fileItems f) hok, h.1, h.2⟩

/-- **Corollary.** Every span `⟨p, a, b⟩` that `render` reports for such a file starts at the (spelling) start of a token of
    the lexed stream and ends at the end of a token of the lexed stream, the first not after the second: never inside a
    token, in white space or in a comment. (WHICH tokens they are is said by `spans_are_token_extents`.) -/
theorem span_starts_and_ends_at_tokens (f : SFile) (hf : fileOk f = true) (ht : fileTight f = true) (layout seed : Nat)
    (sp : SpanRec) (hsp : sp ∈ (render layout seed (fileItems f)).2) :
    ∃ toks, lexSliceLoc (render layout seed (fileItems f)).1.toList = .ok toks ∧
      ∃ (i j : Nat) (ti tj : LTok), i ≤ j ∧ toks[i]? = some ti ∧ toks[j]? = some tj ∧ sp.start = ti.spellStart ∧ sp.stop = tj.stop := by
  obtain ⟨h1, h2, h3⟩ := spans_are_token_extents f hf ht layout seed
  refine ⟨_, h1, ?_⟩
  rw [h2] at hsp
  obtain ⟨e, he, rfl⟩ := List.mem_map.mp hsp
  obtain ⟨hle, hlt⟩ := h3 e he
  have hi : e.2.1 < (tokenLocs layout seed (fileItems f)).length := Nat.lt_of_le_of_lt hle hlt
  refine ⟨e.2.1, e.2.2, _, _, hle, List.getElem?_eq_getElem hi, List.getElem?_eq_getElem hlt, ?_, ?_⟩
  · simp [spanOfTokens, List.getD_eq_getElem?_getD, List.getElem?_eq_getElem hi]
  · simp [spanOfTokens, List.getD_eq_getElem?_getD, List.getElem?_eq_getElem hlt]

/-! non-vacuity of the lexical half: a text with a tab, an escaped identifier, a multi-byte line comment ended by CR LF,
    a doc comment, a two-character token, a string with its quotes -/
example : lexSliceLoc "\t\\struct // é✓\r\n/// d\r\nx::y \"é\"".toList =
    .ok [⟨.ident "struct".toList, ⟨1, 2⟩, ⟨1, 9⟩⟩, ⟨.doc [' ', 'd'], ⟨2, 4⟩, ⟨2, 7⟩⟩, ⟨.ident ['x'], ⟨3, 1⟩, ⟨3, 2⟩⟩,
         ⟨.dcolon, ⟨3, 2⟩, ⟨3, 4⟩⟩, ⟨.ident ['y'], ⟨3, 4⟩, ⟨3, 5⟩⟩, ⟨.strLit ['é'], ⟨3, 6⟩, ⟨3, 9⟩⟩] := by decide +kernel
/-- `spells` is not vacuous: the escaped identifier's extent `\\struct` (columns 2–8) is spelled with the backslash -/
example : spells (.ident "struct".toList) "\\struct".toList ∧ spells (.doc [' ', 'd']) "/// d\r".toList ∧
    spells (.strLit ['é']) "\"é\"".toList ∧ spells (.kw "StructKeyword") "struct".toList ∧ spells .dcolon "::".toList := by
  refine ⟨Or.inr (by decide), ⟨" d\r".toList, by decide, by decide⟩, ?_, ?_, ?_⟩
  · show "\"é\"".toList = _; decide
  · show Gen.sliceKeywords.lookup _ = _; decide
  · show "::".toList = _; decide
/-- an error carries its locations too: an unterminated string ends in front of the line break -/
example : lexSliceLoc "a \"bc\nd".toList = .error .unterminatedString ⟨1, 3⟩ ⟨1, 6⟩ := by decide +kernel
/-- a file with a doc comment, an attribute, a keyword used as a name (always escaped), an optional type satisfies the
    hypotheses of `spans_are_token_extents` -/
def exFileLoc : SFile := ⟨[⟨"cs::attr", ["a b"]⟩], none,
  [.struct [" doc é"] [⟨"deprecated", []⟩] true "struct"
     [⟨[], [], some ⟨false, 10, 7, false⟩, "x", .mk [] (.seq (.mk [] (.prim .string) true)) false⟩]]⟩
example : fileOk exFileLoc = true ∧ fileTight exFileLoc = true := by decide +kernel
/-- the items of `/// d é` / `compact struct \struct` with the element `d0` and its identifier `d0.id`: the struct's span
    runs from `compact` (after the doc line) to the end of the escaped name; its tokens are number 1 and 3 of the stream -/
def exItems : List Item :=
  [.docLine " d é", .nl 0, .op "d0", .tok "compact", .sp, .tok "struct", .sp, .op "d0.id", .ident "struct", .cl "d0.id", .cl "d0"]
example : itemsOk exItems = true ∧ itemsTight exItems = true := by decide +kernel
example : spanTokens 0 0 exItems = [("d0.id", 3, 3), ("d0", 1, 3)] := by decide +kernel
/-- the same without the doc line: the located tokens the printer notes, the token indices of the spans, the spans
    `render` reports -/
def exItems2 : List Item :=
  [.op "d0", .tok "compact", .sp, .tok "struct", .sp, .op "d0.id", .ident "struct", .cl "d0.id", .cl "d0"]
example : tokenLocs 0 0 exItems2 =
    [⟨.kw "CompactKeyword", ⟨1, 1⟩, ⟨1, 8⟩⟩, ⟨.kw "StructKeyword", ⟨1, 9⟩, ⟨1, 15⟩⟩, ⟨.ident "struct".toList, ⟨1, 16⟩, ⟨1, 23⟩⟩] := by
  decide +kernel
example : spanTokens 0 0 exItems2 = [("d0.id", 2, 2), ("d0", 0, 2)] := by decide +kernel
example : (render 0 0 exItems2).2.map (fun s => (s.path, s.start, s.stop)) =
    [("d0.id", ⟨1, 16⟩, ⟨1, 23⟩), ("d0", ⟨1, 1⟩, ⟨1, 23⟩)] := by decide +kernel
/-- a pseudo-random layout (layout 1, seed 45) of a struct with one field: a line comment containing a lone CR, block
    comments with multi-byte characters, tabs, an escaped identifier `\\S`, a CR LF gap, a written optional comma; the scoped
    name `A::B` is one item and three tokens.  The located tokens the printer notes, the token indices of the spans and the
    spans `render` reports (the field `f` runs from token 4 `x` to token 8 `B`). -/
def exItems3 : List Item :=
  [.op "d0", .tok "compact", .sp, .tok "struct", .sp, .op "d0.id", .ident "S", .cl "d0.id", .cl "d0", .sp, .tok "{", .nl 1,
   .op "f", .ident "x", .glue, .tok ":", .sp, .tok "A::B", .cl "f", .glue, .optComma, .nl 0, .tok "}"]
example : itemsOk exItems3 = true ∧ itemsTight exItems3 = true := by decide +kernel
set_option maxRecDepth 8000 in
example : (render 1 45 exItems3).1 =
    "compact // old:\r x: bool\nstruct/* * / */\\S/*é✓ü*/{\t\t x/* \r */:\t\t A::B\r\n,//\r\n}" := by decide +kernel
set_option maxRecDepth 8000 in
example : tokenLocs 1 45 exItems3 =
    [⟨.kw "CompactKeyword", ⟨1, 1⟩, ⟨1, 8⟩⟩, ⟨.kw "StructKeyword", ⟨2, 1⟩, ⟨2, 7⟩⟩, ⟨.ident ['S'], ⟨2, 16⟩, ⟨2, 18⟩⟩,
     ⟨.lbrace, ⟨2, 25⟩, ⟨2, 26⟩⟩, ⟨.ident ['x'], ⟨2, 29⟩, ⟨2, 30⟩⟩, ⟨.colon, ⟨2, 37⟩, ⟨2, 38⟩⟩, ⟨.ident ['A'], ⟨2, 41⟩, ⟨2, 42⟩⟩,
     ⟨.dcolon, ⟨2, 42⟩, ⟨2, 44⟩⟩, ⟨.ident ['B'], ⟨2, 44⟩, ⟨2, 45⟩⟩, ⟨.comma, ⟨3, 1⟩, ⟨3, 2⟩⟩, ⟨.rbrace, ⟨4, 1⟩, ⟨4, 2⟩⟩] := by decide +kernel
/-- the theorem's instance for this layout -/
example : lexSliceLoc (render 1 45 exItems3).1.toList = .ok (tokenLocs 1 45 exItems3) :=
  layout_locations_items 1 45 exItems3 (by decide +kernel)
set_option maxRecDepth 8000 in
example : spanTokens 1 45 exItems3 = [("d0.id", 2, 2), ("d0", 0, 2), ("f", 4, 8)] := by decide +kernel
set_option maxRecDepth 8000 in
example : (render 1 45 exItems3).2.map (fun s => (s.path, s.start, s.stop)) =
    [("d0.id", ⟨2, 16⟩, ⟨2, 18⟩), ("d0", ⟨1, 1⟩, ⟨2, 18⟩), ("f", ⟨2, 29⟩, ⟨2, 45⟩)] := by decide +kernel
/-- `fileOk` alone does not make spans start at tokens: a directive may carry a blank (`fileTight` excludes it) -/
example : attrOk ⟨" a", []⟩ = true ∧ attrTight ⟨" a", []⟩ = false := by decide +kernel

/-! ## the comment lexer with locations (slicec/src/parsers/comments/lexer.rs)

  Model/CommentLoc.lean: `switch_to_next_line` (cursor := the start of the span the line came with, i.e. the position
  right after `///`), `advance_buffer` (one column per consumed character, whatever it is), the `(start, kind, end)` of
  every arm of `lex_message` / `lex_tag_component` / `read_tag_keyword` / `Iterator::next`. Tied to the real lexer by
  stream `C09clex`. The theorems quantify over EVERY list of lines: any texts, any rows (consecutive or not), any start
  columns; the only place where rows matter is the order of tokens of different lines (`comment_stream_ordered`). -/

open Slicec.CLoc

/-- **Erasure.** Forgetting the locations of the located comment lexer gives exactly the comment-lexer model of C16
    (`Model/Comment.lean lexComment`: same tokens, same error), for every list of lines and whatever their spans:
    the two models cannot drift apart. -/
theorem comment_lexer_locations_erase (ls : List CLine) :
    (lexCommentLoc ls).erase = lexComment (ls.map (·.text)) :=
  lexCommentLoc_erase ls

/-- **Cursor accounting, scanning loops.** `skip_whitespace`, `read_identifier` and the text loop move the cursor by one
    column per consumed character — tabs, CR, multi-byte and astral characters alike — and never touch the row. -/
theorem comment_cursor_counts_characters (p : Char → Bool) (cur : Loc) (cs : Str) :
    cadvWhile p cur cs = ⟨cur.row, cur.col + (cs.takeWhile p).length⟩ :=
  cadvWhile_eq p cur cs

/-- **Cursor accounting, one call in `Message` mode.** On a non-empty buffer `lex_message` consumes a non-empty prefix
    `mid` of the buffer; the token it returns starts at the cursor on entry, ends `mid.length` columns further, which is
    also the cursor after the call, and `mid` is what the token spells (the `Text`'s payload, or `{` + the blanks in front
    of the `@` of an inline tag). -/
theorem comment_message_call_located (cur : Loc) (c : Char) (cs : Str) :
    ∃ mid, c :: cs = mid ++ (lexMessageLoc cur (c :: cs)).2.2.1 ∧ mid ≠ [] ∧
      (lexMessageLoc cur (c :: cs)).1.start = cur ∧
      (lexMessageLoc cur (c :: cs)).1.stop = ⟨cur.row, cur.col + mid.length⟩ ∧
      (lexMessageLoc cur (c :: cs)).2.2.2 = (lexMessageLoc cur (c :: cs)).1.stop ∧
      cspells (lexMessageLoc cur (c :: cs)).1.tok mid (lexMessageLoc cur (c :: cs)).2.2.1 := by
  obtain ⟨tk, m, rest, mid, he, h1, h2, h3⟩ := lexMessageLoc_spec cur (c :: cs) (List.cons_ne_nil _ _)
  rw [he]
  exact ⟨mid, h1, h3, rfl, rfl, rfl, h2⟩

/-- **Cursor accounting, one call in `BlockTag` / `InlineTag` mode** (`lex_tag_component`), for every buffer:
    * nothing but whitespace left: the cursor ends behind all of it;
    * a token: the buffer is `ws ++ mid ++ rest` with `ws` the skipped whitespace; the token starts `ws.length` columns
      behind the cursor on entry, ends `mid.length` columns further — the cursor after the call —, and `mid` (non-empty)
      is its spelling: `@` + keyword, the identifier, `::`, `:`, `}`;
    * an error: likewise located over `@` + the unknown / missing / misplaced tag, or over the one unknown symbol. -/
theorem comment_tag_call_located (mode : LMode) (cur : Loc) (cs : Str) :
    match lexTagComponentLoc mode cur cs with
    | .eol cur' => cs.all isWsC = true ∧ cur' = ⟨cur.row, cur.col + cs.length⟩
    | .tok t _ rest cur' => ∃ ws mid, cs = ws ++ (mid ++ rest) ∧ ws.all isWsC = true ∧ mid ≠ [] ∧
        t.start = ⟨cur.row, cur.col + ws.length⟩ ∧ t.stop = ⟨cur.row, cur.col + (ws.length + mid.length)⟩ ∧
        cur' = t.stop ∧ cspells t.tok mid rest
    | .err e => ∃ ws mid post, cs = ws ++ (mid ++ post) ∧ ws.all isWsC = true ∧
        e.start = ⟨cur.row, cur.col + ws.length⟩ ∧ e.stop = ⟨cur.row, cur.col + (ws.length + mid.length)⟩ ∧
        cerrSpells e.err mid post :=
  lexTagComponentLoc_spec mode cur cs

/-- **The tokens of a line tile the line.** For every line (any text, any span): the tokens, and the error that ends them
    if there is one, lie one behind the other on the line; between the end of one and the start of the next there is
    nothing but whitespace; each covers exactly the characters it spells, one column per character, counted from the
    start of the line's span (`Tiled`: recursively, the next element is sought in what the previous one left). -/
theorem comment_line_tiled (l : CLine) :
    Tiled l.start l.text (lexOneLineLoc l).toks (lexOneLineLoc l).err :=
  lexOneLineLoc_tiled l

/-- **In order, without overlap** (one line): every token is on the row of its line, starts at or behind the line's start
    column, ends at or behind its own start, and every later token of the line starts at or behind its end. -/
theorem comment_line_tokens_ordered (l : CLine) :
    (∀ t ∈ (lexOneLineLoc l).toks, t.start.row = l.start.row ∧ t.stop.row = l.start.row ∧
        l.start.col ≤ t.start.col ∧ t.start.col ≤ t.stop.col) ∧
    (lexOneLineLoc l).toks.Pairwise (fun a b => a.stop.row = b.start.row ∧ a.stop.col ≤ b.start.col) :=
  ⟨(lexOneLineLoc_tiled l).ordered.all, (lexOneLineLoc_tiled l).ordered.pairwise⟩

/-- **Every token lies within a line of the comment, over its spelling** (the proof takes the line it was lexed from,
    `lexCommentLoc_tok_line`; the statement names it only as a line in which the token lies). For every list of lines and
    every token `t` of the stream there is a line `l` of the comment with `l.text = pre ++ mid ++ post` such that `t` starts at
    character offset `pre.length` of `l` and ends at offset `pre.length + mid.length` (on `l`'s row, columns counted in
    characters from the start of `l`'s span), and `mid` is what `t` spells: an identifier or a text its payload, a keyword
    `@` + the row of the table extracted from `read_tag_keyword`, `{` (with the blanks in front of `@link`), `}`, `:`,
    `::`, and a `Newline` the empty text with nothing behind it. -/
theorem comment_token_in_its_line (ls : List CLine) (t : LCTok) (ht : t ∈ (lexCommentLoc ls).toks) :
    ∃ l ∈ ls, ∃ pre mid post, l.text = pre ++ (mid ++ post) ∧
      t.start = l.at pre.length ∧ t.stop = l.at (pre.length + mid.length) ∧ cspells t.tok mid post := by
  obtain ⟨l, hl, ht'⟩ := lexCommentLoc_tok_line ls t ht
  exact ⟨l, hl, (lexOneLineLoc_tiled l).mem ht'⟩

/-- **The same in numbers**: row = the line's row, line start column ≤ start column ≤ end column ≤ line start column +
    number of characters of the line; 1-based whenever the line's span is. -/
theorem comment_token_within_line (ls : List CLine) (t : LCTok) (ht : t ∈ (lexCommentLoc ls).toks) :
    ∃ l ∈ ls, t.start.row = l.start.row ∧ t.stop.row = l.start.row ∧
      l.start.col ≤ t.start.col ∧ t.start.col ≤ t.stop.col ∧ t.stop.col ≤ l.start.col + l.text.length ∧
      (1 ≤ l.start.row ∧ 1 ≤ l.start.col → 1 ≤ t.start.row ∧ 1 ≤ t.start.col) := by
  obtain ⟨l, hl, pre, mid, post, h1, h2, h3, _⟩ := comment_token_in_its_line ls t ht
  have hlen : pre.length + mid.length ≤ l.text.length := by rw [h1]; simp
  refine ⟨l, hl, ?_⟩
  rw [h2, h3]
  exact ⟨rfl, rfl, Nat.le_add_right _ _, Nat.add_le_add_left (Nat.le_add_right _ _) _, Nat.add_le_add_left hlen _,
    fun hp => ⟨hp.1, Nat.le_trans hp.2 (Nat.le_add_right _ _)⟩⟩

/-- **A lexer error is located in a line of the comment** (the proof takes the one that has it, `lexCommentLoc_err_line`),
    **over the offending characters**: the unknown symbol (one character, however many bytes), `@` + the unknown /
    misplaced tag, the lone `@`, or — `UnterminatedInlineTag` — the empty text at the end of the line. -/
theorem comment_error_in_its_line (ls : List CLine) (e : LCErr) (he : (lexCommentLoc ls).err = some e) :
    ∃ l ∈ ls, ∃ pre mid post, l.text = pre ++ (mid ++ post) ∧
      e.start = l.at pre.length ∧ e.stop = l.at (pre.length + mid.length) ∧ cerrSpells e.err mid post := by
  obtain ⟨l, hl, he'⟩ := lexCommentLoc_err_line ls e he
  exact ⟨l, hl, (he' ▸ lexOneLineLoc_tiled l).err_mem⟩

/-- **The `Newline` of a line is the zero-width position at that line's end.** A line that lexes without error yields
    tokens none of which is a `Newline`, followed by exactly one `Newline` whose start and end are the location behind
    the last character of THAT line (`l.endLoc`: the line's row, start column + number of characters) — not the start of
    the following line. A line with a lexer error yields no `Newline`. -/
theorem comment_newline_at_line_end (l : CLine) :
    match (lexOneLineLoc l).err with
    | none => ∃ init, (lexOneLineLoc l).toks = init ++ [⟨l.endLoc, .newline, l.endLoc⟩] ∧ ∀ t ∈ init, t.tok ≠ .newline
    | some _ => ∀ t ∈ (lexOneLineLoc l).toks, t.tok ≠ .newline :=
  lexOneLineLoc_shape l

/-- **All `Newline`s of a comment**: they are, in order, the ends of the comment's lines — of all of them when the comment
    lexes without error, otherwise of the lines in front of the one with the error (`cleanLines`). -/
theorem comment_newlines_are_line_ends (ls : List CLine) :
    (lexCommentLoc ls).toks.filter isNl = (ls.take (cleanLines ls)).map (fun l => ⟨l.endLoc, .newline, l.endLoc⟩) ∧
    ((lexCommentLoc ls).err = none ↔ cleanLines ls = ls.length) ∧
    ((lexCommentLoc ls).err = none →
      (lexCommentLoc ls).toks.filter isNl = ls.map (fun l => ⟨l.endLoc, .newline, l.endLoc⟩)) := by
  refine ⟨lexCommentLoc_newlines ls, lexCommentLoc_err_none_iff ls, ?_⟩
  intro h
  rw [lexCommentLoc_newlines, (lexCommentLoc_err_none_iff ls).mp h, List.take_length]
  rfl

/-- **The whole stream is in order.** When the lines sit on increasing rows (consecutive or not; any columns), every token
    ends at or before the start of every later token, and the error, if there is one, lies behind all tokens. -/
theorem comment_stream_ordered (ls : List CLine) (hrows : ls.Pairwise (fun a b => a.start.row < b.start.row)) :
    (lexCommentLoc ls).toks.Pairwise (fun a b => a.stop.le b.start) ∧
    ∀ e, (lexCommentLoc ls).err = some e → ∀ t ∈ (lexCommentLoc ls).toks, t.stop.le e.start := by
  induction ls with
  | nil => exact ⟨List.Pairwise.nil, fun e he => by cases he⟩
  | cons l ls ih =>
    obtain ⟨hl, hrest⟩ := List.pairwise_cons.mp hrows
    obtain ⟨ih1, ih2⟩ := ih hrest
    have hord := (lexOneLineLoc_tiled l).ordered
    have hpw : (lexOneLineLoc l).toks.Pairwise (fun a b => a.stop.le b.start) :=
      hord.pairwise.imp (fun h => Or.inr h)
    simp only [lexCommentLoc]
    cases he : (lexOneLineLoc l).err with
    | some e =>
      simp only
      refine ⟨hpw, ?_⟩
      intro e' he' t ht
      rw [he] at he'
      simp only [Option.some.injEq] at he'
      subst he'
      rw [he] at hord
      exact Or.inr (hord.err_after t ht)
    | none =>
      simp only
      have hcross : ∀ a ∈ (lexOneLineLoc l).toks, ∀ b ∈ (lexCommentLoc ls).toks, a.stop.le b.start := by
        intro a ha b hb
        obtain ⟨l', hl', hb'⟩ := lexCommentLoc_tok_line ls b hb
        have h1 := (hord.all a ha).2.1
        have h2 := ((lexOneLineLoc_tiled l').ordered.all b hb').1
        exact Or.inl (by rw [h1, h2]; exact hl l' hl')
      refine ⟨List.pairwise_append.mpr ⟨hpw, ih1, hcross⟩, ?_⟩
      intro e he' t ht
      simp only [List.mem_append] at ht
      cases ht with
      | inl h =>
        obtain ⟨l', hl', he''⟩ := lexCommentLoc_err_line ls e he'
        have h1 := (hord.all t h).2.1
        have ho := (lexOneLineLoc_tiled l').ordered
        rw [he''] at ho
        exact Or.inl (by rw [h1, ho.err_from.1]; exact hl l' hl')
      | inr h => exact ih2 e he' t h

/-! non-vacuity: a three-line comment on non-consecutive rows with different start columns — an overview with a
    multi-byte and an astral character and an inline link written with blanks, a `@param` line indented with a tab and
    U+3000, a `@see` line with a scoped identifier and trailing blanks. Every `Newline` sits at the end of ITS line. -/
def exComment : List CLine :=
  [⟨" é😀 {  @link A::B} x".toList, ⟨3, 8⟩, ⟨3, 28⟩⟩,
   ⟨"\t　@param p :\tm✓".toList, ⟨4, 8⟩, ⟨4, 23⟩⟩,
   ⟨"@see ::X  ".toList, ⟨7, 4⟩, ⟨7, 14⟩⟩]
example : lexCommentLoc exComment =
    ⟨[⟨⟨3, 8⟩, .text " é😀 ".toList, ⟨3, 12⟩⟩, ⟨⟨3, 12⟩, .lbrace, ⟨3, 15⟩⟩, ⟨⟨3, 15⟩, .kw .LinkKeyword, ⟨3, 20⟩⟩,
      ⟨⟨3, 21⟩, .ident ['A'], ⟨3, 22⟩⟩, ⟨⟨3, 22⟩, .dcolon, ⟨3, 24⟩⟩, ⟨⟨3, 24⟩, .ident ['B'], ⟨3, 25⟩⟩, ⟨⟨3, 25⟩, .rbrace, ⟨3, 26⟩⟩,
      ⟨⟨3, 26⟩, .text " x".toList, ⟨3, 28⟩⟩, ⟨⟨3, 28⟩, .newline, ⟨3, 28⟩⟩,
      ⟨⟨4, 10⟩, .kw .ParamKeyword, ⟨4, 16⟩⟩, ⟨⟨4, 17⟩, .ident ['p'], ⟨4, 18⟩⟩, ⟨⟨4, 19⟩, .colon, ⟨4, 20⟩⟩,
      ⟨⟨4, 20⟩, .text "\tm✓".toList, ⟨4, 23⟩⟩, ⟨⟨4, 23⟩, .newline, ⟨4, 23⟩⟩,
      ⟨⟨7, 4⟩, .kw .SeeKeyword, ⟨7, 8⟩⟩, ⟨⟨7, 9⟩, .dcolon, ⟨7, 11⟩⟩, ⟨⟨7, 11⟩, .ident ['X'], ⟨7, 12⟩⟩,
      ⟨⟨7, 14⟩, .newline, ⟨7, 14⟩⟩], none⟩ := by decide +kernel
example : exComment.map (·.endLoc) = [⟨3, 28⟩, ⟨4, 23⟩, ⟨7, 14⟩] := by decide +kernel
example : exComment.Pairwise (fun a b => a.start.row < b.start.row) := by decide +kernel
/-- located errors: an unknown astral symbol is one column wide; an unknown tag runs from its `@` to the end of the tag; an
    inline tag left open is reported at the end of its line (behind the trailing blanks), zero-width; the lines in front
    of the error have their `Newline`s, the line with the error has none -/
example : lexCommentLoc [⟨" ok".toList, ⟨1, 4⟩, ⟨1, 7⟩⟩, ⟨"@param x 😀 y".toList, ⟨2, 4⟩, ⟨2, 16⟩⟩] =
    ⟨[⟨⟨1, 4⟩, .text " ok".toList, ⟨1, 7⟩⟩, ⟨⟨1, 7⟩, .newline, ⟨1, 7⟩⟩, ⟨⟨2, 4⟩, .kw .ParamKeyword, ⟨2, 10⟩⟩, ⟨⟨2, 11⟩, .ident ['x'], ⟨2, 12⟩⟩],
     some ⟨⟨2, 13⟩, .unknownSymbol '😀', ⟨2, 14⟩⟩⟩ := by decide +kernel
example : (lexCommentLoc [⟨"  @foo_1 x".toList, ⟨9, 30⟩, ⟨9, 40⟩⟩]).err = some ⟨⟨9, 32⟩, .unknownTag "foo_1".toList, ⟨9, 38⟩⟩ := by decide +kernel
example : (lexCommentLoc [⟨"a {@link X  ".toList, ⟨2, 6⟩, ⟨2, 18⟩⟩]).err = some ⟨⟨2, 18⟩, .unterminatedInlineTag, ⟨2, 18⟩⟩ := by decide +kernel
example : cleanLines [⟨" ok".toList, ⟨1, 4⟩, ⟨1, 7⟩⟩, ⟨"@param x 😀 y".toList, ⟨2, 4⟩, ⟨2, 16⟩⟩, ⟨"z".toList, ⟨3, 4⟩, ⟨3, 5⟩⟩] = 1 := by decide +kernel
/-- `cspells` / `cerrSpells` are not vacuous -/
example : cspells (.kw .ParamKeyword) "@param".toList " p".toList ∧ cspells .lbrace "{  ".toList "@link A}".toList ∧
    cspells .newline [] [] ∧ ¬ cspells .newline [] ['x'] ∧ cerrSpells (.unknownTag "foo".toList) "@foo".toList [] := by
  refine ⟨⟨"param".toList, false, by decide, by decide⟩, ⟨"  ".toList, by decide, by decide, by decide⟩, ⟨rfl, rfl⟩, ?_, by show "@foo".toList = _; decide⟩
  intro h; exact absurd h.2 (by decide)

/-! ## the spans of the parts of a doc comment and of the comment lints

  Model/CommentDocLoc.lean: the comment parser on the located token stream (`@L` / `@R` of every production of
  comments/grammar.lalrpop, `create_doc_comment`, `append_tag_to_comment!`, the three outcomes of `construct_lint_from`) and
  the spans the validators / the link patcher report (`elemLintsLoc`). Tied to the real parser and to whole compilations
  by streams `C09doc` / `C09docp`; what is PROVED here, for every list of lines: all these spans are made of token
  boundaries of the comment's own token stream, hence (by the theorems of the section before) lie within the comment's lines. -/

/-- `l` lies within a line of the comment: on the line's row, between the start of its span and the position behind its
    last character (columns counted in characters) -/
def InLines (lines : List CLine) (l : Loc) : Prop :=
  ∃ L ∈ lines, l.row = L.start.row ∧ L.start.col ≤ l.col ∧ l.col ≤ L.start.col + L.text.length

/-- a token boundary of the comment's stream lies within a line of the comment -/
theorem token_boundary_in_lines (lines : List CLine) (l : Loc) (h : Bnd (lexCommentLoc lines).toks l) : InLines lines l := by
  obtain ⟨t, ht, hl⟩ := h
  obtain ⟨L, hL, a, b, c, d, e, _⟩ := comment_token_within_line lines t ht
  rcases hl with rfl | rfl
  · exact ⟨L, hL, a, c, Nat.le_trans d e⟩
  · exact ⟨L, hL, b, Nat.le_trans c d, e⟩

/-- **The parts of a parsed comment are made of token boundaries.** For every comment the parser model accepts: the token
    stream is not empty, the comment's span starts three columns left of the START OF ITS FIRST TOKEN (whatever that token
    is: the text of the first line from the column behind `///` on, or — first line a tag — the `@` behind the blanks), and
    the comment's end and both ends of the span of every part (overview, every tag, tag identifier, message, inline link,
    link identifier, see tag) are the start or the end of a token of the comment's located token stream. -/
theorem doc_parts_are_token_boundaries (lines : List CLine) (d : LDoc) (h : parseCommentLoc lines = .ok d) :
    ∃ t0 ts, (lexCommentLoc lines).toks = t0 :: ts ∧ 3 ≤ t0.start.col ∧
      d.span.start = ⟨t0.start.row, t0.start.col - 3⟩ ∧ DocPartsOk (lexCommentLoc lines).toks d :=
  parseCommentLocG_ok _ lines d h

/-- **The parts of a doc comment lie within that comment's lines.** For every list of lines (any texts, rows, columns) and
    every comment `d` the parser model builds from them: both ends of the span of every part, and the comment's own end,
    lie within a line of the comment; the comment's own start lies three columns left of such a position (it is the
    position of the `///` exactly when the first token starts right behind the `///`). -/
theorem doc_parts_within_lines (lines : List CLine) (d : LDoc) (h : parseCommentLoc lines = .ok d) :
    (∀ s ∈ d.partSpans, InLines lines s.start ∧ InLines lines s.stop) ∧ InLines lines d.span.stop ∧
    InLines lines ⟨d.span.start.row, d.span.start.col + 3⟩ := by
  obtain ⟨t0, ts, h1, h2, h3, h4⟩ := doc_parts_are_token_boundaries lines d h
  have hall := h4.partSpans
  refine ⟨fun s hs => ⟨token_boundary_in_lines lines _ (hall s hs).1, token_boundary_in_lines lines _ (hall s hs).2⟩,
    token_boundary_in_lines lines _ h4.1, ?_⟩
  rw [h3]
  simp only [Nat.sub_add_cancel h2]
  exact token_boundary_in_lines lines t0.start ⟨t0, by rw [h1]; simp, Or.inl rfl⟩

/-- **A rejected comment is reported inside the comment.** When the parser model rejects a comment at a span `s` (the span
    the `MalformedDocComment` lint carries), `s` is the extent of a token of the comment's stream — in the model the token at
    which the parser stopped (`failHere`) — or the extent of the lexer's error; in both cases it lies on one row, start ≤ end,
    within a line of the comment. -/
theorem malformed_lint_points_into_comment (lines : List CLine) (s : Sp) (h : parseCommentLoc lines = .fail (.at s)) :
    ((∃ t ∈ (lexCommentLoc lines).toks, s = ⟨t.start, t.stop⟩) ∨ (∃ e, (lexCommentLoc lines).err = some e ∧ s = ⟨e.start, e.stop⟩)) ∧
    InLines lines s.start ∧ InLines lines s.stop ∧ s.start.row = s.stop.row ∧ s.start.col ≤ s.stop.col := by
  have hf := parseCommentLocG_fail _ lines _ h
  refine ⟨hf, ?_⟩
  rcases hf with ⟨t, ht, rfl⟩ | ⟨e, he, rfl⟩
  · obtain ⟨L, hL, a, b, _, d, _⟩ := comment_token_within_line lines t ht
    exact ⟨token_boundary_in_lines lines _ ⟨t, ht, Or.inl rfl⟩, token_boundary_in_lines lines _ ⟨t, ht, Or.inr rfl⟩,
      a.trans b.symm, d⟩
  · obtain ⟨L, hL, pre, mid, post, h1, h2, h3, _⟩ := comment_error_in_its_line lines e he
    have hlen : pre.length + mid.length ≤ L.text.length := by rw [h1]; simp
    have hin : ∀ n, n ≤ L.text.length → InLines lines (L.at n) :=
      fun n hn => ⟨L, hL, rfl, Nat.le_add_right _ _, Nat.add_le_add_left hn _⟩
    rw [h2, h3]
    exact ⟨hin _ (Nat.le_trans (Nat.le_add_right _ _) hlen), hin _ hlen, rfl, Nat.add_le_add_left (Nat.le_add_right _ _) _⟩

/-- **The parser never runs out of tokens.** For every list of lines the parser model either accepts, or rejects AT A SPAN
    (`UnrecognizedEof`, the one outcome of `construct_lint_from` that has only a position, cannot occur): without lexer error
    the stream ends in the `Newline` of its last line, behind which every production can be completed, and what the
    sub-parsers for identifiers and message components consume contains no `Newline`. -/
theorem parser_never_at_eof (lines : List CLine) : parseCommentLoc lines ≠ .fail .eof :=
  parseCommentLocG_not_eof _ lines

/-- **Every comment lint points into the comment.** For every element, name table and list of lines: each lint the model
    reports for the element's comment — `MalformedDocComment`, `BrokenDocLink` (the identifier of the link that does not
    resolve), `IncorrectDocComment` (the tag, or tag + message) — has a span both ends of which lie within a line of THAT
    comment. -/
theorem doc_lint_spans_within_lines (t : Table) (e : DocElem) (lines : List CLine)
    (l : LLint) (hl : l ∈ elemLintsLoc t e (parseCommentLoc lines)) :
    InLines lines l.span.start ∧ InLines lines l.span.stop := by
  generalize hr : parseCommentLoc lines = r at hl
  cases r with
  | panic s => cases hl
  | fail f =>
    cases f with
    | eof => exact absurd hr (parser_never_at_eof lines)
    | «at» s =>
      obtain ⟨_, a, b, _, _⟩ := malformed_lint_points_into_comment lines s hr
      rw [List.mem_singleton.mp hl]; exact ⟨a, b⟩
  | ok c =>
    obtain ⟨hparts, _, _⟩ := doc_parts_within_lines lines c hr
    obtain ⟨⟨s1, m1, e1⟩, s2, m2, e2⟩ := elemLintsLoc_ends hl
    rw [e1, e2]
    exact ⟨(hparts s1 m1).1, (hparts s2 m2).2⟩

/-! non-vacuity: a six-line comment behind other tokens (text from column 8, the last line from column 4, a row skipped) with
    an overview over two lines containing a multi-byte and an astral character and an inline link, a `@param` with blanks
    in front of its colon and a continuation line, a `@returns` without identifier and with blanks in front of its colon
    (its span 7:9–7:19 includes them), a `@see` with a global scoped identifier. The comment's span and the spans of all
    its parts, in the order of `partSpans`. -/
def exDoc : List CLine :=
  [⟨" Overview é😀 {@link A::B}.".toList, ⟨3, 8⟩, ⟨3, 32⟩⟩,
   ⟨"   more".toList, ⟨4, 8⟩, ⟨4, 15⟩⟩,
   ⟨" @param p : the p".toList, ⟨5, 8⟩, ⟨5, 25⟩⟩,
   ⟨"    continued".toList, ⟨6, 8⟩, ⟨6, 21⟩⟩,
   ⟨" @returns  : r".toList, ⟨7, 8⟩, ⟨7, 22⟩⟩,
   ⟨" @see ::X::Y".toList, ⟨9, 4⟩, ⟨9, 16⟩⟩]
def spansOf (r : LRes LDoc) : Option (Sp × List Sp) := match r with | .ok d => some (d.span, d.partSpans) | _ => none
set_option maxRecDepth 20000 in
example : spansOf (parseCommentLoc exDoc) = some (⟨⟨3, 5⟩, ⟨9, 16⟩⟩,
  [⟨⟨3, 8⟩, ⟨4, 15⟩⟩, ⟨⟨3, 22⟩, ⟨3, 32⟩⟩, ⟨⟨3, 28⟩, ⟨3, 32⟩⟩, ⟨⟨5, 9⟩, ⟨5, 17⟩⟩, ⟨⟨5, 16⟩, ⟨5, 17⟩⟩, ⟨⟨5, 18⟩, ⟨6, 21⟩⟩,
   ⟨⟨7, 9⟩, ⟨7, 19⟩⟩, ⟨⟨7, 19⟩, ⟨7, 22⟩⟩, ⟨⟨9, 5⟩, ⟨9, 16⟩⟩, ⟨⟨9, 10⟩, ⟨9, 16⟩⟩]) := by decide +kernel
/-! the first line is a tag behind three blanks (`///   @param a: x`, `///` at 2:1): the comment's span starts at column 4 —
    three columns left of the `@` (column 7), not at the `///` (column 1); the message of the tag ends at the end of the
    LAST line of the comment (3:6), the comment itself at the end of the tag's identifier (2:15) -/
set_option maxRecDepth 20000 in
example : spansOf (parseCommentLoc [⟨"   @param a: x".toList, ⟨2, 4⟩, ⟨2, 18⟩⟩, ⟨" y".toList, ⟨3, 4⟩, ⟨3, 6⟩⟩]) =
    some (⟨⟨2, 4⟩, ⟨2, 15⟩⟩, [⟨⟨2, 7⟩, ⟨2, 15⟩⟩, ⟨⟨2, 14⟩, ⟨2, 15⟩⟩, ⟨⟨2, 15⟩, ⟨3, 6⟩⟩]) := by decide +kernel
/-! rejected comments: `@param` without a name is reported at the zero-width `Newline` at the end of ITS line (3:10), not on
    the following line; text behind a `@see` line at that text; an inline tag left open at the end of its line -/
set_option maxRecDepth 20000 in
example : parseCommentLoc [⟨" ov".toList, ⟨2, 4⟩, ⟨2, 7⟩⟩, ⟨"@param".toList, ⟨3, 4⟩, ⟨3, 10⟩⟩, ⟨"@returns: x".toList, ⟨4, 4⟩, ⟨4, 15⟩⟩] =
    .fail (.at ⟨⟨3, 10⟩, ⟨3, 10⟩⟩) := by decide +kernel
set_option maxRecDepth 20000 in
example : parseCommentLoc [⟨" ov".toList, ⟨2, 4⟩, ⟨2, 7⟩⟩, ⟨"@see X".toList, ⟨3, 4⟩, ⟨3, 10⟩⟩, ⟨" text".toList, ⟨4, 4⟩, ⟨4, 9⟩⟩] =
    .fail (.at ⟨⟨4, 4⟩, ⟨4, 9⟩⟩) := by decide +kernel
set_option maxRecDepth 20000 in
example : parseCommentLoc [⟨" a {@link X".toList, ⟨2, 4⟩, ⟨2, 15⟩⟩] = .fail (.at ⟨⟨2, 15⟩, ⟨2, 15⟩⟩) := by decide +kernel
/-! lints on a struct: the identifiers of the links (where `BrokenDocLink` is reported when a link does not resolve) and
    the `IncorrectDocComment` of the `@returns` tag, tag + message = 4:5–4:29 — ending on the tag's own line although
    another line follows -/
set_option maxRecDepth 20000 in
example : (match parseCommentLoc [⟨" {@link Nope}".toList, ⟨3, 4⟩, ⟨3, 17⟩⟩, ⟨" @returns: nothing at all".toList, ⟨4, 4⟩, ⟨4, 29⟩⟩,
                                  ⟨" @see Other".toList, ⟨5, 4⟩, ⟨5, 15⟩⟩] with
           | .ok c => some (c.allLinks.map (·.idSpan), illFittingSpans .other c)
           | _ => none) =
    some ([⟨⟨3, 12⟩, ⟨3, 16⟩⟩, ⟨⟨5, 10⟩, ⟨5, 15⟩⟩], [⟨⟨4, 5⟩, ⟨4, 29⟩⟩]) := by decide +kernel

end Slicec.C09

#print axioms Slicec.C09.advance_fold
#print axioms Slicec.C09.columns_in_characters
#print axioms Slicec.C09.newline_resets
#print axioms Slicec.C09.token_loc_exact
#print axioms Slicec.C09.span_tight
#print axioms Slicec.C09.spans_wellformed
#print axioms Slicec.C09.lexer_call_located
#print axioms Slicec.C09.lexer_locations_erase
#print axioms Slicec.C09.lexer_cursor_at_end
#print axioms Slicec.C09.token_extent_exact
#print axioms Slicec.C09.lex_is_local_located
#print axioms Slicec.C09.one_call_extent
#print axioms Slicec.C09.escaped_identifier_extent
#print axioms Slicec.C09.doc_line_extent
#print axioms Slicec.C09.tight_text_extent
#print axioms Slicec.C09.printer_notes
#print axioms Slicec.C09.layout_locations_items
#print axioms Slicec.C09.layout_locations
#print axioms Slicec.C09.spans_are_token_extents_items
#print axioms Slicec.C09.printer_writes_tight_texts
#print axioms Slicec.C09.tight_names_with_identifier_segments
#print axioms Slicec.C09.tight_directives_with_identifier_segments
#print axioms Slicec.C09.spans_are_token_extents
#print axioms Slicec.C09.span_starts_and_ends_at_tokens
#print axioms Slicec.C09.comment_lexer_locations_erase
#print axioms Slicec.C09.comment_cursor_counts_characters
#print axioms Slicec.C09.comment_message_call_located
#print axioms Slicec.C09.comment_tag_call_located
#print axioms Slicec.C09.comment_line_tiled
#print axioms Slicec.C09.comment_line_tokens_ordered
#print axioms Slicec.C09.comment_token_in_its_line
#print axioms Slicec.C09.comment_token_within_line
#print axioms Slicec.C09.comment_error_in_its_line
#print axioms Slicec.C09.comment_newline_at_line_end
#print axioms Slicec.C09.comment_newlines_are_line_ends
#print axioms Slicec.C09.comment_stream_ordered
#print axioms Slicec.C09.token_boundary_in_lines
#print axioms Slicec.C09.doc_parts_are_token_boundaries
#print axioms Slicec.C09.doc_parts_within_lines
#print axioms Slicec.C09.malformed_lint_points_into_comment
#print axioms Slicec.C09.parser_never_at_eof
#print axioms Slicec.C09.doc_lint_spans_within_lines
