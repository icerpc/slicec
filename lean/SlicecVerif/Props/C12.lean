/-
  C12 — Output targets act as an append-only byte log with safe reservations.
  The statements quantify over arbitrary states; the invariant is carried over arbitrary histories (`run_inv`, induction over
  the op list), the refinement (`step_refines`) is stated for one step from a state that has the invariant.
-/
import SlicecVerif.Lemmas.Buffers

namespace Slicec.C12

open Slicec

/-- invariant of the fixed-slice target over a buffer whose initial content is `init` (its capacity is `init.length`):
    the length never changes, the cursor is in range, every issued reservation lies below the cursor,
    issued reservations are pairwise disjoint (ordered), and the bytes at and above the cursor still
    hold their initial content. -/
structure Inv (init : Bytes) (st : SliceSt) : Prop where
  len : st.tgt.buf.length = init.length
  pos : st.tgt.pos ≤ init.length
  below : ∀ r ∈ st.res, r.start ≤ r.stop ∧ r.stop ≤ st.tgt.pos
  disjoint : st.res.Pairwise (fun a b => a.stop ≤ b.start)
  tail : st.tgt.buf.drop st.tgt.pos = init.drop st.tgt.pos

/-- an operation that is no forged reservation (a history is honest when each of its operations is) -/
def honest : OutOp → Prop
  | .foreign _ _ _ => False
  | _ => True

/-- failure atomicity: an operation that reports an error (or names no reservation) changes neither
    the contents nor the position nor any reservation. -/
theorem fail_unchanged (st : SliceSt) (op : OutOp) (h : ∀ a b, (st.step op).2 ≠ .okRes a b) (h' : (st.step op).2 ≠ .ok) :
    (st.step op).1 = st := by
  -- a changed state comes with the observation `.ok` or `.okRes`
  refine SliceSt.step_cases (fun p => (∀ a b, p.2 ≠ .okRes a b) → p.2 ≠ .ok → p.1 = st) st op ?_ ?_ ?_ ?_ h h'
  · exact fun _ _ _ => rfl
  · exact fun _ _ _ _ hok => absurd rfl hok
  · exact fun _ _ _ _ hres _ => absurd rfl (hres _ _)
  · exact fun _ _ _ _ _ _ hres _ => absurd rfl (hres _ _)

/-- frame of an append: a successful write changes exactly `buf[pos, pos+len)`; every other byte,
    below and above, is untouched, and the new bytes are the ones written. -/
theorem write_frame (s s' : SliceOut) (bs : Bytes) (hp : s.pos ≤ s.buf.length) (h : s.write bs = .ok s') :
    s'.pos = s.pos + bs.length ∧ s'.pos ≤ s.buf.length ∧ s'.buf.length = s.buf.length ∧
    (∀ j, j < s.pos ∨ s.pos + bs.length ≤ j → s'.buf[j]? = s.buf[j]?) ∧
    (∀ j, j < bs.length → s'.buf[s.pos + j]? = bs[j]?) := by
  obtain ⟨h1, rfl⟩ := write_ok _ _ _ h
  have hb : s.pos + bs.length ≤ s.buf.length := by omega
  exact ⟨rfl, hb, splice_frame _ _ _ hb⟩

/-- writes into a reservation — any range, issued or forged — are in bounds or refused: a successful one
    changes exactly `buf[start, start+len)`, which lies inside the range and inside the buffer, leaves
    every other byte and the cursor alone, and shrinks the range from the front. -/
theorem reserved_write_frame (s s' : SliceOut) (r r' : Res) (bs : Bytes) (h : s.writeRes r bs = .ok (s', r')) :
    r.start + bs.length ≤ r.stop ∧ r.stop ≤ s.buf.length ∧ s'.pos = s.pos ∧
    r' = ⟨r.start + bs.length, r.stop⟩ ∧ s'.buf.length = s.buf.length ∧
    (∀ j, j < r.start ∨ r.start + bs.length ≤ j → s'.buf[j]? = s.buf[j]?) ∧
    (∀ j, j < bs.length → s'.buf[r.start + j]? = bs[j]?) := by
  obtain ⟨h1, h2, rfl, rfl⟩ := writeRes_ok _ _ _ _ _ h
  exact ⟨h1, h2, rfl, rfl, splice_frame _ _ _ (by omega)⟩

/-- the fixed-slice target never changes the length of its buffer and never moves the cursor past the end,
    for every operation including forged reservations. -/
theorem length_constant (st : SliceSt) (op : OutOp) (hp : st.tgt.pos ≤ st.tgt.buf.length) :
    (st.step op).1.tgt.buf.length = st.tgt.buf.length ∧ (st.step op).1.tgt.pos ≤ st.tgt.buf.length := by
  refine SliceSt.step_cases (fun p => p.1.tgt.buf.length = st.tgt.buf.length ∧ p.1.tgt.pos ≤ st.tgt.buf.length) st op
    (fun _ => ⟨rfl, hp⟩) ?_ ?_ ?_
  · intro bs t h
    obtain ⟨_, h2, h3, _⟩ := write_frame _ _ _ hp h
    exact ⟨h3, h2⟩
  · intro k t r h
    obtain ⟨h1, rfl, rfl⟩ := reserve_ok _ _ _ _ h
    exact ⟨rfl, show st.tgt.pos + k ≤ _ by omega⟩
  · intro r bs t r' _ h
    obtain ⟨_, _, h3, _, h5, _⟩ := reserved_write_frame _ _ _ _ _ h
    exact ⟨h5, h3 ▸ hp⟩

theorem step_inv (init : Bytes) (st : SliceSt) (op : OutOp) (ho : honest op) (hi : Inv init st) :
    Inv init (st.step op).1 := by
  have ⟨hlen, hpos, hbelow, hdis, htail⟩ := hi
  -- the branches of `SliceSt.step`: 1 appends, 3 reserves, 6 writes into an issued reservation, 8 into a forged one;
  -- the other five fail or find no reservation and return `st`
  fun_cases SliceSt.step st op
  case case1 bs t hw =>
    obtain ⟨h1, rfl⟩ := write_ok _ _ _ hw
    have hb : st.tgt.pos + bs.length ≤ st.tgt.buf.length := by omega
    refine ⟨(splice_length _ _ _ hb).trans hlen, hlen ▸ hb,
      fun r hr => ⟨(hbelow r hr).1, Nat.le_trans (hbelow r hr).2 (Nat.le_add_right _ _)⟩, hdis, ?_⟩
    show (splice _ _ _).drop _ = _
    rw [splice_drop_ge _ _ _ _ (Nat.le_refl _) hb, ← List.drop_drop, ← List.drop_drop, htail]
  case case3 k t r hw =>
    obtain ⟨h1, rfl, rfl⟩ := reserve_ok _ _ _ _ hw
    have hk : st.tgt.pos + k ≤ init.length := by omega
    refine ⟨hlen, hk, ?_, List.pairwise_append.mpr ⟨hdis, List.pairwise_singleton _ _, ?_⟩, ?_⟩
    · intro r hr
      rcases List.mem_append.mp hr with hr | hr
      · exact ⟨(hbelow r hr).1, Nat.le_trans (hbelow r hr).2 (Nat.le_add_right _ _)⟩
      · cases List.mem_singleton.mp hr
        exact ⟨Nat.le_add_right _ _, Nat.le_refl _⟩
    · intro a ha b hb
      cases List.mem_singleton.mp hb
      exact (hbelow a ha).2
    · show st.tgt.buf.drop _ = _
      rw [← List.drop_drop, ← List.drop_drop, htail]
  case case6 i bs r hr t r' hw =>
    have hrb := hbelow r (List.mem_of_getElem? hr)
    obtain ⟨h1, h2, rfl, rfl⟩ := writeRes_ok _ _ _ _ _ hw
    refine ⟨(splice_length _ _ _ (by omega)).trans hlen, hpos, ?_, ?_,
      (splice_drop_ge _ _ _ st.tgt.pos (by omega) (by omega)).trans htail⟩
    · intro q hq
      rcases List.mem_or_eq_of_mem_set hq with hq | rfl
      · exact hbelow q hq
      · exact ⟨h1, hrb.2⟩
    · exact pairwise_set _ _ _ _ _ hr hdis (fun z hz => Nat.le_trans hz (Nat.le_add_right _ _)) (fun z hz => hz)
  case case8 => exact ho.elim
  all_goals exact hi

/-- the invariant holds after every honest history, from a fresh target. -/
theorem run_inv (init : Bytes) (ops : List OutOp) (ho : ∀ o ∈ ops, honest o) :
    Inv init (SliceSt.run ⟨⟨init, 0⟩, []⟩ ops) :=
  List.foldlRecOn ops _ (motive := Inv init) ⟨rfl, Nat.zero_le _, by simp, .nil, rfl⟩
    fun st h o hm => step_inv init st o (ho o hm) h

/-! ### refinement to an append-only log, one honest operation at a time -/

/-- the abstract log: the bytes below the cursor -/
def abs (st : SliceSt) : Bytes := st.tgt.buf.take st.tgt.pos

/-- the specification: appends append, a reservation claims the next `k` bytes (holding whatever the
    buffer held there initially), a reserved write overwrites the front of its range inside the log -/
def specStep (init : Bytes) (log : Bytes) (res : List Res) : OutOp → Bytes
  | .write bs => if init.length - log.length < bs.length then log else log ++ bs
  | .reserve k => if init.length - log.length < k then log else log ++ (init.drop log.length).take k
  | .resv i bs =>
    match res[i]? with
    | none => log
    | some r => if r.stop - r.start < bs.length then log else splice log r.start bs
  | .foreign _ _ _ => log

/-- on an honest operation the bytes below the cursor change as the specification says; what the operation reports
    (`Obs`) is not compared. -/
theorem step_refines (init : Bytes) (st : SliceSt) (op : OutOp) (ho : honest op) (hi : Inv init st) :
    abs (st.step op).1 = specStep init (abs st) st.res op := by
  obtain ⟨hlen, hpos, hbelow, _, htail⟩ := hi
  have habs : (abs st).length = st.tgt.pos := by simp [abs]; omega
  -- along the branches of the specification; each primitive is an `if` on the test the specification makes
  fun_cases specStep init (abs st) st.res op
  case case1 bs c =>
    rw [habs, ← hlen] at c
    simp only [SliceSt.step, show st.tgt.write bs = .error _ from if_pos c]
  case case2 bs c =>
    rw [habs, ← hlen] at c
    simp only [SliceSt.step, show st.tgt.write bs = .ok _ from if_neg c]
    exact splice_take_end _ _ _ (show st.tgt.pos + bs.length ≤ _ by omega)
  case case3 k c =>
    rw [habs, ← hlen] at c
    simp only [SliceSt.step, show st.tgt.reserve k = .error _ from if_pos c]
  case case4 k c =>
    rw [habs, ← hlen] at c
    simp only [SliceSt.step, show st.tgt.reserve k = .ok _ from if_neg c, habs, ← htail]
    exact List.take_add
  case case5 hr => simp only [SliceSt.step, hr]
  case case6 i bs r hr c =>
    have hrb := hbelow r (List.mem_of_getElem? hr)
    simp only [SliceSt.step, hr, show st.tgt.writeRes r bs = .error _ from (if_neg (by omega)).trans (if_pos c)]
  case case7 i bs r hr c =>
    have hrb := hbelow r (List.mem_of_getElem? hr)
    simp only [SliceSt.step, hr, show st.tgt.writeRes r bs = .ok _ from (if_neg (by omega)).trans (if_neg c)]
    exact splice_take st.tgt.buf r.start bs st.tgt.pos (by omega) (by omega)
  case case8 => exact ho.elim

/-! ### the write position of the fixed-slice target only moves forward -/

/-- a successful append or reservation moves the cursor forward, a successful reserved write leaves it. -/
theorem slice_write_pos (s t : SliceOut) (bs : Bytes) (h : s.write bs = .ok t) : s.pos ≤ t.pos := by
  obtain ⟨_, rfl⟩ := write_ok _ _ _ h
  exact Nat.le_add_right _ _

theorem slice_reserve_pos (s t : SliceOut) (k : Nat) (r : Res) (h : s.reserve k = .ok (t, r)) : s.pos ≤ t.pos := by
  obtain ⟨_, rfl, _⟩ := reserve_ok _ _ _ _ h
  exact Nat.le_add_right _ _

theorem slice_writeRes_pos (s t : SliceOut) (r r' : Res) (bs : Bytes) (h : s.writeRes r bs = .ok (t, r')) :
    t.pos = s.pos := by
  obtain ⟨_, _, rfl, _⟩ := writeRes_ok _ _ _ _ _ h
  rfl

/-- after any operation on the fixed-slice target — failed ones and forged reservations included — the
    position is at least what it was: nothing already logged can be "un-written" by moving the cursor back. -/
theorem slice_step_pos_monotone (st : SliceSt) (op : OutOp) : st.tgt.pos ≤ (st.step op).1.tgt.pos :=
  SliceSt.step_cases (fun p => st.tgt.pos ≤ p.1.tgt.pos) st op (fun _ => Nat.le_refl _) (fun _ _ h => slice_write_pos _ _ _ h)
    (fun _ _ _ h => slice_reserve_pos _ _ _ _ h) (fun _ _ _ _ _ h => Nat.le_of_eq (slice_writeRes_pos _ _ _ _ _ h).symm)

/-- … hence over every history. -/
theorem slice_run_pos_monotone (ops : List OutOp) : ∀ st : SliceSt, st.tgt.pos ≤ (st.run ops).tgt.pos := fun st =>
  List.foldlRecOn ops _ (motive := fun s => st.tgt.pos ≤ s.tgt.pos) (Nat.le_refl _)
    fun s h o _ => Nat.le_trans h (slice_step_pos_monotone s o)

/-! a history with a write, a reservation, a partial fill and an overflowing write -/
example :
    let st := SliceSt.run ⟨⟨[9, 9, 9, 9, 9], 0⟩, []⟩ [.write [1], .reserve 2, .write [4], .resv 0 [7], .write [5, 6], .resv 0 [8]]
    st.tgt.buf = [1, 7, 8, 4, 9] ∧ st.tgt.pos = 4 ∧ st.res = [⟨3, 3⟩] := by decide

/-! ### growable target -/

/-- appends and reservations on the growable target only ever extend the vector; a reservation is the
    `k` zero bytes just appended. -/
theorem vec_append_only (s : VecOut) (bs : Bytes) (k : Nat) :
    (s.write bs).buf = s.buf ++ bs ∧
    (s.reserve k).1.buf = s.buf ++ List.replicate k 0 ∧ (s.reserve k).2 = ⟨s.buf.length, s.buf.length + k⟩ := by
  simp [VecOut.write, VecOut.reserve]

/-- `reserved_write_frame` for the growable target. -/
theorem vec_reserved_write_frame (s s' : VecOut) (r r' : Res) (bs : Bytes) (h : s.writeRes r bs = .ok (s', r')) :
    r.start + bs.length ≤ r.stop ∧ r.stop ≤ s.buf.length ∧
    r' = ⟨r.start + bs.length, r.stop⟩ ∧ s'.buf.length = s.buf.length ∧
    (∀ j, j < r.start ∨ r.start + bs.length ≤ j → s'.buf[j]? = s.buf[j]?) ∧
    (∀ j, j < bs.length → s'.buf[r.start + j]? = bs[j]?) := by
  obtain ⟨h1, h2, rfl, rfl⟩ := vec_writeRes_ok _ _ _ _ _ h
  exact ⟨h1, h2, rfl, splice_frame _ _ _ (by omega)⟩

/-- the growable target never shrinks: after any operation — failed ones and writes through forged
    reservations included — the vector is at least as long as before. -/
theorem vec_step_length_monotone (st : VecSt) (op : OutOp) :
    st.tgt.buf.length ≤ (st.step op).1.tgt.buf.length :=
  VecSt.step_tgt (fun t => st.tgt.buf.length ≤ t.buf.length) st op (Nat.le_refl _)
    (fun bs => by simp [VecOut.write]) (fun k => by simp [VecOut.reserve])
    fun r bs t r' h => Nat.le_of_eq (vec_reserved_write_frame st.tgt t r r' bs h).2.2.2.1.symm

/-- … hence over every history, of any length, with any mixture of operations: the log is never
    truncated. -/
theorem vec_run_length_monotone (ops : List OutOp) : ∀ st : VecSt,
    st.tgt.buf.length ≤ (st.run ops).tgt.buf.length := fun st =>
  List.foldlRecOn ops _ (motive := fun s => st.tgt.buf.length ≤ s.tgt.buf.length) (Nat.le_refl _)
    fun s h o _ => Nat.le_trans h (vec_step_length_monotone s o)

/-- a history with a write, a reservation, a partial fill and a forged range -/
example : ((⟨⟨[1]⟩, []⟩ : VecSt).run [.write [2], .reserve 2, .resv 0 [9], .foreign 0 1 [7], .foreign 5 9 [7]]).tgt.buf = [7, 2, 9, 0] := by
  decide

/-! ### input source -/

/-- reads yield exactly `buf[pos, pos+k)` and advance by `k`; peeks never advance; the cursor stays in
    range; a failed read leaves the cursor (no state is returned). -/
theorem source_read (s : SliceIn) (k : Nat) (hp : s.pos ≤ s.buf.length) :
    (∀ bs, s.peek k = .ok bs → bs.length = k ∧ s.pos + k ≤ s.buf.length ∧ ∀ j, j < k → bs[j]? = s.buf[s.pos + j]?) ∧
    (∀ bs s', s.read k = .ok (bs, s') → s.peek k = .ok bs ∧ s'.pos = s.pos + k ∧ s'.buf = s.buf ∧ s'.pos ≤ s'.buf.length) := by
  have peek_ok : ∀ bs, s.peek k = .ok bs → s.pos + k ≤ s.buf.length ∧ bs = (s.buf.drop s.pos).take k := by
    intro bs
    fun_cases SliceIn.peek s k <;> intro h <;> cases h
    case case2 c => exact ⟨by unfold SliceIn.remaining at c; omega, rfl⟩
  constructor
  · intro bs h
    obtain ⟨hk, rfl⟩ := peek_ok bs h
    refine ⟨by simp; omega, hk, fun j hj => ?_⟩
    rw [List.getElem?_take_of_lt hj, List.getElem?_drop]
  · intro bs s'
    fun_cases SliceIn.read s k <;> intro h <;> cases h
    exact ⟨‹_›, rfl, rfl, (peek_ok _ ‹_›).1⟩

end Slicec.C12

#print axioms Slicec.C12.fail_unchanged
#print axioms Slicec.C12.length_constant
#print axioms Slicec.C12.write_frame
#print axioms Slicec.C12.reserved_write_frame
#print axioms Slicec.C12.step_inv
#print axioms Slicec.C12.run_inv
#print axioms Slicec.C12.step_refines
#print axioms Slicec.C12.vec_append_only
#print axioms Slicec.C12.vec_reserved_write_frame
#print axioms Slicec.C12.source_read
#print axioms Slicec.C12.vec_step_length_monotone
#print axioms Slicec.C12.vec_run_length_monotone
#print axioms Slicec.C12.slice_write_pos
#print axioms Slicec.C12.slice_reserve_pos
#print axioms Slicec.C12.slice_writeRes_pos
#print axioms Slicec.C12.slice_step_pos_monotone
#print axioms Slicec.C12.slice_run_pos_monotone
