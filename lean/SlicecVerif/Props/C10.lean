/-
  C10 — Slice encoding round-trips and matches the wire format.
  `encode`/`decode` are the models of encoding.rs/decoding.rs whose variable-width arms are the
  tables of Gen/VarintArms.lean, regenerated from the Rust source on every run.
-/
import SlicecVerif.Lemmas.Codec

namespace Slicec.C10

open Slicec

/-- Round trip with exact consumption, for every value of every type at any nesting depth:
    decoding the encoder's output followed by arbitrary bytes yields the value and leaves exactly
    those bytes. (`WF`: dictionaries have distinct keys, as any map value does.) -/
theorem roundtrip (t : Ty) (v : Val t) (bs rest : Bytes) (hwf : WF t v) (h : encode t v = some bs) :
    decode t (bs ++ rest) = .ok (v, rest) :=
  decode_encode t v bs rest hwf h

/-- `toLE`, by which `encode` writes fixed-width numbers, is little-endian: byte `i` holds bits `8i .. 8i+7`. -/
theorem fixed_little_endian (k x i : Nat) (hi : i < k) :
    (toLE k x)[i]? = some (UInt8.ofNat (x / 256 ^ i % 256)) := by
  induction k generalizing x i with
  | zero => omega
  | succ k ih =>
    cases i with
    | zero => simp [toLE]
    | succ i =>
      simp only [toLE, List.getElem?_cons_succ]
      rw [ih (x / 256) i (by omega), Nat.pow_succ, Nat.div_div_eq_div_mul, Nat.mul_comm]

/-- signed fixed-width numbers are two's complement: a negative `v` is written as `2^bits + v`. -/
theorem signed_twos_complement (w : Width) (v : Int) (hlo : -(2 ^ (8 * w.n - 1)) ≤ v) (hneg : v < 0) :
    encode (.sint w) v = some (toLE w.n (v + 2 ^ (8 * w.n)).toNat) := by
  have hp : (0 : Int) < 2 ^ (8 * w.n - 1) := Int.pow_pos (by decide)
  have h2 : (2 : Int) ^ (8 * w.n) = 2 * 2 ^ (8 * w.n - 1) := by
    have : 8 * w.n = (8 * w.n - 1) + 1 := by cases w <;> simp [Width.n]
    rw [this, Int.pow_succ]; simp; omega
  show encFixedS w.n v = _
  unfold encFixedS ofSigned
  rw [if_pos ⟨hlo, by omega⟩]
  congr 3
  rw [← Int.add_emod_right]
  exact Int.emod_eq_of_lt (by omega) (by omega)

/-- an `f32` is carried as its 32-bit pattern, so NaN payloads, infinities and subnormals, being patterns
    like any other, survive unchanged (instance of `roundtrip`, which covers `f64` in the same way). -/
theorem float_bits_transparent (b : Nat) (hb : b < 2 ^ 32) (rest : Bytes) :
    decode .f32 (toLE 4 b ++ rest) = .ok (b, rest) :=
  roundtrip .f32 b _ rest trivial (by show encBits 4 b = _; simp [encBits, hb])

/-- wire format of unsigned variable-width integers: the table-driven encoder writes exactly
    `value * 4 + code` on the shortest of 1, 2, 4, 8 bytes, and refuses where the specification has no width. -/
theorem varuint_wire (v : BitVec 64) : encVaruint v = specVaruint v.toNat := encVaruint_eq_spec v

/-- wire format of signed variable-width integers (two's complement of `value * 4 + code`). -/
theorem varint_wire (v : BitVec 64) : encVarint v = specVarint v.toInt := encVarint_eq_spec v

/-- `specWidthU` really is the least admissible width. -/
theorem width_shortest_unsigned (v w : Nat) (h : specWidthU v = some w) :
    (w = 1 ∨ w = 2 ∨ w = 4 ∨ w = 8) ∧ v < 2 ^ (8 * w - 2) ∧
    ∀ w', (w' = 1 ∨ w' = 2 ∨ w' = 4 ∨ w' = 8) → v < 2 ^ (8 * w' - 2) → w ≤ w' :=
  least4 (P := fun w => v < 2 ^ (8 * w - 2)) h

theorem width_shortest_signed (v : Int) (w : Nat) (h : specWidthS v = some w) :
    (w = 1 ∨ w = 2 ∨ w = 4 ∨ w = 8) ∧ (-(2 ^ (8 * w - 3)) ≤ v ∧ v < 2 ^ (8 * w - 3)) ∧
    ∀ w', (w' = 1 ∨ w' = 2 ∨ w' = 4 ∨ w' = 8) → (-(2 ^ (8 * w' - 3)) ≤ v ∧ v < 2 ^ (8 * w' - 3)) → w ≤ w' :=
  least4 (P := fun w => -(2 ^ (8 * w - 3)) ≤ v ∧ v < 2 ^ (8 * w - 3)) h

/-- values outside the 62-bit range are refused, never truncated (and only those). -/
theorem varuint_refused (v : BitVec 64) : encVaruint v = none ↔ 2 ^ 62 ≤ v.toNat := by
  rw [varuint_wire, specVaruint, Option.map_eq_none_iff, specWidthU_none]

theorem varint_refused (v : BitVec 64) :
    encVarint v = none ↔ (v.toInt < -(2 ^ 61) ∨ 2 ^ 61 ≤ v.toInt) := by
  rw [varint_wire, specVarint, Option.map_eq_none_iff, specWidthS_none]

/-- the decoder's dispatch table covers every value of `byte & 0b11`
    (the `unreachable_unchecked` arm of `decode_varint`/`decode_varuint` is unreachable). -/
theorem decode_dispatch_total :
    ∀ c, c < Gen.decodeMask + 1 →
      (lookupWidth Gen.varuintDecode c).isSome ∧ (lookupWidth Gen.varintDecode c).isSome := by
  decide

/-- narrowing (`try_from`) never truncates: what `narrow lo hi` lets through lies in `[lo, hi]`. (That `decode` narrows
    `varint32` and `varuint32` to their 32-bit ranges is C11's `varint32_in_range` / `varuint32_in_range`.) -/
theorem narrow_in_range (lo hi : Int) (r : Dec Int) (v : Int) (rest : Bytes)
    (h : narrow lo hi r = .ok (v, rest)) : lo ≤ v ∧ v ≤ hi :=
  (narrow_ok lo hi r v rest h).2

/-- The encoding is a prefix code: if the encodings of two values are each followed by arbitrary bytes and
    the two byte strings are equal, the values are equal, their encodings are equal and so are the
    followers. In particular no encoding is a proper prefix of another one of the same type — a value in a
    stream is delimited by its own bytes alone (what "consumes exactly the bytes written" needs). -/
theorem encode_prefix_free (t : Ty) (v v' : Val t) (a b x y : Bytes) (hwf : WF t v) (hwf' : WF t v')
    (h : encode t v = some a) (h' : encode t v' = some b) (e : a ++ x = b ++ y) :
    v = v' ∧ a = b ∧ x = y :=
  Reads.prefix_free (fun r => roundtrip t v a r hwf h) (fun r => roundtrip t v' b r hwf' h') e

/-- The encoding is injective: two (well-formed) values of one type that the encoder writes as the same
    bytes are the same value — nothing is lost or conflated on the wire, at any nesting depth. -/
theorem encode_injective (t : Ty) (v v' : Val t) (bs : Bytes) (hwf : WF t v) (hwf' : WF t v')
    (h : encode t v = some bs) (h' : encode t v' = some bs) : v = v' :=
  (encode_prefix_free t v v' bs bs [] [] hwf hwf' h h' rfl).1

/-- Streams: any number of (well-formed) values of one type written one behind the other, followed by
    arbitrary bytes, are read back in order by as many decodes, which leave exactly the follower — the
    round trip composes over unbounded sequences of messages (no length prefix involved). -/
theorem roundtrip_stream (t : Ty) (vs : List (Val t)) (bs rest : Bytes) (hwf : ∀ v ∈ vs, WF t v)
    (h : encList (encode t) vs = some bs) :
    decList (decode t) vs.length (bs ++ rest) = .ok (vs, rest) :=
  encList_dec (encode t) (decode t) vs (fun x hx b r hb => roundtrip t x b r (hwf x hx) hb) bs rest h

/-! concrete values that meet the hypotheses -/
example : WF (.dictH (.uint .w1) (.seq .str)) [((1 : Int), [[104, 105]]), ((2 : Int), [])] := by
  refine ⟨by decide, ?_⟩
  intro p hp; exact ⟨trivial, fun _ _ => trivial⟩
example : encode .varint62 (-33 : Int) = some [125, 255] := by decide
example : specVaruint 16384 = some [2, 0, 1, 0] := by decide
example : encVaruint (BitVec.ofNat 64 (2 ^ 62)) = none := by decide

end Slicec.C10

#print axioms Slicec.C10.roundtrip
#print axioms Slicec.C10.fixed_little_endian
#print axioms Slicec.C10.signed_twos_complement
#print axioms Slicec.C10.float_bits_transparent
#print axioms Slicec.C10.varuint_wire
#print axioms Slicec.C10.varint_wire
#print axioms Slicec.C10.width_shortest_unsigned
#print axioms Slicec.C10.width_shortest_signed
#print axioms Slicec.C10.varuint_refused
#print axioms Slicec.C10.varint_refused
#print axioms Slicec.C10.decode_dispatch_total
#print axioms Slicec.C10.narrow_in_range
#print axioms Slicec.C10.encode_injective
#print axioms Slicec.C10.encode_prefix_free
#print axioms Slicec.C10.roundtrip_stream
