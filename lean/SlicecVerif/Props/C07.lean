/-
  C07 — Code generation happens only after an error-free compilation.

  Statements over `Model/Driver.lean`: `compilePhases` (lib.rs / compilation_state.rs / patchers / validators
  gating) and `mainFlow` (main.rs). `runDriver opts o request gens fs` is the whole program for arbitrary
  per-phase outcomes `o`, an arbitrary result of the request encoder, arbitrary generators with arbitrary
  behaviours and an arbitrary file system.
-/
import SlicecVerif.Lemmas.Driver

namespace Slicec.C07

open Slicec Slicec.Driver

/-- The diagnostics of a compilation are exactly those of the phases that ran, in phase order, and the
    phases that ran are an initial segment of resolve → parse → attributes → type refs → links → cycles →
    redefinitions → visitor (characterised by `ranFrom`: a phase is followed by the next one iff it
    reported no error). -/
theorem phases_run (o : PhaseOutcomes) :
    (compilePhases o).ran = ranFrom o allPhases ∧
    (compilePhases o).diags = (compilePhases o).ran.flatMap o.out := by
  rw [compilePhases_spec]
  exact ⟨rfl, rfl⟩

/-- Gating, seen from the later phase: a phase runs only if every earlier phase ran without an error. -/
theorem later_phase_only_if_earlier_clean (o : PhaseOutcomes) (q : Phase) (hq : q ∈ (compilePhases o).ran)
    (p : Phase) (hlt : p.idx < q.idx) : hasErrors (o.out p) = false :=
  (mem_ran_iff o q).1 hq p hlt

/-- Gating: if a phase that ran reported an error, no later phase ran, and `has_errors` holds at the guard
    of the generator block, which is therefore closed whatever the options are. -/
theorem gating (o : PhaseOutcomes) (p : Phase) (hp : p ∈ (compilePhases o).ran)
    (he : hasErrors (o.out p) = true) :
    (∀ q ∈ (compilePhases o).ran, q.idx ≤ p.idx) ∧
    hasErrors (compilePhases o).diags = true ∧
    ∀ opts : Options, guardOpen opts (compilePhases o).diags = false := by
  have herr : hasErrors (compilePhases o).diags = true := by
    rw [(phases_run o).2, hasErrors_flatMap, List.any_eq_true]
    exact ⟨p, hp, he⟩
  refine ⟨fun q hq => Nat.le_of_not_lt fun hlt => ?_, herr, fun opts => guardOpen_false_of_errors opts _ herr⟩
  -- a later `q` would have run only behind a clean `p`
  rw [later_phase_only_if_earlier_clean o q hq p hlt] at he
  cases he

/-- If the guard of the generator block is closed nothing is spawned, nothing is written and the file
    system is the one the compiler found. -/
theorem nothing_happens_when_blocked (opts : Options) (c : List Diag) (request : Option Bytes)
    (gens : List GenRun) (fs : FileSystem) (h : guardOpen opts c = false) :
    (mainFlow opts c request gens fs).attempted = [] ∧
    (mainFlow opts c request gens fs).requests = [] ∧
    (mainFlow opts c request gens fs).world.writes = [] ∧
    (mainFlow opts c request gens fs).world.fs = fs := by
  rw [mainFlow_closed opts c request gens fs h]
  simp [finish]

/-- A generator is started (a spawn is attempted, let alone a process receives a request) only if every
    input file was read, parsed, patched and validated without a single error — no phase reported an error
    and all eight phases ran — and `--dry-run` was not given. -/
theorem generators_only_if_clean (opts : Options) (o : PhaseOutcomes) (request : Option Bytes)
    (gens : List GenRun) (fs : FileSystem)
    (h : (runDriver opts o request gens fs).attempted ≠ [] ∨ (runDriver opts o request gens fs).requests ≠ []) :
    (∀ p : Phase, hasErrors (o.out p) = false) ∧ (compilePhases o).ran = allPhases ∧ opts.dryRun = false := by
  unfold runDriver at h
  cases hg : guardOpen opts (compilePhases o).diags
  · obtain ⟨h1, h2, _, _⟩ := nothing_happens_when_blocked opts _ request gens fs hg
    exact h.elim (absurd h1) (absurd h2)
  · obtain ⟨hclean, hdry⟩ := (guardOpen_iff opts _).1 hg
    have hall := (compile_clean_iff o).1 hclean
    exact ⟨hall, (phases_run o).1.trans (ranFrom_of_clean o allPhases fun p _ => hall p), hdry⟩

/-- Files are written only from generators that were started: every write that happened stems from a
    file of a generator that was spawned, received the request, and whose reply was accepted — and (by
    `generators_only_if_clean`) only after an error-free compilation without `--dry-run`. -/
theorem files_only_if_started (opts : Options) (o : PhaseOutcomes) (request : Option Bytes)
    (gens : List GenRun) (fs : FileSystem) (pc : Path × Bytes)
    (h : pc ∈ (runDriver opts o request gens fs).world.writes) :
    ∃ g ∈ gens, g.failed = false ∧ g.gen ∈ (runDriver opts o request gens fs).attempted ∧
      (∃ stdin, (g.gen, stdin) ∈ (runDriver opts o request gens fs).requests) ∧
      ∃ f ∈ g.files, pc = (targetPath opts.outputDir f.path, f.contents) := by
  unfold runDriver at h ⊢
  cases hg : guardOpen opts (compilePhases o).diags
  · obtain ⟨_, _, h3, _⟩ := nothing_happens_when_blocked opts _ request gens fs hg
    rw [h3] at h
    simp at h
  · cases request with
    | none => rw [mainFlow_open_none _ _ _ _ hg] at h; simp at h
    | some payload =>
      rw [mainFlow_open_some _ _ _ _ _ hg] at h ⊢
      simp only [finish] at h ⊢
      rcases collectAll_writes opts.outputDir payload gens ⟨fs, [], []⟩ pc h with h | ⟨g, hg', hok, f, hf, e⟩
      · cases h
      · refine ⟨g, hg', hok, List.mem_map.2 ⟨g, hg', rfl⟩, ⟨payload ++ (encArguments g.gen.args).getD [], ?_⟩, f, hf, e⟩
        -- an accepted generator exited, so it had been spawned and is among the requests
        obtain ⟨r, hr⟩ := (failed_false_iff g).1 hok
        obtain ⟨stdout, _, hb, _⟩ := (genReply_ok_iff g r).1 hr
        rw [requestsOf_spawn]
        exact List.mem_map.2 ⟨g, List.mem_filter.2 ⟨hg', by rw [hb]; rfl⟩, rfl⟩

/-- Warnings alone never prevent generation: when no phase reports an error (whatever lints are emitted,
    whatever `-A` says) and `--dry-run` is absent, a spawn is attempted for every generator, in order; if
    moreover no generator fails and no file write fails, the exit status is 0. -/
theorem warnings_do_not_block (opts : Options) (o : PhaseOutcomes) (payload : Bytes)
    (gens : List GenRun) (fs : FileSystem)
    (hclean : ∀ p : Phase, hasErrors (o.out p) = false) (hdry : opts.dryRun = false) :
    (runDriver opts o (some payload) gens fs).attempted = gens.map (·.gen) ∧
    ((∀ d ∈ (runDriver opts o (some payload) gens fs).diags, d.1.isError = false) →
      (runDriver opts o (some payload) gens fs).status = 0) := by
  have hg : guardOpen opts (compilePhases o).diags = true :=
    (guardOpen_iff opts _).2 ⟨(compile_clean_iff o).2 hclean, hdry⟩
  unfold runDriver
  rw [mainFlow_open_some _ _ _ _ _ hg]
  refine ⟨rfl, ?_⟩
  intro hall
  rw [finish_status]
  simp only [finish, List.mem_map, forall_exists_index, and_imp] at hall
  rw [(hasErrors_false_iff _).2 fun d hd => hall (d, d.level opts.allowedLints) d hd rfl]
  rfl

/-- a lint never has the level Error, whatever the command line and the attributes say -/
theorem lints_are_never_errors (allowed : List String) (code : String) (attr : Bool) :
    (Diag.lint code attr).level allowed ≠ .error :=
  fun h => Bool.noConfusion ((level_error_iff allowed _).1 h)

/-- The exit status is non-zero exactly when at least one Error diagnostic was emitted — by a compilation
    phase or by the generator block (E001 "run code-generator" / "write generated file"); the status is then
    1. The level Error is carried by exactly the diagnostics of kind Error (never downgraded by `-A` or
    attributes). The only other status is 79, when the request encoder fails (`exit_79_iff`). -/
theorem exit_iff_error (opts : Options) (c : List Diag) (request : Option Bytes) (gens : List GenRun)
    (fs : FileSystem) (h79 : guardOpen opts c = true → request ≠ none) :
    ((mainFlow opts c request gens fs).status ≠ 0 ↔ ∃ d ∈ (mainFlow opts c request gens fs).diags, d.2 = .error) ∧
    ((mainFlow opts c request gens fs).status = 0 ∨ (mainFlow opts c request gens fs).status = 1) ∧
    (∀ d ∈ (mainFlow opts c request gens fs).diags, d.2 = .error ↔ d.1.isError = true) := by
  -- every path but the one to exit 79 ends in `finish`
  obtain ⟨ds, a, r, w, e⟩ : ∃ ds a r w, mainFlow opts c request gens fs = finish opts ds a r w := by
    cases hg : guardOpen opts c
    · exact ⟨_, _, _, _, mainFlow_closed opts c request gens fs hg⟩
    · cases request with
      | none => exact absurd rfl (h79 hg)
      | some payload => exact ⟨_, _, _, _, mainFlow_open_some _ _ _ _ _ hg⟩
  rw [e, finish_status, finish_error_iff]
  refine ⟨?_, ?_, finish_level opts ds a r w⟩ <;> cases hasErrors ds <;> simp

/-- the diagnostics handed to the emitter are those of the compilation followed by those of the generator
    block, in that order (nothing is dropped, nothing is added) -/
theorem emitted_diagnostics (opts : Options) (c : List Diag) (payload : Bytes) (gens : List GenRun)
    (fs : FileSystem) :
    (mainFlow opts c (some payload) gens fs).diags.map (·.1) =
      c ++ (if guardOpen opts c then (collectAll opts.outputDir (gens.map (spawnGen payload)) ⟨fs, [], []⟩).2 else []) := by
  cases hg : guardOpen opts c
  · rw [mainFlow_closed opts c _ gens fs hg]
    simp [finish, Function.comp_def]
  · rw [mainFlow_open_some _ _ _ _ _ hg]
    simp [finish, Function.comp_def]

/-- status 79 is the request encoder failing in front of an open guard, and nothing else -/
theorem exit_79_iff (opts : Options) (c : List Diag) (request : Option Bytes) (gens : List GenRun)
    (fs : FileSystem) :
    (mainFlow opts c request gens fs).status = 79 ↔ (guardOpen opts c = true ∧ request = none) := by
  cases hg : guardOpen opts c
  · rw [mainFlow_closed opts c request gens fs hg, finish_status]
    cases hasErrors c <;> simp
  · cases request with
    | none => rw [mainFlow_open_none _ _ _ _ hg]; simp
    | some payload =>
      rw [mainFlow_open_some _ _ _ _ _ hg, finish_status]
      split <;> simp

/-- a syntax error in the parse phase: the six later phases never run (the E018 of the visitor is not reported), the guard
    is closed, the status is 1 -/
example :
    let o : PhaseOutcomes := ⟨[], [[.error "E002"]], [], [.lint "Deprecated" false], [], [], [], [.error "E018"]⟩
    (compilePhases o).ran = [.resolve, .parse] ∧ (compilePhases o).diags = [.error "E002"] ∧
    (runDriver ⟨false, none, []⟩ o (some []) [⟨⟨[], []⟩, .spawnError⟩] ⟨fun _ => none, fun _ => false⟩).status = 1 := by
  decide +kernel

/-- warnings only: all phases run, the generator is attempted, its failure alone sets the status -/
example :
    let o : PhaseOutcomes := ⟨[], [[]], [], [.lint "Deprecated" false], [.lint "BrokenDocLink" true], [], [], []⟩
    let r := runDriver ⟨false, none, ["Deprecated"]⟩ o (some [])
      [⟨⟨[0x67], []⟩, .exited 3 [] []⟩] ⟨fun _ => none, fun _ => false⟩
    (compilePhases o).ran = allPhases ∧ r.attempted = [⟨[0x67], []⟩] ∧ r.status = 1 ∧
    r.diags.map (·.2) = [.allowed, .allowed, .error] := by
  decide +kernel

/-- `--dry-run` closes the guard of an error-free compilation -/
example : guardOpen ⟨true, none, []⟩ [] = false ∧ guardOpen ⟨false, none, []⟩ [.lint "Deprecated" false] = true := by
  decide +kernel

end Slicec.C07

#print axioms Slicec.C07.phases_run
#print axioms Slicec.C07.gating
#print axioms Slicec.C07.later_phase_only_if_earlier_clean
#print axioms Slicec.C07.nothing_happens_when_blocked
#print axioms Slicec.C07.generators_only_if_clean
#print axioms Slicec.C07.files_only_if_started
#print axioms Slicec.C07.warnings_do_not_block
#print axioms Slicec.C07.lints_are_never_errors
#print axioms Slicec.C07.exit_iff_error
#print axioms Slicec.C07.emitted_diagnostics
#print axioms Slicec.C07.exit_79_iff
