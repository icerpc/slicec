/-
  C13 — Lint suppression silences only the named lints in scope, never errors.

  The theorems are about `intoUpdated` (Model/Lints.lean), the mirror of `Diagnostics::into_updated`, over the tables of
  Gen/Lints.lean (regenerated from the Rust source on every check), for ALL diagnostics lists and ALL configurations
  (command line list, file attributes, entity attributes reached through the scope string).
-/
import SlicecVerif.Lemmas.Lints

namespace Slicec.C13

open Slicec

/-- what `Diagnostic::new(Lint::…)` builds satisfies the hypothesis of `errors_untouched`: no lint kind of the extracted
    table has default level `Error` -/
theorem lint_wellFormed (code : String) (h : code ∈ Gen.lintKinds) (f : Option Nat) (s : Option String) :
    DiagWellFormed (Diag.lint code f s) := by
  constructor
  · intro h'; simp [Diag.lint] at h'
  · intro _; simp [Diag.lint, default_level_not_error code h]

/-- what `Diagnostic::new(Error::…)` builds satisfies the hypothesis of `errors_untouched` -/
theorem err_wellFormed (code : String) (f : Option Nat) : DiagWellFormed (Diag.err code f) := by
  constructor <;> simp [Diag.err]

/-- **errors_untouched.** Whatever the configuration (command line list, file attributes, entity attributes):
    an error comes out of `into_updated` exactly as it went in, in particular with level `Error`; no lint ever becomes an
    error; hence the number of errors, and with it the exit status, is the same for any two configurations. -/
theorem errors_untouched (env env' : AllowEnv) (ds : List Diag) (hwf : ∀ d ∈ ds, DiagWellFormed d) :
    (∀ d ∈ ds, d.isError = true → updateOne env d = d ∧ (updateOne env d).level = .error) ∧
    (∀ d ∈ ds, d.isError = false → (updateOne env d).level ≠ .error) ∧
    (totals (intoUpdated env ds)).2 = (totals ds).2 ∧
    exitFails (intoUpdated env ds) = exitFails (intoUpdated env' ds) := by
  have hcount : ∀ (e : AllowEnv), (totals (intoUpdated e ds)).2 = (totals ds).2 := by
    intro e
    simp only [totals, intoUpdated, List.filter_map, List.length_map]
    congr 1
    apply List.filter_congr
    intro d hd
    simpa [Function.comp] using updateOne_isError_level e d (hwf d hd)
  refine ⟨?_, ?_, hcount env, ?_⟩
  · intro d hd he
    have : updateOne env d = d := by simp [updateOne, he]
    exact ⟨this, by rw [this]; exact (hwf d hd).1 he⟩
  · intro d hd he h
    have := updateOne_isError_level env d (hwf d hd)
    simp [h] at this
    exact (hwf d hd).2 he this
  · simp [exitFails, hcount env, hcount env']

/-- **frame.** `into_updated` keeps the length and the order of the list, computes the entry at position `i` from the
    diagnostic at position `i` and the configuration alone, and changes nothing but the level — which either stays or
    becomes `Allowed`. (That the AST does not change at all is immediate in the code: `into_updated` takes `&Ast`;
    the correspondence family `frame` compares two whole compilations.) -/
theorem frame (env : AllowEnv) (ds : List Diag) :
    (intoUpdated env ds).length = ds.length ∧
    (∀ i : Nat, (intoUpdated env ds)[i]? = (ds[i]?).map (updateOne env)) ∧
    (∀ d, (updateOne env d).code = d.code ∧ (updateOne env d).isError = d.isError ∧
          (updateOne env d).spanFile = d.spanFile ∧ (updateOne env d).scope = d.scope ∧
          ((updateOne env d).level = d.level ∨ (updateOne env d).level = .allowed)) := by
  refine ⟨by simp [intoUpdated], fun i => by simp [intoUpdated], fun d => ?_⟩
  rw [updateOne_eq]
  exact ⟨rfl, rfl, rfl, rfl, by dsimp only; split <;> simp⟩

/-- **allowed_only_if_named** (soundness direction of `silenced_iff`, for ANY diagnostic and configuration, also where
    the side conditions of `silenced_iff` fail). A lint that was not `Allowed` comes out `Allowed` only if its code or `All`
    occurs (under the comparison `is_lint_allowed_by` uses — equality up to ASCII letter case, `named_meaning`) in the
    command line list, or in an `allow` attribute of the file its span lies in, or in an `allow` attribute of the entity
    its scope string names or of one of that entity's parents. -/
theorem allowed_only_if_named (env : AllowEnv) (d : Diag) (hlev : d.level ≠ .allowed)
    (h : (updateOne env d).level = .allowed) :
    d.isError = false ∧ (NamedBy env.cli d.code ∨ FileNames env d ∨ ScopeNames env d) := by
  rw [updateOne_eq] at h
  dsimp only at h
  split at h
  · rename_i hb
    simpa [silences_iff] using hb
  · exact absurd h hlev

/-- "occurs" means equality up to ASCII letter case (the comparison extracted from `is_lint_allowed_by`,
    `Gen.allowCompareIgnoresCase`; against a source that compares with `==` this theorem does not compile) -/
theorem named_meaning (ids : List String) (code : String) :
    NamedBy ids code ↔ ∃ id ∈ ids, eqIgnoreAsciiCase id Gen.allowAllIdentifier = true ∨ eqIgnoreAsciiCase id code = true :=
  namedBy_ignoreCase ids code

/-- what the property demands, over a bare configuration: named by an accepted command-line value (whatever its
    letter case), by the file, or by the element the lint concerns / its enclosing definitions (`concerns` = its key) -/
def Demanded (env : AllowEnv) (d : Diag) (concerns : Option String) : Prop :=
  namedByCli env.cli d.code = true ∨
  (∃ f, d.spanFile = some f ∧ namedByAttrs (env.fileAllows f) d.code = true) ∨
  (∃ k as, concerns = some k ∧ env.scopeAllows k = some as ∧ namedByAttrs as d.code = true)

/-- **silenced_iff_config** (the equivalence over a bare configuration). For every configuration whose `--allow` values
    were accepted by clap (any letter case — `is_lint_allowed_by` compares case-insensitively, extracted) and whose
    `allow` attributes passed `Allow::parse_from` (`hfile`, `hent`: arguments are allowable identifiers — anything else
    is error E027), and every lint at its default level whose recorded scope is the key of the element it concerns
    (`hscope`): the lint is `Allowed` exactly when the property says it is silenced, and `Warning` otherwise.
    `silenced_iff` below says the same of the lints of actual programs, with the recorded scope and the table lookup
    established (`lintSites_ok`); both are read off `silences_eq_demands` (Lemmas/Lints.lean), neither from the other. -/
theorem silenced_iff_config (env : AllowEnv) (d : Diag) (concerns : Option String)
    (hlint : d.isError = false) (hkind : d.code ∈ Gen.lintKinds) (hlev : d.level = lintDefaultLevel d.code)
    (hcli : ∀ v ∈ env.cli, cliAccepts v = true)
    (hfile : ∀ f, ∀ a ∈ env.fileAllows f, ∀ v ∈ a, v ∈ Gen.allowableLintIdentifiers)
    (hent : ∀ k as, env.scopeAllows k = some as → ∀ a ∈ as, ∀ v ∈ a, v ∈ Gen.allowableLintIdentifiers)
    (hscope : d.scope = concerns) :
    ((updateOne env d).level = .allowed ↔ Demanded env d concerns) ∧
    (¬ Demanded env d concerns → (updateOne env d).level = .warning) := by
  subst hscope
  rw [silenced_level hlint hkind hlev (silences_eq_demands env d (kinds_allowable _ hkind) hcli (fun f _ => hfile f) fun k as _ => hent k as),
    Demanded, ← demands_iff]
  cases demands env d <;> simp

/-- the property's wording for a lint site of a program, spelled out: the lint is named (or `All` is given)
    * by an `--allow` value the command line accepts (clap accepts any letter case of an allowable identifier), or
    * by an `allow` attribute of the file it occurs in, or
    * by an `allow` attribute on the element it concerns or on a definition enclosing that element — `s.chain` holds
      exactly these attributes' argument lists, read off the syntax tree (no scope string, no lookup). -/
def SilencedBy (cli : List String) (p : Program) (s : LintSite) : Prop :=
  (∃ v ∈ cli, cliAccepts v = true ∧ (eqIgnoreAsciiCase v Gen.allowAllIdentifier = true ∨ eqIgnoreAsciiCase v s.kind = true)) ∨
  (∃ a ∈ fileAllowsOf p s.file, ∃ id ∈ a, id = Gen.allowAllIdentifier ∨ id = s.kind) ∨
  (∃ a ∈ s.chain, ∃ id ∈ a, id = Gen.allowAllIdentifier ∨ id = s.kind)

/-- `demandedLevel` (what the driver compares with the compiler) is `SilencedBy` as a level -/
theorem demandedLevel_iff (cli : List String) (p : Program) (s : LintSite) (hkind : s.kind ∈ Gen.lintKinds) :
    (demandedLevel cli p s = .allowed ↔ SilencedBy cli p s) ∧ (¬ SilencedBy cli p s → demandedLevel cli p s = .warning) := by
  have hw := default_level_not_error s.kind hkind
  have hb : (namedByCli cli s.kind || namedByAttrs (fileAllowsOf p s.file) s.kind || namedByAttrs s.chain s.kind) = true ↔ SilencedBy cli p s := by
    simp only [Bool.or_eq_true, namedByCli_iff, namedByAttrs_iff, SilencedBy, or_assoc]
  unfold demandedLevel
  by_cases hs : SilencedBy cli p s
  · rw [if_pos (hb.2 hs)]
    exact ⟨⟨fun _ => hs, fun _ => rfl⟩, fun h => absurd hs h⟩
  · rw [if_neg (mt hb.1 hs), hw]
    exact ⟨⟨nofun, fun h => absurd h hs⟩, fun _ => rfl⟩

/-- **silenced_iff (the full statement).** For every program, every command line clap accepts (`cliParse vs = some cli`:
    every value is an allowable identifier in some letter case; the values are stored as spelled) and every lint the
    compiler records for the program (`lintSites`: MalformedDocComment, Deprecated, BrokenDocLink, IncorrectDocComment,
    each with the scope string the code records for it), the level after `into_updated` is `Allowed` exactly when the
    lint is named (or `All` is given) by an accepted `--allow` value, by an `allow` attribute of the file it occurs in,
    or by an `allow` attribute on the element it concerns or on a definition enclosing that element — and `Warning`
    otherwise. Side conditions:
    * `hargs` — the `allow` attributes in play for this site passed `Allow::parse_from` (arguments are allowable
      identifiers other than `DuplicateFile`; anything else is error E027 and compilation has failed);
    * `hkey`  — the scope string the lint records is the key of ONE element of the program (`scopeKeyUnique`). This is
      the D-13c exclusion: it fails for programs that are rejected anyway (redefinitions) and for a parameter and a return
      member of one operation that share their name, where the statement is false (`silenced_iff_needs_unique_key`).
    The proof rests on two facts extracted from the source on every run: member types are parsed in the member's own
    scope (`Gen.memberTypesParsedInMemberScope`, grammar.lalrpop; D-13a) and `is_lint_allowed_by`
    compares case-insensitively (`Gen.allowCompareIgnoresCase`; D-13b); with either flag flipped this
    theorem does not compile. -/
theorem silenced_iff (p : Program) (vs cli : List String) (hcli : cliParse vs = some cli) (s : LintSite)
    (hs : s ∈ lintSites p) (hargs : siteArgsOk p s = true) (hkey : scopeKeyUnique p s = true) :
    ((updateOne (envOf cli p) s.diag).level = .allowed ↔ SilencedBy cli p s) ∧
    (¬ SilencedBy cli p s → (updateOne (envOf cli p) s.diag).level = .warning) ∧
    (updateOne (envOf cli p) s.diag).level = demandedLevel cli p s := by
  obtain ⟨⟨k, hsk, hmem⟩, hkind⟩ := lintSites_ok p s hs
  have hlook : scopeAllowsOf p k = some s.chain :=
    scopeAllowsOf_of_mem p k s.chain hmem (by simpa [scopeKeyUnique, hsk] using hkey)
  obtain ⟨hfile, hchain⟩ := siteArgsOk_mem hargs
  have hlev : (updateOne (envOf cli p) s.diag).level = demandedLevel cli p s := by
    rw [silenced_level rfl hkind rfl (silences_eq_demands (envOf cli p) s.diag (kinds_allowable _ hkind) (cliParse_some hcli).2
      (fun f hf => by cases hf; exact hfile)
      fun k' as hk' ha => by
        -- the scope string names the element the lint concerns, whose `allow` chain the table holds
        obtain rfl : k = k' := Option.some.inj (hsk.symm.trans hk')
        obtain rfl : s.chain = as := Option.some.inj (hlook.symm.trans ha)
        exact hchain)]
    simp only [demands, demandedLevel, LintSite.diag, Diag.lint, envOf, hsk, hlook, Option.any_some,
      default_level_not_error s.kind hkind]
  obtain ⟨hd1, hd2⟩ := demandedLevel_iff cli p s hkind
  exact ⟨hlev ▸ hd1, fun h => hlev ▸ hd2 h, hlev⟩

/-- the statement of `silenced_iff` without the D-13c exclusion `hkey` -/
def silenced_iff_without_unique_key : Prop :=
  ∀ (p : Program) (vs cli : List String), cliParse vs = some cli → ∀ s ∈ lintSites p, siteArgsOk p s = true →
    (updateOne (envOf cli p) s.diag).level = demandedLevel cli p s

/-- **silenced_iff_needs_unique_key (D-13c, open).** Without the exclusion the statement is false, in both directions:
    in `op([allow(Deprecated)] a: Dep) -> (a: Dep, b: bool)` the lint about the parameter stays a warning although the
    parameter itself carries the attribute (the scope string `M::I::op::a` resolves to the return member, inserted
    last), and in `op(a: Dep) -> ([allow(Deprecated)] a: Dep, b: bool)` the lint about the parameter is silenced although
    neither the parameter nor anything enclosing it allows it. Both sites are kernel-checked members of `lintSites`;
    the real compiler does the same (correspondence families `d13c`, `witness`; `known-d13c`). -/
theorem silenced_iff_needs_unique_key :
    ¬ silenced_iff_without_unique_key ∧
    (d13cSite ∈ lintSites d13cProgram ∧ scopeKeyUnique d13cProgram d13cSite = false ∧
      (updateOne (envOf [] d13cProgram) d13cSite.diag).level = .warning ∧ demandedLevel [] d13cProgram d13cSite = .allowed) ∧
    (d13cSite2 ∈ lintSites d13cProgram2 ∧ scopeKeyUnique d13cProgram2 d13cSite2 = false ∧
      (updateOne (envOf [] d13cProgram2) d13cSite2.diag).level = .allowed ∧ demandedLevel [] d13cProgram2 d13cSite2 = .warning) := by
  have h1 : d13cSite ∈ lintSites d13cProgram ∧ scopeKeyUnique d13cProgram d13cSite = false ∧
      (updateOne (envOf [] d13cProgram) d13cSite.diag).level = .warning ∧ demandedLevel [] d13cProgram d13cSite = .allowed := by
    decide +kernel
  refine ⟨fun h => ?_, h1, by decide +kernel⟩
  have := h d13cProgram [] [] rfl d13cSite h1.1 (by decide +kernel)
  rw [h1.2.2.1, h1.2.2.2] at this
  cases this

/-! ### D-13a and D-13b on the model -/

/-- D-13a: `[allow(Deprecated)]` on a field whose own type is deprecated. The lint the compiler records (kernel-checked:
    it is the only lint site of the program) carries the field's own scope and is silenced, as the property demands;
    carrying the struct's scope (`d13aSiteOld`, what slicec recorded before 7283de9) it stays a warning. -/
example : lintSites d13aProgram = [d13aSite] ∧
    (updateOne (envOf [] d13aProgram) d13aSite.diag).level = .allowed ∧ demandedLevel [] d13aProgram d13aSite = .allowed ∧
    (updateOne (envOf [] d13aProgram) d13aSiteOld.diag).level = .warning :=
  ⟨lintSites_d13a, by decide +kernel⟩

/-- the same attribute on the struct is honoured too (the field inherits its container's attributes) -/
example : (updateOne ⟨[], fun _ => [], fun s => if s == "M::S::f" then some [[], ["Deprecated"]] else none⟩ d13aSite.diag).level = .allowed := by
  decide +kernel

/-- D-13b: `--allow deprecated` is accepted by the command line (`ignore_case`), stored as spelled,
    and — compared case-insensitively — names the lint. -/
example : cliAccepts "deprecated" = true ∧ cliParse ["deprecated", "ALL"] = some ["deprecated", "ALL"] ∧
    (updateOne ⟨["deprecated"], fun _ => [], fun _ => none⟩ (Diag.lint "Deprecated" (some 0) (some "M::S"))).level = .allowed ∧
    (updateOne ⟨["aLL"], fun _ => [], fun _ => none⟩ (Diag.lint "Deprecated" (some 0) (some "M::S"))).level = .allowed ∧
    namedByCli ["deprecated"] "Deprecated" = true := by
  decide +kernel

/-- the D-13b witness (`module M  /// {@link  struct S {}` with `--allow malformeddoccomment`) satisfies the statement -/
example : d13bSite ∈ lintSites d13bProgram ∧
    (updateOne (envOf ["malformeddoccomment"] d13bProgram) d13bSite.diag).level = .allowed ∧
    demandedLevel ["malformeddoccomment"] d13bProgram d13bSite = .allowed :=
  ⟨d13bSite_mem, by decide +kernel⟩

/-! ### non-vacuity -/

/-- the hypotheses of `silenced_iff` are satisfiable, with a lint that is silenced through its own element and one that is not -/
example : cliParse [] = some [] ∧ d13aSite ∈ lintSites d13aProgram ∧ siteArgsOk d13aProgram d13aSite = true ∧
    scopeKeyUnique d13aProgram d13aSite = true ∧ SilencedBy [] d13aProgram d13aSite := by
  refine ⟨rfl, lintSites_d13a ▸ List.mem_singleton_self _, by decide +kernel, by decide +kernel, ?_⟩
  exact Or.inr (Or.inr ⟨["Deprecated"], List.mem_singleton_self _, "Deprecated", List.mem_singleton_self _, Or.inr rfl⟩)
example : d13bSite ∈ lintSites d13bProgram ∧ siteArgsOk d13bProgram d13bSite = true ∧ scopeKeyUnique d13bProgram d13bSite = true ∧
    (updateOne (envOf [] d13bProgram) d13bSite.diag).level = .warning ∧ demandedLevel [] d13bProgram d13bSite = .warning :=
  ⟨d13bSite_mem, by decide +kernel⟩
/-- the three routes of suppression each fire, `All` works, a different lint's name does not, errors stay errors -/
example : (intoUpdated ⟨["All"], fun _ => [], fun _ => none⟩
            [Diag.lint "Deprecated" (some 0) (some "M::S"), Diag.err "E033" (some 0), Diag.lint "DuplicateFile" none none]).map (·.level)
          = [.allowed, .error, .allowed] := by decide
example : (updateOne ⟨[], fun f => if f == 1 then [["BrokenDocLink"]] else [], fun _ => none⟩ (Diag.lint "BrokenDocLink" (some 1) none)).level = .allowed := by decide +kernel
example : (updateOne ⟨[], fun f => if f == 1 then [["BrokenDocLink"]] else [], fun _ => none⟩ (Diag.lint "BrokenDocLink" (some 0) none)).level = .warning := by decide +kernel
example : (updateOne ⟨["BrokenDocLink"], fun _ => [["IncorrectDocComment"]], fun _ => some [["MalformedDocComment"]]⟩
            (Diag.lint "Deprecated" (some 0) (some "M::S"))).level = .warning := by decide +kernel
example : cliAccepts "Deprecate" = false ∧ cliAccepts "" = false ∧ cliAccepts "aLL" = true ∧ cliParse ["All", "x"] = none := by decide +kernel
/-- a lint that is a warning under the program's own configuration is silenced by `[allow(All)]` on its element -/
example : (updateOne (envOf [] d13bProgram) d13bSite.diag).level = .warning ∧
          (updateOne ⟨[], fun _ => [], fun s => if s == "M::S" then some [["All"]] else none⟩ d13bSite.diag).level = .allowed := by decide +kernel

end Slicec.C13

#print axioms Slicec.C13.lint_wellFormed
#print axioms Slicec.C13.err_wellFormed
#print axioms Slicec.C13.errors_untouched
#print axioms Slicec.C13.frame
#print axioms Slicec.C13.allowed_only_if_named
#print axioms Slicec.C13.named_meaning
#print axioms Slicec.C13.silenced_iff_config
#print axioms Slicec.C13.demandedLevel_iff
#print axioms Slicec.C13.silenced_iff
#print axioms Slicec.C13.silenced_iff_needs_unique_key
