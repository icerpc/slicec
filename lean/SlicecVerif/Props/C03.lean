/-
  C03 — Type references bind to the entity the scoping rules designate.

  The model (Model/Resolve.lean, Model/Bind.lean) mirrors `Ast::find_node_with_scope`, the lookup table
  built by the parser, and `TypeRefPatcher::{resolve_definition, resolve_type_alias}` on the *strings* the
  compiler uses as keys. The theorems below relate that model to a specification on segment lists and state
  the alias / kind / error discipline for all tables, scopes and references.

  The statements are written in the specification side of Model/Resolve.lean (`SegTable`, a table keyed by segment lists,
  with `SegTable.toTable` the string-keyed table the compiler holds: same entries, same order, last writer wins in both;
  `specLookup`, `spell`) and in `SegOK`, `PathOK`, `AliasPath`, `EntityOf` of Lemmas/Resolve.lean.
-/
import SlicecVerif.Lemmas.Resolve

namespace Slicec.C03

open Slicec

/-- **Scoping rule.** For every table given by segment lists (`st.toTable`: the keys are the joined well-formed scoped
    identifiers; `key_is_joined` says the parser's keys have that form), every module path (possibly empty) and every
    well-formed reference, the string-level lookup of the compiler (`strip_prefix("::")`,
    `split("::")`, join-and-pop loop, final global lookup) returns exactly the first hit of the specification:
    innermost module scope first, then each enclosing scope, finally the global scope; a name written with a
    leading `::` is looked up globally only. -/
theorem lookup_eq_spec (st : SegTable) (hst : ∀ e ∈ st, PathOK e.1)
    (modulePath : List String) (hm : ∀ s ∈ modulePath, SegOK s)
    (id : List String) (hid : PathOK id) (global : Bool) :
    findNodeWithScope st.toTable (spell id global) (joinSegs modulePath) = specLookup st modulePath id global := by
  unfold findNodeWithScope spell specLookup specCandidates
  cases global with
  | true =>
    simp only [if_true, stripGlobal_global, firstSome]
    rw [SegTable.find_toTable st hst id hid]
    cases SegTable.find st id <;> rfl
  | false =>
    simp only [Bool.false_eq_true, if_false, stripGlobal_path id hid]
    cases modulePath with
    | nil =>
      -- scope "" splits into [""]: the candidate "::id" names nothing, so the loop ends as it does on []
      have e1 : scopeLoop st.toTable (joinSegs id) [] = none := by rw [scopeLoop]
      have e2 : scopeLoop st.toTable (joinSegs id) (splitSegs (joinSegs [])) = none := by
        have : joinSegs [""] ++ "::" ++ joinSegs id = "::" ++ joinSegs id := by simp [joinSegs]
        rw [show splitSegs (joinSegs []) = [""] from splitSegs_empty, scopeLoop, this, SegTable.find_global_none st hst]
        exact e1
      rw [e2, ← e1]
      exact scopeLoop_spec st hst id hid [] hm
    | cons a m =>
      rw [splitSegs_join (a :: m) (by simp) (fun s hs => (hm s hs).2)]
      exact scopeLoop_spec st hst id hid (a :: m) hm

/-- the key under which the parser stores `name` declared in module / container `m` is the joined segment list, the
    form of key `SegTable.toTable` has (stated for one key; that `buildTable p` as a whole is some `st.toTable` is not proved) -/
theorem key_is_joined (m : List String) (name : String) (hm : ∀ s ∈ m, SegOK s) :
    scopedId name (joinSegs m) = joinSegs (m ++ [name]) :=
  scopedId_join m name hm

/-- **Retrieval.** When all keys stored in the table are pairwise distinct — module and parameter entries included, so
    no two files re-open the same module and no operation has a parameter and a return member of one name — every definition, field,
    operation, enumerator and enumerator field of every file is what the table returns for its fully scoped
    identifier (kind, identifier and file of the stored node are the entity's). -/
theorem retrievable (p : Program) (hnd : ((buildTable p).map (·.1)).Nodup)
    (f : SFile) (i : Nat) (hf : (f, i) ∈ p.zipIdx) (key : String) (kind : NodeKind) (ident : String)
    (h : EntityOf f key kind ident) :
    ∃ n, (buildTable p).find key = some n ∧ StoredAs n key kind ident i := by
  obtain ⟨n, hmem, hs⟩ := entity_mem p f i hf key kind ident h
  exact ⟨n, Table.find_of_nodup _ hnd key n hmem, hs⟩

/-- **Alias flattening.** Whenever a named reference resolves, the result is not an alias; if the name designates
    a non-alias node the result is that node with no extra attributes; if it designates an alias the result is the
    end of the alias chain starting there (each link looked up in the scope of the alias it is written in) and the
    attributes carried along are the concatenation, in chain order, of the attributes written on each link's type. -/
theorem alias_flatten (t : Table) (w : Want) (id scope : String) (tgt : Target) (attrs : List Attr)
    (h : resolveNamed t w id scope = .ok (tgt, attrs)) :
    ∃ n, findNodeWithScope t id scope = some n ∧ tgt.NonAlias ∧
      ((n.isAlias = false ∧ tgt = .node n ∧ attrs = []) ∨
       (n.isAlias = true ∧ ∃ links, AliasPath t n links tgt ∧ attrs = links.flatMap TRef.attrs)) := by
  obtain ⟨n, hf, _, ⟨hn, rfl, rfl⟩ | ⟨hn, links, hp, hx, _⟩⟩ := resolveNamed_ok_path h
  · exact ⟨n, hf, hn, .inl ⟨hn, rfl, rfl⟩⟩
  · exact ⟨n, hf, hp.nonAlias, .inr ⟨hn, links, hp, hx⟩⟩

/-- what a position accepts: `dyn Type` (struct, enum, custom type, primitive, anonymous type) for fields, parameters,
    alias targets and element types; `Interface` for bases; `Primitive` for underlying types -/
def TargetAcceptable (w : Want) : Target → Prop
  | .node m => acceptable w m.kind = true
  | .expr e _ => acceptableExpr w e = true

/-- **Kind check, no silent binding.** For a reference written as a name in a position that wants `w`:
    if resolution succeeds, the target is of a kind acceptable for `w` and the reference is bound to exactly that
    target with exactly the inherited attributes and no error; if resolution fails, at least one error code is
    recorded and the reference stays unpatched (it still holds the identifier, carries no inherited attributes).
    There is no third outcome. -/
theorem kind_checked (t : Table) (w : Want) (scope : String) (written : List Attr) (id : String) (opt : Bool) :
    (∀ tgt extra, resolveNamed t w id scope = .ok (tgt, extra) →
        TargetAcceptable w tgt ∧ bindRef t w scope (.mk written (.named id) opt) = ⟨boundOfTarget tgt, extra, []⟩) ∧
    (∀ e, resolveNamed t w id scope = .error e →
        errCodes e ≠ [] ∧ bindRef t w scope (.mk written (.named id) opt) = ⟨.unpatched id, [], errCodes e⟩) := by
  refine ⟨fun tgt extra h => ⟨?_, by simp [bindRef, TRef.ty, h]⟩, fun e h => ⟨errCodes_ne_nil e, by simp [bindRef, TRef.ty, h]⟩⟩
  have hk := (resolveNamed_ok h).2
  cases tgt <;> exact hk

/-- **Wrong kind is an error.** A name that designates a non-alias node of a kind the position does not accept
    resolves to a type-mismatch error (E017), whatever else is in scope further out. -/
theorem wrong_kind_is_error (t : Table) (w : Want) (id scope : String) (n : NodeInfo)
    (hf : findNodeWithScope t id scope = some n) (hn : n.isAlias = false) (hk : acceptable w n.kind = false) :
    resolveNamed t w id scope = .error (.typeMismatch (wantName w) n.kind.str) := by
  unfold resolveNamed
  rw [hf]
  simp [hn, hk]

/-- **Designates nothing is an error.** A name for which no candidate of the scoping rule is a key of the table
    resolves to the does-not-exist error (E033). -/
theorem missing_is_error (t : Table) (w : Want) (id scope : String) (hf : findNodeWithScope t id scope = none) :
    resolveNamed t w id scope = .error (.doesNotExist id) := by
  unfold resolveNamed
  rw [hf]

/-- **All bound after an error-free run.** If the patcher records no error for a program, every written type
    reference, base interface and underlying type of every file is bound (none is left unpatched). -/
theorem all_bound_if_no_error (p : Program) (h : progCodes p = []) :
    ∀ l ∈ progLines p, l.res.bound.isBound = true := by
  intro l hl
  obtain ⟨f, hf, hl⟩ := List.mem_flatMap.mp hl
  obtain ⟨s, hs, hl⟩ := List.mem_flatMap.mp hl
  exact site_bound_of_no_codes _ s (List.flatMap_eq_nil_iff.mp (List.flatMap_eq_nil_iff.mp h f hf) s hs) l hl

/-- **Conversely**, a reference that is left unpatched has recorded an error. -/
theorem unpatched_has_error (t : Table) (w : Want) (scope : String) (r : TRef)
    (h : (bindRef t w scope r).bound.isBound = false) : (bindRef t w scope r).codes ≠ [] := by
  intro hc
  rw [(bindRef_bound_iff t w scope r).mpr hc] at h
  cases h

/-- **The recursion bound of the alias walk is never reached.** Invariant: the chain of aliases seen so far has no
    repeats and consists of identifiers of aliases stored in the table, hence is at most `numAliases t` long; with
    `chain.length + fuel > numAliases t` the walk ends by reaching a non-alias, a missing name or a repeat. -/
theorem walkAlias_fuel (t : Table) (fuel : Nat) (chain : List String) (attrs : List Attr) (cur : NodeInfo)
    (hnd : chain.Nodup) (hsub : ∀ k ∈ chain, k ∈ aliasKeys t) (hcur : ∃ k, (k, cur) ∈ t)
    (hlen : numAliases t + 1 ≤ chain.length + fuel) :
    walkAlias t fuel chain attrs cur ≠ .error .fuel :=
  walkAlias_no_fuel t fuel chain attrs cur hnd hsub hcur hlen

/-- with the fuel `resolveNamed` passes (`numAliases t + 1`), resolution never fails for lack of fuel -/
theorem resolve_never_out_of_fuel (t : Table) (w : Want) (id scope : String) :
    resolveNamed t w id scope ≠ .error .fuel :=
  resolveNamed_no_fuel t w id scope

/-- **Tie to the source tables** (Gen/ResolveKinds.lean is regenerated from the Rust text on every run). With the rows
    as extracted: a position that wants a type accepts exactly structs, enums, custom types, (aliases,) primitives and
    the three anonymous types; the model's primitive keys are the ones `Ast::create` installs, in the same order;
    fields, parameters, alias targets, sequence / dictionary / result members require `dyn Type`, bases `Interface`,
    underlying types `Primitive`; the three resolution errors carry the codes E033, E017, E019. -/
theorem source_tables_as_modelled :
    (∀ k : NodeKind, acceptable .type k = (k == .struct || k == .enum || k == .custom || k == .alias || k == .primitive)) ∧
    (∀ e : TyExpr, (∀ id, e ≠ .named id) → acceptableExpr .type e = true) ∧
    Prim.all.map Prim.kw = Gen.astPrimitiveKeys ∧
    Gen.patchWants = [("BaseInterfaces", "Interface"), ("FieldType", "dyn Type"), ("ParameterType", "dyn Type"),
                      ("EnumUnderlyingType", "Primitive"), ("TypeAliasUnderlyingType", "dyn Type"), ("ResultTypes", "dyn Type"),
                      ("SequenceType", "dyn Type"), ("DictionaryTypes", "dyn Type")] ∧
    (Gen.codeDoesNotExist, Gen.codeTypeMismatch, Gen.codeSelfReferentialAlias) = ("E033", "E017", "E019") := by
  have hv : ∀ v ∈ ["Primitive", "Sequence", "Dictionary", "ResultType"], Gen.typeNodeVariants.contains v = true := by decide +kernel
  refine ⟨acceptable_type_eq, ?_, by decide +kernel, by decide +kernel, by decide +kernel⟩
  · intro e he
    cases e with
    | named id => exact absurd rfl (he id)
    | prim p => exact hv "Primitive" (by simp)
    | seq e => exact hv "Sequence" (by simp)
    | dict k v => exact hv "Dictionary" (by simp)
    | result s f => exact hv "ResultType" (by simp)

example : PathOK ["A", "B", "X"] := ⟨by simp, by intro s hs; simp at hs; rcases hs with h | h | h <;> subst h <;> exact ⟨by decide, by decide⟩⟩

/-- shadowing: from module `A::B`, bare `X` designates `A::B::X`, not `A::X`; `::X` designates nothing and `A::X` the outer one -/
example :
    let n1 : NodeInfo := { kind := .struct, key := "A::X", modScope := "A", ident := "X" }
    let n2 : NodeInfo := { kind := .enum, key := "A::B::X", modScope := "A::B", ident := "X" }
    let st : SegTable := [(["A", "X"], n1), (["A", "B", "X"], n2)]
    (specLookup st ["A", "B"] ["X"] false).map (·.key) = some "A::B::X" ∧
    (specLookup st ["A", "B"] ["X"] true).map (·.key) = none ∧
    (specLookup st ["A", "B"] ["A", "X"] false).map (·.key) = some "A::X" ∧
    (specLookup st ["A"] ["X"] false).map (·.key) = some "A::X" := by
  simp [specLookup, specCandidates, scopesOutward, firstSome, SegTable.find]

end Slicec.C03

#print axioms Slicec.C03.lookup_eq_spec
#print axioms Slicec.C03.key_is_joined
#print axioms Slicec.C03.retrievable
#print axioms Slicec.C03.alias_flatten
#print axioms Slicec.C03.kind_checked
#print axioms Slicec.C03.wrong_kind_is_error
#print axioms Slicec.C03.missing_is_error
#print axioms Slicec.C03.all_bound_if_no_error
#print axioms Slicec.C03.unpatched_has_error
#print axioms Slicec.C03.walkAlias_fuel
#print axioms Slicec.C03.resolve_never_out_of_fuel
#print axioms Slicec.C03.source_tables_as_modelled
