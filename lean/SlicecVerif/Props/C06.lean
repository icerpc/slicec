/-
  C06 — Conditional compilation selects exactly the right lines, in place.
  Model: `Model/Preproc.lean` (character-level mirror of the preprocessor lexer, the LALRPOP grammar as a
  recursive-descent parser, `process_nodes`); SPEC: the line-by-line stack machine `specRun` / `cspecFile`.
  Every statement quantifies over all files / token streams / trees / symbol sets.
  The refinement (d) and the rejection criterion (e) are stated over token streams (`…_tokens`) and over the characters
  of a file (`…_full`); the second is the first with the two character-level links: lexer = line-by-line reading
  (`lexer_reads_lines`) and SPEC over raw lines = stack machine over abstract lines (`spec_reads_lines`), put together
  in `preprocess_iff_lines` and from it in `cspecFile_eq_preprocess` (Lemmas/PreprocSpec.lean), which both `…_full` unfold.
  (f) is about the located errors (`Model/PreprocErrors.lean`): `reportedErrors`, the mirror of the grammar's one recovery
  production, is tied to `preprocess` (`rejected_iff_reported`), its spans are located in the text and, the last error of a
  stopped parse apart, on the row of a directive line (`every_error_is_located_in_its_line`, a `def … : Prop` proved by
  the theorem `…_full`), and its rows are those of a second line-by-line machine `cerrFile`
  (`each_bad_directive_reported_once`, likewise); the `…_partial` theorems state neighbouring facts, see there.
-/
import SlicecVerif.Lemmas.Preproc
import SlicecVerif.Lemmas.PreprocSpec
import SlicecVerif.Lemmas.PreprocErrors
import SlicecVerif.Lemmas.PreprocErrSim

namespace Slicec.C06

open Slicec Slicec.Pp

/-! ## (a) expressions: the grammar fixes one tree per spelling -/

/-- what the grammar's `Expression` prints as -/
def printExpr (e : PExpr) : List PTok := e.toks

/-- the expression parser run on a complete token list -/
def parseExprAll (toks : List PTok) : Option PExpr :=
  match parseExpr (parseFuel toks) toks with
  | some (e, []) => some e
  | _ => none

/-- Printing any expression tree of the grammar (`Term | "!" Term | Expression "&&" Term | Expression "||" Term`,
    `Term = identifier | "(" Expression ")"`) and parsing the tokens gives the same tree back: `&&` and `||` have equal
    precedence and associate to the left, `!` applies to the first term only, parentheses are kept as nodes. -/
theorem expr_parse_print (e : PExpr) : parseExprAll (printExpr e) = some e := by
  unfold parseExprAll printExpr
  have h := parseExpr_print e (parseFuel e.toks) [] (by
    have := PExpr.size_le_toks e
    unfold parseFuel; omega) trivial
  rw [List.append_nil] at h
  rw [h]

/-- The same inside a directive: whatever follows the expression (a `DirectiveEnd`, a `)`, …, anything but `&&`/`||`)
    is left untouched, for every fuel above twice the size of the tree. -/
theorem expr_parse_print_in_context (e : PExpr) (n : Nat) (r : List PTok) (hn : 2 * e.size + 1 ≤ n) (hr : noOp r) :
    parseExpr n (e.toks ++ r) = some (e, r) :=
  parseExpr_print e n r hn hr

/-- Conversely the parser only accepts printed expressions: what it consumed is the printed form of the tree it returns. -/
theorem expr_parse_sound (n : Nat) (toks : List PTok) (e : PExpr) (r : List PTok) (h : parseExpr n toks = some (e, r)) :
    toks = printExpr e ++ r :=
  (parseExpr_sound n).2.1 toks e r h

/-- The Boolean semantics of the tree (`Expression::evaluate`, `Term::evaluate`): a symbol is true iff it is defined. -/
theorem expr_eval (D : Syms) :
    (∀ s, (PTerm.sym s).eval D = D.contains s) ∧
    (∀ e, (PTerm.paren e).eval D = e.eval D) ∧
    (∀ t, (PExpr.term t).eval D = t.eval D) ∧
    (∀ t, (PExpr.not t).eval D = !t.eval D) ∧
    (∀ e t, (PExpr.and e t).eval D = (e.eval D && t.eval D)) ∧
    (∀ e t, (PExpr.or e t).eval D = (e.eval D || t.eval D)) := by
  refine ⟨?_, ?_, ?_, ?_, ?_, ?_⟩ <;> intros <;> simp [PExpr.eval, PTerm.eval]

/-! ## (b) in place -/

/-- Removing directives and unselected lines never shifts anything.  For every file `f`, every symbol set and every
    block `b` the preprocessor returns: `b.content` is the text of `f` at offsets `[b.off, b.off + |b|)`, and for every
    offset `i` into the block, advancing the block's start location over the first `i` characters of the block gives
    exactly the location that offset `b.off + i` has in the ORIGINAL file — every surviving character keeps its row and
    column.  Moreover the blocks come in file order and do not overlap. -/
theorem in_place (f : List Char) (D : Syms) (bs : List Block) (D' : Syms) (h : preprocess f D = .ok (bs, D')) :
    (∀ b ∈ bs, b.content = (f.drop b.off).take b.content.length ∧ b.off + b.content.length ≤ f.length ∧
      ∀ i, i ≤ b.content.length → (b.content.take i).foldl advance b.start = locAt f (b.off + i)) ∧
    bs.Pairwise (fun a b => a.off + a.content.length ≤ b.off) := by
  have hc := preprocess_chain f D bs D' h
  refine ⟨?_, chain_pairwise hc⟩
  intro b hb
  have hok := chain_mem hc b hb
  exact ⟨hok.2.2.2, hok.2.1, fun i hi => block_in_place f 0 f.length b hok i hi⟩

/-- Locations compose: advancing over `a` and then over `b` is advancing over `a ++ b`. -/
theorem advance_fold (l : Loc) (a b : List Char) : b.foldl advance (a.foldl advance l) = (a ++ b).foldl advance l :=
  List.foldl_append.symm

/-! ## (c) files are preprocessed independently -/

/-- `parse_files` gives every file a fresh clone of the command-line symbols: the result for a list of files is the
    list of the results of the files taken alone, so `#define`/`#undef` in one file cannot be seen in another. -/
theorem file_isolation (D : Syms) (fs : List (List Char)) : preprocessFiles D fs = fs.map (preprocess · D) := by
  induction fs with
  | nil => rfl
  | cons f fs ih => simp [preprocessFiles, ih]

/-! ## (d) refinement of the line-by-line stack machine -/

/-- Token level, both directions.  (1) Whenever the model's parser accepts a token stream `toks` with tree `ns`, `toks` is
    the concatenation of the tokens of the abstract lines `ns.lines` (`src | #if e | #elif e | #else | #endif | #define s |
    #undef s`, all well-formed), and the textbook stack machine (frames `(anyBranchTaken, active, seenElse)`; a source line
    is selected iff every frame is active; `#define`/`#undef` act iff every frame is active; `#elif` is considered only if
    no earlier branch was taken) run over these lines from the symbols `D` ends with an empty stack and has emitted
    exactly the blocks, in the same order, and exactly the final symbol set that the model's `evalNodes` (the mirror of
    `process_nodes`) computes.  (2) Conversely, for EVERY list of abstract lines on which the stack machine ends balanced
    with result `out`, the parser accepts the tokens of these lines, the tree it builds has exactly these lines, and
    evaluating the tree gives `out`. -/
theorem refines_stack_machine_tokens (D : Syms) :
    (∀ toks ns, parsePre toks = some ns →
      linesToks ns.lines = toks ∧ specFile ns.lines D = some (evalNodes ns ⟨[], D⟩)) ∧
    (∀ ls out, specFile ls D = some out →
      ∃ ns, parsePre (linesToks ls) = some ns ∧ ns.lines = ls ∧ evalNodes ns ⟨[], D⟩ = out) := by
  refine ⟨fun toks ns h => ⟨(parsePre_sound toks ns h).symm, specFile_tree ns D⟩, ?_⟩
  intro ls out h
  obtain ⟨ns, h1, h2⟩ := parsePre_of_lines ls D (by rw [h]; simp)
  exact ⟨ns, h1, h2, Option.some.inj ((specFile_tree ns D).symm.trans (h2 ▸ h))⟩

/-- The stack machine on the lines of ANY tree (nested to any depth) computes what the model computes; inside an
    unselected region nothing is emitted and no symbol changes. -/
theorem stack_machine_on_tree (ns : Nodes) (stk : List Frame) (out : PState) :
    specRun ⟨stk, out⟩ ns.lines = some ⟨stk, if allActive stk then evalNodes ns out else out⟩ :=
  spec_nodes ns stk out

/-- The character-level link, lexer side.  For every file `f`: `lexPre f` succeeds with the token list `toks` iff the
    declarative line-by-line reading `declLines` of the lines of `f` (split at `'\n'`) gives `toks`.  That reading is:
    a line consisting of inline whitespace contributes nothing; a line whose first character other than inline
    whitespace is `#` contributes the tokens `dirLine` of its text from the `#` on (keyword after optional blanks,
    identifiers, `! && || ( )`, further `#keyword`s, an optional `//` comment to the end of the line; anything else is
    a lexical error) followed by `DirectiveEnd`; every maximal run of other lines containing a source line contributes
    ONE block token, which starts at the first non-blank character of its first source line (location = `locAt f` of
    that offset), and whose content is the text of `f` from there up to the `#` of the next directive line (after that
    line's indentation) or the end of the file.  A lexical error in ANY directive line makes `lexPre f` fail. -/
theorem lexer_reads_lines (f : List Char) (toks : List PTok) :
    lexPre f = .ok toks ↔ declLines f (splitLines f) none = some toks :=
  lexPre_ok_iff f toks

/-- Lexical well-formedness is decided line by line: `lexPre f` succeeds iff every directive line of `f` (first
    character other than inline whitespace is `#`), lexed ON ITS OWN, is lexically well-formed.  Source lines are never
    looked at (they are passed through verbatim inside a block). -/
theorem lexer_ok_iff_lines_ok (f : List Char) :
    (∃ toks, lexPre f = .ok toks) ↔ ∀ l ∈ splitLines f, isDirLine l → ∃ t, lexPre l = .ok t := by
  obtain ⟨_, hnl, _⟩ := splitLines_spec f
  have h1 : (∃ toks, lexPre f = .ok toks) ↔ (lexPreLE f).2 = none := by
    rw [lexPre_of_E]; cases (lexPreLE f).2 <;> simp
  rw [h1, (lexPreLE_reads f).ok_iff]
  have key : ∀ l ∈ splitLines f, ∀ d', l.dropWhile isInlineWs = '#' :: d' →
      (dirLine ('#' :: d') ≠ none ↔ ∃ t, lexPre l = .ok t) := by
    intro l hl d' hd
    have hlex := lexPre_dirline l d' (hnl l hl) hd
    cases hx : dirLine ('#' :: d') with
    | none => obtain ⟨e, he⟩ := hlex.2 hx; simp [he]
    | some ts => simp [hlex.1 ts hx]
  exact ⟨fun h l hl ⟨d', hd⟩ => (key l hl d' hd).1 (h l hl d' hd), fun h l hl d' hd => (key l hl d' hd).2 (h l hl ⟨d', hd⟩)⟩

/-- The character-level SPEC read declaratively.  `cspecFile f D` (the stack machine over the raw lines of `f`, which
    classifies every line on its own) accepts iff every directive line of `f` spells a well-formed directive
    (`absLines ≠ none`) and the token-level stack machine `specFile` over the resulting abstract lines ends balanced;
    its result then is the located non-whitespace characters of the emitted blocks and the final symbols. -/
theorem spec_reads_lines (f : List Char) (D : Syms) :
    cspecFile f D = (absLines f (splitLines f) none).bind fun als =>
      (specFile als D).map fun o => (o.blocks.flatMap locatedBlock, o.syms) :=
  cspecFile_eq f D

/-- The model accepts exactly when the file reads as abstract lines on which the stack machine ends balanced, and
    then returns the stack machine's blocks and symbols. -/
theorem preprocess_iff_lines (f : List Char) (D : Syms) (bs : List Block) (D' : Syms) :
    preprocess f D = .ok (bs, D') ↔
      ∃ als out, absLines f (splitLines f) none = some als ∧ specFile als D = some out ∧ bs = out.blocks ∧ D' = out.syms :=
  preprocess_iff_absLines f D bs D'

/-- Character level.  Whenever the stack machine over the raw lines of `f` accepts (every directive line is a
    well-formed directive, no `#elif`/`#else`/`#endif` without an open `#if` or after `#else`, nothing left open), the
    model accepts, the located non-whitespace characters of the emitted blocks are exactly those of the selected source
    lines, each at its original row and column, and the final symbol sets define the same symbols. -/
theorem refines_stack_machine_full :
    ∀ (f : List Char) (D : Syms) (cs : List LChar) (D' : Syms), cspecFile f D = some (cs, D') →
      ∃ bs D'', preprocess f D = .ok (bs, D'') ∧ bs.flatMap locatedBlock = cs ∧ (∀ s, D''.contains s = D'.contains s) := by
  intro f D cs D' h
  rw [cspecFile_eq_preprocess] at h
  cases hp : preprocess f D with
  | error r => rw [hp] at h; cases h
  | ok x => rw [hp] at h; cases h; exact ⟨x.1, x.2, rfl, rfl, fun _ => rfl⟩

/-! ## (e) malformed or unbalanced input is rejected -/

/-- The parser is complete: every list of (well-formed) abstract lines on which the stack machine does not fail —
    no `#elif`/`#else`/`#endif` without an open `#if`, none after `#else`, nothing left open — is accepted, and the tree
    the parser builds has exactly these lines. -/
theorem parser_complete (ls : List ALine) (D : Syms) (h : specFile ls D ≠ none) :
    ∃ ns, parsePre (linesToks ls) = some ns ∧ ns.lines = ls :=
  parsePre_of_lines ls D h

/-- Whether the stack machine fails on a line list depends on the lines only, not on the symbols. -/
theorem balance_indep_of_symbols (ls : List ALine) (D D' : Syms) : specFile ls D ≠ none ↔ specFile ls D' ≠ none :=
  specFile_ne_none_indep ls D D'

/-- Token level: the parser accepts a token stream iff it is the concatenation of the tokens of well-formed
    abstract lines on which the stack machine neither underflows, nor sees `#elif`/`#else` after `#else`, nor ends with
    an open conditional (for one, equivalently every, symbol set).  Hence every other stream is a syntax error. -/
theorem rejects_iff_malformed_tokens (toks : List PTok) (D : Syms) :
    parsePre toks ≠ none ↔ ∃ ls : List ALine, linesToks ls = toks ∧ specFile ls D ≠ none := by
  constructor
  · intro h
    obtain ⟨ns, hp⟩ := Option.ne_none_iff_exists'.1 h
    exact ⟨ns.lines, (parsePre_sound toks ns hp).symm, specFile_tree ns D ▸ Option.some_ne_none _⟩
  · rintro ⟨ls, rfl, h⟩
    obtain ⟨ns, hp, _⟩ := parsePre_of_lines ls D h
    rw [hp]; simp

/-- Character level: the model rejects a file (lexical or syntax error) iff the stack machine over its raw lines
    rejects it — some directive line is not a well-formed directive, or `#elif`/`#else`/`#endif` come without an open
    `#if` or after `#else`, or a conditional is left open.  Nothing malformed or unbalanced is silently ignored, and
    nothing well-formed and balanced is rejected. -/
theorem rejects_iff_malformed_full :
    ∀ (f : List Char) (D : Syms), (∃ r, preprocess f D = .error r) ↔ cspecFile f D = none := by
  intro f D
  rw [cspecFile_eq_preprocess]
  rcases preprocess f D with r | ⟨bs, D'⟩ <;> simp

/-- Any lexical error and any syntax error rejects the whole file (`parse_slice_file` returns `Err` whenever an error
    was recorded, recovered or not): the model accepts only if both the lexer and the parser succeed. -/
theorem accepts_only_if_lexed_and_parsed (f : List Char) (D : Syms) (bs : List Block) (D' : Syms)
    (h : preprocess f D = .ok (bs, D')) :
    ∃ toks ns, lexPre f = .ok toks ∧ parsePre toks = some ns ∧ bs = (evalNodes ns ⟨[], D⟩).blocks ∧ D' = (evalNodes ns ⟨[], D⟩).syms := by
  revert h
  fun_cases preprocess f D with
  | case3 toks hl ns hp => intro h; cases h; exact ⟨toks, ns, hl, hp, rfl, rfl⟩
  | _ => exact fun h => nomatch h

/-! ## (f) which directives are reported, and where (`Model/PreprocErrors.lean`)

  `reportedErrors f` is the list of located syntax errors (start, end) the compiler reports for the file `f`, in report
  order: the mirror of the one recovery production `Node → <!> directive_end` and of the LR driver around it (a bad
  directive line is reported at its first unacceptable token and skipped, the open conditionals are unchanged; end of
  input inside a conditional and a lexical error stop the parse).  The differential stream compares it with every
  diagnostic of the real preprocessor (`reject <row>:<col>[-<row>:<col>];…`). -/

/-- The recovery mirror is tied to the model the theorems above are about: for every file and symbol set, the model
    `preprocess` rejects the file iff `reportedErrors` reports at least one error.  (Nothing is rejected silently, and
    nothing is reported for an accepted file.) -/
theorem rejected_iff_reported (f : List Char) (D : Syms) :
    (∃ r, preprocess f D = .error r) ↔ reportedErrors f ≠ [] :=
  (rejects_iff_malformed_full f D).trans (reported_ne_nil_iff f D).symm

/-- Where the errors are reported.  For every file `f` and every reported span: both ends are the locations
    (`locAt`: rows and columns counted in CHARACTERS by `advance`) of offsets `i ≤ j ≤ |f|` of the file, and every
    recoverable error (all errors but the last one of a stopped parse) lies on ONE row, which is the row of a directive
    line of `f` (first character other than inline whitespace is `#`). -/
def every_error_is_located_in_its_line : Prop :=
  ∀ (f : List Char) (k : Nat) (sp : Loc × Loc), (reportedErrors f)[k]? = some sp →
    (∃ i j, i ≤ j ∧ j ≤ f.length ∧ sp.1 = locAt f i ∧ sp.2 = locAt f j) ∧
    ((parseStopped f = false ∨ k + 1 < (reportedErrors f).length) →
      sp.1.row = sp.2.row ∧ ∃ l, (splitLines f)[sp.1.row - 1]? = some l ∧ isDirLine l)

/-- For every file, both ends of every reported span (a) are the location `locAt f i` of an offset `i ≤ |f|` of the
    file — inside the text, columns counted in characters, the sentence a byte-counting lexer breaks — and (b) are the
    start or the end of a token of the located lexer model `lexPreLE f` (or of its lexical error, or the initial location
    1:1).  Clause (b) is not part of `every_error_is_located_in_its_line`, which has `i ≤ j` and the row clause instead. -/
theorem every_error_is_located_in_its_line_partial (f : List Char) :
    ∀ sp ∈ reportedErrors f,
      ((∃ i, i ≤ f.length ∧ sp.1 = locAt f i) ∧ (∃ j, j ≤ f.length ∧ sp.2 = locAt f j)) ∧
      (TokEnd f sp.1 ∧ TokEnd f sp.2) :=
  fun sp h =>
    have ⟨i, j, hij, hj, hs, he⟩ := reported_spanIn f sp h
    ⟨⟨⟨i, Nat.le_trans hij hj, hs⟩, ⟨j, hj, he⟩⟩, reported_tokEnd f sp h⟩

/-- `every_error_is_located_in_its_line` holds. The offsets are `reported_spanIn` (the span invariant of the located lexer
    model, `lexPreLE_span`, carried through the mirror by `reported_spans`), the row clause is `reported_rows`, read off
    the line-by-line simulation `sim_file`. (`reported_rows` gives `sp.1.row = sp.2.row` for the last error of a stopped
    parse as well; the statement asks it of the recoverable errors only.) -/
theorem every_error_is_located_in_its_line_full : every_error_is_located_in_its_line := by
  intro f k sp h
  obtain ⟨i, j, h1, h2, h3, h4⟩ := reported_spanIn f sp (List.mem_of_getElem? h)
  have hr := reported_rows f k sp h
  exact ⟨⟨i, j, h1, h2, h3, h4⟩, fun hrec => ⟨hr.1, hr.2 hrec⟩⟩

/-- the rows the line-by-line machine and the recovery mirror report agree; the one licensed difference: when the run
    ends with a lexical error the mirror may lack the last row the line machine collected in front of it -/
def _root_.Slicec.Pp.ErrRows.agree (spec mirror : ErrRows) : Prop :=
  spec = mirror ∨ (spec.lexical = true ∧ mirror.lexical = true ∧ spec.stop = mirror.stop ∧ spec.rows.dropLast = mirror.rows)

/-- "Not silently ignored", against a SPEC that cuts the file into lines and keeps its books independently of the
    recovery mirror (the two share `frameStep`, and the mirror's `dirOf` repeats the `match` of `classify`): `cerrFile` is
    the error-collecting sibling of `cspecFile` — the stack machine over the raw lines, each classified on its own; a
    malformed directive line is reported and skipped, a closer without opener is reported and skipped, a line with a
    lexical error is reported and ends the run, an unclosed opener is reported once at the end.  The rows it collects
    are the rows of `reportedErrors`, up to the first unrecoverable error.  Also evaluated by the driver on EVERY generated
    file (a disagreement is a model counterexample). -/
def each_bad_directive_reported_once : Prop := ∀ f : List Char, (cerrFile f).agree (mirrorRows f)

/-- The coarse reading, for every file and symbol set: the mirror reports at least one error iff the line-by-line
    stack machine over the raw lines (`cspecFile`, which stops at the first bad line: a malformed directive line, a closer
    without opener or after `#else`, an unclosed opener at the end) finds a bad line — no file with a bad directive goes
    unreported, no report without a bad directive; and the error-collecting sibling `cerrFile` collects nothing (no row, no
    stop) exactly when the mirror reports nothing.  That the rows agree one by one when there are errors is
    `each_bad_directive_reported_once_full`. -/
theorem each_bad_directive_reported_once_partial (f : List Char) (D : Syms) :
    (reportedErrors f ≠ [] ↔ cspecFile f D = none) ∧
    (reportedErrors f = [] ↔ ((cerrFile f).rows = [] ∧ (cerrFile f).stop = none)) :=
  ⟨reported_ne_nil_iff f D, reported_nil_iff_clean f⟩

/-- `each_bad_directive_reported_once` holds: it is `cerr_agree`, read off `sim_file`, the simulation, line by line of the
    file, of the error-collecting line machine `cerrRun` over the raw lines by the recovery mirror `runLines ∘ tokLines`
    over the located token stream of the lexer model, the tokens in front of a lexical error included. -/
theorem each_bad_directive_reported_once_full : each_bad_directive_reported_once := by
  intro f
  exact cerr_agree f

/-! ### non-vacuity: the inputs of the seeded changes C06-I / C06-J, an open conditional, and the licensed difference -/

/-- `#if Bar` / `#elif (Foo   // déjà vu: see the « naïve » façade` / `module M` / `#endif`: the missing `)` is reported at
    the end of line 2, column 50 counted in characters (56 counted in bytes) -/
example : reportedErrors "#if Bar\n#elif (Foo   // déjà vu: see the « naïve » façade\nmodule M\n#endif\n".toList = [(⟨2, 50⟩, ⟨2, 50⟩)] := by
  decide +kernel
/-- `#define Foo Bar` / `module M` / `#if Baz` / `struct A {}` / `#endif` / `#endif` / `struct B {}`: both bad directives are
    reported (rows 1 and 6), by the mirror and by the line-by-line machine -/
example : (reportedErrors "#define Foo Bar\nmodule M\n#if Baz\nstruct A {}\n#endif\n#endif\nstruct B {}\n".toList).map (·.1.row) = [1, 6] ∧
    cerrFile "#define Foo Bar\nmodule M\n#if Baz\nstruct A {}\n#endif\n#endif\nstruct B {}\n".toList = ⟨[1, 6], none, false⟩ := by
  decide +kernel
/-- a malformed `#if` makes its `#endif` a stray one; an open conditional is reported once, at the end of the last token -/
example : reportedErrors "#if\nx\n#endif".toList = [(⟨1, 4⟩, ⟨1, 4⟩), (⟨3, 1⟩, ⟨3, 7⟩)] ∧
    reportedFull "#if A\n#if B\n\n".toList = ([(⟨2, 6⟩, ⟨2, 6⟩)], true) := by
  decide +kernel
/-- the licensed difference: the error of the line directly in front of a lexical error is lost -/
example : reportedErrors "#if\n#foo".toList = [(⟨2, 1⟩, ⟨2, 5⟩)] ∧ cerrFile "#if\n#foo".toList = ⟨[1], some 2, true⟩ := by
  decide +kernel

/-! ## the tie to the source: the grammar the parser was written for is the extracted one -/

/-- the productions `parseNodes`/`parseNode`/`parseRest`/`parseExpr`/`parseTerm` implement -/
def modelGrammar : List (String × List (List String × String)) := [
  ("SliceFile", [(["BlockContent"], "")]),
  ("BlockContent", [(["Node*"], "")]),
  ("Node", [(["source_block"], "Node::SourceBlock"), (["DefineDirective"], "Node::DefineDirective"), (["UndefineDirective"], "Node::UndefineDirective"), (["Conditional"], "Node::Conditional"), (["<!>", "directive_end"], "")]),
  ("DefineDirective", [(["define_keyword", "identifier", "directive_end"], "")]),
  ("UndefineDirective", [(["undefine_keyword", "identifier", "directive_end"], "")]),
  ("IfDirective", [(["if_keyword", "Expression", "directive_end"], "")]),
  ("ElifDirective", [(["elif_keyword", "Expression", "directive_end"], "")]),
  ("ElseDirective", [(["else_keyword", "directive_end"], "")]),
  ("EndifDirective", [(["endif_keyword", "directive_end"], "")]),
  ("Conditional", [(["(IfDirective BlockContent)", "(ElifDirective BlockContent)*", "(ElseDirective BlockContent)?", "EndifDirective"], "")]),
  ("Expression", [(["Term"], "Expression::Term"), (["\"!\"", "Term"], "Expression::Not"), (["Expression", "\"&&\"", "Term"], "Expression::And"), (["Expression", "\"||\"", "Term"], "Expression::Or")]),
  ("Term", [(["identifier"], "Term::Symbol"), (["\"(\"", "Expression", "\")\""], "Term::Expression")])
]

/-- the terminal ↔ `TokenKind` mapping the parser was written for -/
def modelTerminals : List (String × String) := [("source_block", "SourceBlock"), ("identifier", "Identifier"), ("define_keyword", "DefineKeyword"), ("undefine_keyword", "UndefineKeyword"), ("if_keyword", "IfKeyword"), ("elif_keyword", "ElifKeyword"), ("else_keyword", "ElseKeyword"), ("endif_keyword", "EndifKeyword"), ("directive_end", "DirectiveEnd"), ("\"!\"", "Not"), ("\"&&\"", "And"), ("\"||\"", "Or"), ("\"(\"", "LeftParenthesis"), ("\")\"", "RightParenthesis")]

/-- the directive keywords the lexer model was written for -/
def modelKeywords : List (String × String) := [("define", "DefineKeyword"), ("undef", "UndefineKeyword"), ("if", "IfKeyword"), ("elif", "ElifKeyword"), ("else", "ElseKeyword"), ("endif", "EndifKeyword"), ("", "MissingDirective")]

/-- The productions of `grammar.lalrpop`, its terminal mapping and the lexer's directive keyword arms, as regenerated
    from the repository on every run, are the ones the model parser/lexer were written and proved for.  A changed
    production, constructor, terminal or keyword re-opens this obligation. -/
theorem model_grammar_eq_extracted :
    modelGrammar = Gen.preprocGrammar ∧ modelTerminals = Gen.preprocTerminals ∧
    modelKeywords = Gen.directiveKeywords ∧ Gen.directiveFallback = "UnknownDirective" :=
  ⟨rfl, rfl, rfl, rfl⟩

private def A : PTerm := .sym "A"
private def B : PTerm := .sym "B"
private def C : PTerm := .sym "C"

/-- `A || B && C` is `(A || B) && C` for this grammar (NOT C precedence) -/
example : parseExprAll [.ident "A", .or, .ident "B", .and, .ident "C"] = some (.and (.or (.term A) B) C) :=
  expr_parse_print (.and (.or (.term A) B) C)
/-- with A defined and C not, C precedence would say true; the grammar's tree says false -/
example : (PExpr.and (.or (.term A) B) C).eval ["A"] = false := by decide
/-- a nested tree: the stack machine and the model agree, and an unselected `#define` does nothing -/
example : specFile (Nodes.cons (.cond (.term A) (.cons (.define "B") .nil) (.els (.cons (.define "C") .nil))) .nil).lines [] =
    some ⟨[], ["C"]⟩ := by
  rw [specFile_tree]; rfl

/-- a balanced line list (hypothesis of `parser_complete`, right-hand side of `rejects_iff_malformed_tokens`) -/
example : specFile [.if_ (.term A), .src default, .elif (.term B), .else_, .define "C", .endif, .undef "A"] ["A"] ≠ none := by
  decide
/-- unbalanced line lists: `#else` twice, `#endif` without `#if`, `#if` left open -/
example : specFile [.if_ (.term A), .else_, .else_, .endif] [] = none ∧ specFile [.endif] [] = none ∧
    specFile [.if_ (.term A)] [] = none := by decide
/-- the character-level SPEC accepts a file with a source line (hypothesis of `refines_stack_machine_full`) … -/
example : cspecFile [' ', 'x', '\n', 'y'] [] = some ([(1, 2, 'x'), (2, 1, 'y')], []) := by decide
/-- … and so does the model, with one block starting at 1:2 -/
example : (match preprocess [' ', 'x', '\n', 'y'] [] with | .ok r => some r | .error _ => none) =
    some ([⟨⟨1, 2⟩, 1, ['x', '\n', 'y']⟩], []) := by decide

/-- a file with directives, indentation and a trailing comment: accepted by the SPEC over raw lines, with the selected
    line's character at its original location (hypothesis of `refines_stack_machine_full`, for two symbol sets) -/
private def f1 : List Char :=
  ['#', 'i', 'f', ' ', 'A', '\n', ' ', 'x', '\n', '#', 'e', 'l', 's', 'e', ' ', '/', '/', 'c', '\n', 'y', '\n',
   '#', 'e', 'n', 'd', 'i', 'f']
example : cspecFile f1 ["A"] = some ([(2, 2, 'x')], ["A"]) := by decide +kernel
example : cspecFile f1 [] = some ([(4, 1, 'y')], []) := by decide +kernel
/-- rejected files (right-hand side of `rejects_iff_malformed_full`): an open `#if`, a directive without expression -/
example : cspecFile ['#', 'i', 'f', ' ', 'A', '\n', 'x'] [] = none ∧ cspecFile ['#', 'i', 'f'] [] = none := by decide +kernel
/-- a directive line in the sense of `lexer_ok_iff_lines_ok` -/
example : isDirLine [' ', '#', 'i', 'f'] := ⟨['i', 'f'], by decide⟩

end Slicec.C06

#print axioms Slicec.C06.expr_parse_print
#print axioms Slicec.C06.expr_parse_print_in_context
#print axioms Slicec.C06.expr_parse_sound
#print axioms Slicec.C06.expr_eval
#print axioms Slicec.C06.in_place
#print axioms Slicec.C06.advance_fold
#print axioms Slicec.C06.file_isolation
#print axioms Slicec.C06.refines_stack_machine_tokens
#print axioms Slicec.C06.stack_machine_on_tree
#print axioms Slicec.C06.lexer_reads_lines
#print axioms Slicec.C06.lexer_ok_iff_lines_ok
#print axioms Slicec.C06.spec_reads_lines
#print axioms Slicec.C06.preprocess_iff_lines
#print axioms Slicec.C06.refines_stack_machine_full
#print axioms Slicec.C06.parser_complete
#print axioms Slicec.C06.balance_indep_of_symbols
#print axioms Slicec.C06.rejects_iff_malformed_tokens
#print axioms Slicec.C06.rejects_iff_malformed_full
#print axioms Slicec.C06.accepts_only_if_lexed_and_parsed
#print axioms Slicec.C06.model_grammar_eq_extracted
#print axioms Slicec.C06.rejected_iff_reported
#print axioms Slicec.C06.every_error_is_located_in_its_line_partial
#print axioms Slicec.C06.each_bad_directive_reported_once_partial
#print axioms Slicec.C06.every_error_is_located_in_its_line_full
#print axioms Slicec.C06.each_bad_directive_reported_once_full
