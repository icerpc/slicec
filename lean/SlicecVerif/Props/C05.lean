/-
  C05 — Illegal cycles are always diagnosed; acyclic definitions never are.
  Theorems over the detector model of Model/Cycles.lean (mirror of validators/cycle_detection.rs: the containment
  search with its skip rule, the interface inheritance check, the gate order), the alias walk of Model/Resolve.lean
  (mirror of TypeRefPatcher::resolve_type_alias) and `allBases` (Interface::all_base_interfaces, `collect`).

  `detectUnpruned` (the search before dd206d7) and `allBasesSpec` (the definition before 323593c) occur only as
  specifications: `prune_preserves_reports`, `allBases_eq_spec`.
-/
import SlicecVerif.Lemmas.Cycles
import SlicecVerif.Lemmas.Resolve

namespace Slicec.C05

open Slicec Slicec.Cyc

/-! ## termination: the fuel of the search suffices -/

/-- For every edge function whose targets are nodes `< n`, the detector never reaches its out-of-fuel branch:
    the stack holds distinct ids different from the root, so it is shorter than `n` = the initial fuel. -/
theorem fuel_suffices_E (E : EdgeFn) (n : Nat) (hE : ∀ a e, e ∈ E a → e.2 < n) :
    (detectE E n).exhausted = false := by
  rw [detectE_eq_detectG]
  refine detectG_induct E n _ (fun st => st.exhausted = false) rfl ?_
  intro r st hr hst
  refine dfs_induct E r _ (fun fuel stack _ => StackInv n r stack ∧ n ≤ stack.length + fuel)
    (fun st => st.exhausted = false) ?_ ?_ ?_ ?_ n [] r st ⟨⟨by simp, by simpa using hr⟩, by simp⟩ hst
  · intro fuel stack cur e ⟨hinv, hlen⟩ he hroot _ hnot
    refine ⟨hinv.push ⟨e.2, cur, e.1⟩ hroot hnot (hE cur e he), ?_⟩
    simp only [List.length_append, List.length_singleton]; omega
  · intro st h; simpa using h
  · intro _ _ _ _ st _ _ _ h; simpa using h
  · intro stack cur st ⟨hinv, hlen⟩ _
    have := hinv.length_lt
    omega

/-- The set `types_depending_on_checked_type` computed by the worklist of `detect_cycles` (at most `n + 1` pops) is
    exactly the set of struct/enum nodes from which the checked type is reachable through ≥ 1 containment edges. -/
theorem dependsOn_is_reverse_reachability (E : EdgeFn) (n : Nat) (hE : ∀ a e, e ∈ E a → e.2 < n) (root x : Nat) :
    x ∈ dependsOn E n root ↔ x < n ∧ EReach E x root :=
  mem_dependsOn E n hE root x

/-- The detector run on the containment graph of a program never runs out of fuel
    (fuel = number of struct/enum nodes − stack length). -/
theorem fuel_suffices (g : Graph) : (detectE (edges g) g.length).exhausted = false :=
  fuel_suffices_E (edges g) g.length (edges_lt g)

/-! ## soundness of the reports -/

/-- Every reported chain is a real path closing on its root: each entry is a field (`container`, `field`) of the previous
    entry's type (of the root for the first entry) with `(field, target)` an edge, and the last target is the root. -/
theorem report_sound_E (E : EdgeFn) (n : Nat) : ∀ r ∈ (detectE E n).reports, SoundReport E r := by
  rw [detectE_eq_detectG]
  refine detectG_induct E n _ (fun st => ∀ r ∈ st.reports, SoundReport E r) (by intro r hr; cases hr) ?_
  intro root st _ h
  exact dfs_reports_sound E root _ n st h

/-- The same for the graph of a program; an edge of `edges g` is a field whose wrapper tree contains the target
    (`edge_is_field`). -/
theorem report_sound (g : Graph) : ∀ r ∈ detectCycles g, SoundReport (edges g) r :=
  report_sound_E (edges g) g.length

/-- `(f, t)` is an edge of node `c` exactly when field `f` of node `c` has a wrapper tree that contains `node t`
    (through optional, sequence, dictionary key or value, result success or failure). -/
theorem edge_is_field (g : Graph) (c f t : Nat) :
    (f, t) ∈ edges g c ↔
      ∃ nd fld, g[c]? = some nd ∧ nd.fields[f]? = some fld ∧ fld.ty.Contains t ∧ t < g.length := by
  unfold edges
  cases hc : g[c]? with
  | none => simp
  | some nd =>
    simp only [List.mem_filter, fieldEdges, List.mem_flatMap, List.mem_map, decide_eq_true_eq, Option.some.injEq]
    constructor
    · rintro ⟨⟨⟨fld, k⟩, hmem, t', ht', heq⟩, hlt⟩
      simp only [Prod.mk.injEq] at heq
      obtain ⟨rfl, rfl⟩ := heq
      have := (List.mem_zipIdx_iff_getElem? (x := (fld, k))).1 hmem
      exact ⟨nd, fld, rfl, this, (mem_targets_iff _ _).1 ht', hlt⟩
    · rintro ⟨nd', fld, rfl, hf, hcont, hlt⟩
      refine ⟨⟨(fld, f), ?_, t, (mem_targets_iff _ _).2 hcont, rfl⟩, hlt⟩
      exact (List.mem_zipIdx_iff_getElem? (x := (fld, f))).2 hf

/-- `exact`, direction "acyclic definitions are never diagnosed": a graph without a containment cycle gets no report. -/
theorem no_spurious (g : Graph) (h : Acyclic g) : detectCycles g = [] :=
  List.eq_nil_iff_forall_not_mem.2 fun r hr => h r.root (report_sound g r hr).reach

/-- Every report names a type that really contains itself (`root →⁺ root`). -/
theorem reported_root_on_cycle (g : Graph) : ∀ r ∈ detectCycles g, EReach (edges g) r.root r.root :=
  fun r hr => (report_sound g r hr).reach

/-! ## the skip rule of dd206d7: same reports, polynomial on acyclic graphs -/

/-- `prune_preserves_reports`: skipping the candidates that do not (transitively) contain the checked type changes
    nothing observable — the detector reports exactly the diagnostics, in the same order, with the same roots and chains,
    as the detector that walks every simple path (`detectUnpruned`, the code before dd206d7), and ends with the same
    `reported_cycles`. Both run with the fuel `n` the code's bound gives them; for any common fuel, root by root, this
    is `dfs_sim`. -/
theorem prune_preserves_reports_E (E : EdgeFn) (n : Nat) (hE : ∀ a e, e ∈ E a → e.2 < n) :
    (detectE E n).reports = (detectUnpruned E n).reports ∧ (detectE E n).seen = (detectUnpruned E n).seen :=
  ⟨(detect_sim E n hE).2, (detect_sim E n hE).1⟩

/-- The diagnostics half of `prune_preserves_reports_E` for the containment graph of a program. -/
theorem prune_preserves_reports (g : Graph) : detectCycles g = (detectUnpruned (edges g) g.length).reports :=
  (detect_sim (edges g) g.length (edges_lt g)).2

/-- Cost on acyclic graphs, abstract form: when no node reaches itself, every candidate met from a root is skipped at
    once (it would otherwise close a cycle), so the detector makes exactly one call of `push_to_stack_and_check` per
    (field, leaf) edge. -/
theorem acyclic_steps_eq_edges_E (E : EdgeFn) (n : Nat) (hac : AcyclicE E) :
    (detectE E n).steps = ((List.range n).map fun r => (E r).length).sum := by
  unfold detectE
  rw [foldl_measure DState.steps _ (fun r => (E r).length) (List.range n) {}]
  · exact Nat.zero_add _
  · intro st r hr
    obtain ⟨k, rfl⟩ : ∃ k, n = k + 1 := ⟨n - 1, by have := List.mem_range.1 hr; omega⟩
    exact dfs_steps_of_not_on_cycle E _ r (hac r) k st

/-- Cost on acyclic programs (the valid ones): the number of calls of `push_to_stack_and_check` is the number of
    struct/enum leaves in the field types of the program — linear in the size of the input. (Computing the sets
    `types_depending_on_checked_type` costs at most `n + 1` worklist pops per checked type:
    `dependsOn_is_reverse_reachability`.) Without the skip rule: `unpruned_dense_steps_exponential` (D-05b). -/
theorem acyclic_steps_eq_edges (g : Graph) (hac : Acyclic g) :
    steps g = ((List.range g.length).map fun r => (edges g r).length).sum :=
  acyclic_steps_eq_edges_E (edges g) g.length hac

/-- By `acyclic_steps_eq_edges`, at most `n · d` steps when no type has more than `d` struct/enum leaves in its fields. -/
theorem acyclic_steps_polynomial (g : Graph) (hac : Acyclic g) (d : Nat) (hd : ∀ r, (edges g r).length ≤ d) :
    steps g ≤ g.length * d := by
  rw [acyclic_steps_eq_edges g hac]
  have key : ∀ (rs : List Nat), (rs.map fun r => (edges g r).length).sum ≤ rs.length * d := by
    intro rs
    induction rs with
    | nil => simp
    | cons r rs ih =>
      simp only [List.map_cons, List.sum_cons, List.length_cons]
      have := hd r
      rw [Nat.succ_mul]; omega
  simpa using key (List.range g.length)

/-- What the skip rule is for (D-05b): without it the detector makes at least `2^n - 1` calls on the acyclic dense
    family of `n + 1` structs (struct `i` has a field of every struct `j > i`). -/
theorem unpruned_dense_steps_exponential (n : Nat) :
    2 ^ n ≤ (detectUnpruned (edges (dense (n + 1))) (dense (n + 1)).length).steps + 1 := by
  have hlen : (dense (n + 1)).length = n + 1 := by simp [dense]
  rw [hlen]
  exact dense_steps_exponential_E (edges (dense (n + 1))) n (dense_denseOn (n + 1))

/-- With the skip rule the dense family of `n` structs costs one call per field (`acyclic_steps_eq_edges`), which is at
    most `n * n`. -/
theorem dense_steps_quadratic (n : Nat) : steps (dense n) ≤ n * n := by
  have hlen : (dense n).length = n := by simp [dense]
  have := acyclic_steps_polynomial (dense n) (acyclic_of_increasing _ (dense_step_lt n)) n (dense_edges_length n)
  rwa [hlen] at this

/-- D-05d (OPEN), erroneous programs: the skip rule does not help on cyclic graphs. For every edge function on `n + 2`
    nodes in which node `k` points to all nodes `j > k` (in order, possibly followed by other edges) and the last node
    points back to node `0` — `struct S(n+1) { back: S0? }` added to the dense family: every type lies on a cycle through
    `S0` — the detector makes at least `2^(n+1) - 1` calls of `push_to_stack_and_check`: every type contains `S0`, so nothing
    is skipped in the search rooted at `S0`, which walks every increasing path. (On the complete digraphs the count is
    factorial: family `known-d05b-complete`.) -/
theorem cyclic_steps_exponential (E : EdgeFn) (n : Nat) (hlt : ∀ a e, e ∈ E a → e.2 < n + 2)
    (hE : DenseBackOn E (n + 2)) (hback : EStep E (n + 1) 0) :
    2 ^ (n + 1) ≤ (detectE E (n + 2)).steps + 1 := by
  rw [detectE_eq_detectG]
  refine detectG_denseBack_steps E (n + 1) _ hE fun j hj0 hjn => ?_
  -- every node `0 < j < n + 2` reaches node 0 (through the last node), so the skip rule lets it pass
  have hreach : EReach E j 0 := by
    by_cases hj : j = n + 1
    · subst hj; exact .single hback
    · obtain ⟨es1, es2, hsplit, hmap⟩ := hE j hjn
      have hm : (n + 1) ∈ es1.map (·.2) := by rw [hmap, List.mem_range'_1]; omega
      obtain ⟨⟨fld, _⟩, he, rfl⟩ := List.mem_map.1 hm
      exact .cons ⟨fld, hsplit ▸ List.mem_append_left _ he⟩ (.single hback)
  simp [skipDeps, (mem_dependsOn E (n + 2) hlt 0 j).2 ⟨hjn, hreach⟩]

/-- an instance: S0 → S1, S2, S3; S1 → S2, S3; S2 → S3; S3 → S0 (4 structs): 38 calls, against 6 without the back edge -/
example : steps [⟨"S0", false, [⟨"a", .node 1⟩, ⟨"b", .node 2⟩, ⟨"c", .node 3⟩]⟩, ⟨"S1", false, [⟨"a", .node 2⟩, ⟨"b", .node 3⟩]⟩,
    ⟨"S2", false, [⟨"a", .node 3⟩]⟩, ⟨"S3", false, [⟨"a", .opt (.node 0)⟩]⟩] = 38 := by decide +kernel

/-- the dense family is acyclic as far as the detector is concerned, and its exact cost (tests, small n) -/
example : detectCycles (dense 6) = [] := by decide +kernel
example : steps (dense 5) = 10 := by decide +kernel
example : (detectUnpruned (edges (dense 5)) 5).steps = 2 ^ 5 - 1 - 5 := by decide +kernel
/-- the complete digraph K3 (erroneous): 4 distinct vertex sets are reported; the search still walks every simple cycle -/
example : (detectCycles (complete 3)).length = 4 := by decide +kernel
example : steps (complete 3) = 30 := by decide +kernel

/-! ## D-05c: an alias that loops through an anonymous type -/

/-- If the alias name `id` resolves (in `scope`) to the anonymous type `Sequence<id>` written in the same scope — which is
    what `resolve_type_alias` answers for `typealias A = Sequence<A>`, because it stops at the already-patched anonymous
    type — then the descent through the patched structure below a reference to `id` (the validating visitor's
    `TypeRef::visit_with`, the detector's `check_field_type_for_cycles`) does not end, whatever depth is allowed.
    (The driver does not evaluate this hypothesis: on every `alias-anon-loop` case it runs the conclusion, `descendT` with
    400 frames from every alias, and prints a K line when all of these descents end.) -/
theorem anon_alias_loop_diverges (t : Table) (id scope : String) (attrs : List Attr)
    (h : resolveNamed t .type id scope = .ok (.expr (.seq (.mk [] (.named id) false)) scope, attrs)) :
    ∀ fuel, descendT t fuel scope (.mk [] (.named id) false) = none := by
  have both : ∀ fuel, descendT t fuel scope (.mk [] (.named id) false) = none ∧
      descendE t fuel scope (.seq (.mk [] (.named id) false)) = none := by
    intro fuel
    induction fuel with
    | zero => exact ⟨rfl, rfl⟩
    | succ fuel ih =>
      constructor
      · simp only [descendT, h, ih.2, Option.map_none]
      · simp only [descendE, ih.1]
  exact fun fuel => (both fuel).1

/-! ## alias walk: termination within `#aliases + 1` steps

  `walkAlias` (Model/Resolve.lean) has a dedicated out-of-fuel result `.error .fuel`; the invariant proof lives in
  Lemmas/Resolve.lean (`walkAlias_no_fuel`, shared with C03). Restated here because C05 claims it. -/

/-- The walk along an alias chain keeps a duplicate-free list of identifiers of aliases stored in the table, so with
    `chain.length + fuel > #aliases` it never ends for lack of fuel: it reaches a non-alias, a missing name, or a repeat
    (the E019 / E033 case) first. -/
theorem walkAlias_fuel_suffices (t : Table) (fuel : Nat) (chain : List String) (attrs : List Attr) (cur : NodeInfo)
    (hnd : chain.Nodup) (hsub : ∀ k ∈ chain, k ∈ aliasKeys t) (hcur : ∃ k, (k, cur) ∈ t)
    (hlen : numAliases t + 1 ≤ chain.length + fuel) :
    walkAlias t fuel chain attrs cur ≠ .error .fuel :=
  walkAlias_no_fuel t fuel chain attrs cur hnd hsub hcur hlen

/-- `resolve_type_alias` as started by `resolve_definition` (`#aliases + 1` iterations allowed, empty chain, a node found
    in the table) always ends with a verdict of its own. -/
theorem alias_walk_terminates (t : Table) (id scope : String) (n : NodeInfo)
    (hfind : findNodeWithScope t id scope = some n) :
    walkAlias t (numAliases t + 1) [] [] n ≠ .error .fuel :=
  walkAlias_no_fuel t (numAliases t + 1) [] [] n List.nodup_nil (by intro k hk; cases hk)
    (findNodeWithScope_mem t id scope n hfind) (by simp)

/-! ## completeness and exactness -/

/-- Completeness for one simple cycle: if `T → w₁ → … → w_m = T` is a simple containment cycle of the graph, a single
    diagnostic's chain passes through every type of it (the search rooted at `T` walks this very path; its vertex set is
    either reported then or was reported before with the same vertex set). -/
theorem report_complete_simple (g : Graph) (T : Nat) (ws : List Nat)
    (hp : PathToRoot (edges g) T T ws) (hnd : ws.Nodup) :
    ∃ r ∈ detectCycles g, ∀ w ∈ ws, w ∈ r.ids := by
  rw [prune_preserves_reports]
  obtain ⟨r, hr, hs⟩ := detectU_complete_simple (edges g) g.length (edges_lt g) T ws hp hnd
  exact ⟨r, hr, fun _ => sameSet_mem hs⟩

/-- `report_complete`: every type that contains itself — directly or through other structs and enums, through optional
    types, sequences, dictionary keys or values, result success or failure types, enumerator fields — lies on the chain of
    some reported cycle (a closed walk through the type contains a simple cycle through it; the search rooted at the type
    walks every simple path back to it — every type on such a path contains the root, so the skip rule never applies, by
    `prune_preserves_reports`; de-duplication only drops a chain whose vertex set was already reported). -/
theorem report_complete (g : Graph) (a : Nat) (h : EReach (edges g) a a) : ∃ r ∈ detectCycles g, a ∈ r.ids := by
  rw [prune_preserves_reports]
  exact detectU_complete (edges g) g.length (edges_lt g) a h

/-- `exact`: an infinite-size error is reported exactly when some type contains itself. -/
theorem exact_acyclic (g : Graph) : detectCycles g = [] ↔ Acyclic g := by
  constructor
  · intro hnil a ha
    obtain ⟨r, hr, _⟩ := report_complete g a ha
    rw [hnil] at hr; cases hr
  · exact no_spurious g

/-- OPEN (D-05d): the detector's cost is polynomial in the number of nodes on EVERY graph. Proved for acyclic graphs
    (`acyclic_steps_eq_edges`); false on cyclic ones: `cyclic_steps_exponential` gives `2^(n+1) - 1` calls on a family of
    `n + 2` structs (the formal negation of this statement from that bound — exponentials outgrow polynomials — is not
    carried out), and on the complete digraphs (erroneous programs) every simple cycle through the root is
    enumerated — `steps (complete 3) = 30` above, 192 for 4, 1300 for 5 (driver); in general about `e·(n-1)·n!` calls; the
    implementation needs 18.6 s for `n = 10` and gives no verdict within 20 s for `n = 11` (family
    `known-d05b-complete`). The enumeration is inherent in the reporting rule pinned by the test-suite (every distinct
    cycle vertex set through the root is reported). Not proved formally: the factorial lower bound. -/
def cost_polynomial_full : Prop := ∃ c d : Nat, ∀ g : Graph, steps g ≤ c * (g.length + 1) ^ d + c

/-! ## interfaces: the inheritance check of the gate (0830460) and `all_base_interfaces` (323593c) -/

/-- `inheritance_loop_rejected`: for every inheritance graph, `check_interface_for_inheritance_cycles` reports
    interface `i` exactly when `i` reaches itself through ≥ 1 base references (soundness and completeness of `find_path`
    with its `seen` set: an interface is entered at most once over the whole search, and an interface that was left
    without success has all its bases entered and none equal to the target). -/
theorem inheritance_loop_rejected (ig : IGraph) (i : Nat) :
    (checkInterface ig i).isSome = true ↔ EReach (igEdges ig) i i :=
  checkInterface_isSome_iff ig i

/-- The chain reported for an interface (`A -> B -> … -> A`) starts at the interface, follows base references link by
    link and ends at the interface. -/
theorem inheritance_chain_sound (ig : IGraph) (i : Nat) (p : List Nat) (h : checkInterface ig i = some p) :
    ∃ s, s ≠ [] ∧ p = i :: s ∧ NLinked (igEdges ig) i s ∧ nlast i s = i :=
  checkInterface_sound ig i p h

/-- `find_path` never nests deeper than the number of interfaces (+1): the fuel of the model is never exhausted. -/
theorem find_path_fuel_suffices (ig : IGraph) (i : Nat) : (findPathFrom ig i).exhausted = false :=
  (findPathFrom_spec ig i).exh

/-- The interface gate as a whole: it emits an E032 diagnostic for `i` exactly when `i` is an interface of the graph that
    inherits from itself. (That there is one per such interface, with the chain `find_path` found, is how
    `ifaceLoopErrors` is built: a `filterMap` of `checkInterface` over the interfaces; see `inheritance_chain_sound`.) -/
theorem iface_errors_iff (ig : IGraph) (i : Nat) :
    (∃ p, (i, p) ∈ ifaceLoopErrors ig) ↔ i < ig.length ∧ EReach (igEdges ig) i i :=
  ifaceLoopErrors_reports_iff ig i

/-- The gate (no alias error) lets a program pass exactly when neither an interface inherits from itself nor a struct or
    enum contains itself; the interface check does not stop the containment detector. -/
theorem gate_accepts_iff (ig : IGraph) (g : Graph) :
    (cycleGate [] ig g).rejected = false ↔ AcyclicE (igEdges ig) ∧ Acyclic g := by
  have hrej : (cycleGate [] ig g).rejected = false ↔ ifaceLoopErrors ig = [] ∧ detectCycles g = [] := by
    simp [cycleGate, GateOutcome.rejected]
  rw [hrej, exact_acyclic, ifaceLoopErrors_eq_nil_iff]

/-- `allBases_total`: `all_base_interfaces` (`collect` with its `expanded` set) returns on EVERY inheritance graph —
    loops included — within `#interfaces + 1` nested frames: an interface is expanded at most once. -/
theorem allBases_total (ig : IGraph) (i : Nat) : ∃ l, allBases ig (ig.length + 1) i = some l :=
  ⟨_, allBases_eq ig i⟩

/-- `allBases_total` in the form of a termination statement: `all_base_interfaces` returns within `#interfaces + 1`
    frames on every graph, not only on those that pass the gate. (`all_base_interfaces` as it stood before 323593c,
    `allBasesSpec`, does not return on `interface I0 : I0 {}`: `allBasesSpec_diverges_on_loop`.) -/
theorem inheritance_terminates_full : ∀ (ig : IGraph) (i : Nat), i < ig.length → allBases ig (ig.length + 1) i ≠ none := by
  intro ig i _ h
  obtain ⟨l, hl⟩ := allBases_total ig i
  rw [hl] at h; cases h

/-- `allBases_eq_spec`: on every graph and for every interface on which `allBasesSpec` (`all_base_interfaces` before
    323593c: `bases ++ flat_map(all_base_interfaces)`, then first occurrences) returns a list `l` within some number of frames,
    `collect` returns the same list, in the same order. -/
theorem allBases_eq_spec (ig : IGraph) (fuel i : Nat) (l : List Nat) (h : allBasesSpec ig fuel i = some l) :
    allBases ig (ig.length + 1) i = some l := by
  have r := collect_spec ig (SpecReturns.of_spec ig fuel i l h) (ig.length + 1) {} (fun _ => False) (Distinct.nil _)
    (by simp) (by intro b hb; cases hb) (by intro _ _ h; exact h)
  -- `l` is free of repetitions (it is a `dedupKeep` image): pushing it onto nothing gives `l`
  rw [allBases_eq, show (collect ig (ig.length + 1) i {}).all = _ from congrArg Prod.fst r.as,
    pushAS_fresh l _ (allBasesSpec_nodup ig fuel i l h) fun _ _ hm => List.not_mem_nil hm]
  rfl

/-- On every acyclic inheritance graph `allBasesSpec` returns within `#interfaces + 1` frames, so `allBases` and
    `allBasesSpec` agree for every interface. -/
theorem allBases_eq_spec_acyclic (ig : IGraph) (hac : AcyclicE (igEdges ig)) (i : Nat) :
    ∃ l, allBasesSpec ig (ig.length + 1) i = some l ∧ allBases ig (ig.length + 1) i = some l := by
  obtain ⟨l, hl⟩ := allBasesSpec_total_of_acyclic ig hac i
  exact ⟨l, hl, allBases_eq_spec ig _ i l hl⟩

/-- `allBases_eq_spec_acyclic` for every program that passes the interface gate. -/
theorem accepted_bases_agree (ig : IGraph) (h : ifaceLoopErrors ig = []) (i : Nat) :
    ∃ l, allBasesSpec ig (ig.length + 1) i = some l ∧ allBases ig (ig.length + 1) i = some l :=
  allBases_eq_spec_acyclic ig ((ifaceLoopErrors_eq_nil_iff ig).1 h) i

/-- The result of `all_base_interfaces` on an acyclic graph: exactly the interfaces reachable through ≥ 1 base
    references. -/
theorem allBases_mem_acyclic (ig : IGraph) (hac : AcyclicE (igEdges ig)) (i : Nat) (l : List Nat)
    (h : allBases ig (ig.length + 1) i = some l) (d : Nat) : d ∈ l ↔ EReach (igEdges ig) i d := by
  obtain ⟨l', h1, h2⟩ := allBases_eq_spec_acyclic ig hac i
  rw [h] at h2; cases h2
  exact allBasesSpec_mem ig _ i l h1 d

/-- What the interface gate protects against (D-05a), and why `allBasesSpec` is only a specification: it does not
    return for an interface that inherits from itself, whatever the stack depth allowed. -/
theorem allBasesSpec_diverges_on_loop (ig : IGraph) (i : Nat) (h : EReach (igEdges ig) i i) :
    ∀ fuel, allBasesSpec ig fuel i = none :=
  fun fuel => allBasesSpec_none_of_loop ig fuel i h

/-! ## the alias gate: `revisits_anonymous_type` (f7e7e5f) -/

/-- `revisits_anonymous_type` (descent with the CURRENT PATH, `#nodes + 1` nested frames at most) answers true for an
    anonymous type exactly when an anonymous type lying on a cycle of the anonymous-type graph is that type or can be
    reached from it. A type met twice on different branches (a diamond such as `Result<Names, Names>`) is not a revisit:
    only cycles count. -/
theorem revisits_iff_reaches_cycle (ag : IGraph) (x : Nat) :
    revisits ag (ag.length + 1) x [] = true ↔ ∃ y, (y = x ∨ EReach (igEdges ag) x y) ∧ EReach (igEdges ag) y y :=
  revisits_iff ag x

/-- The alias gate reports alias `a` (E019) exactly when the anonymous type its underlying reference is bound to lies on,
    or leads to, a cycle of anonymous types; aliases of primitives, structs, … are never reported. -/
theorem alias_gate_reports_iff (ag : IGraph) (starts : List (Option Nat)) (a : Nat) :
    a ∈ aliasGate ag starts ↔
      a < starts.length ∧ ∃ x, starts.getD a none = some x ∧
        ∃ y, (y = x ∨ EReach (igEdges ag) x y) ∧ EReach (igEdges ag) y y :=
  mem_aliasGate ag starts a

/-- In particular nothing is reported when the graph of anonymous types is acyclic, however often a type is shared. -/
theorem alias_gate_silent_on_acyclic (ag : IGraph) (starts : List (Option Nat)) (hac : AcyclicE (igEdges ag)) :
    aliasGate ag starts = [] := by
  refine List.eq_nil_iff_forall_not_mem.2 fun a ha => ?_
  obtain ⟨_, _, _, y, _, hyy⟩ := (alias_gate_reports_iff ag starts a).1 ha
  exact hac y hyy

/-- `struct S0 { f0: S1 }  struct S1 { f0: Sequence<S0?> }`: one report (rooted at S0, through both fields);
    the search from S1 finds the same vertex set and is de-duplicated. -/
example : detectCycles [⟨"S0", false, [⟨"f0", .node 1⟩]⟩, ⟨"S1", false, [⟨"f0", .seq (.opt (.node 0))⟩]⟩]
    = [⟨0, [⟨1, 0, 0⟩, ⟨0, 1, 0⟩]⟩] := by decide +kernel
/-- a dictionary key and a result failure type are followed -/
example : (detectCycles [⟨"S0", false, [⟨"f0", .dict (.node 0) .terminal⟩]⟩]).length = 1 := by decide +kernel
example : (detectCycles [⟨"S0", false, [⟨"f0", .result .terminal (.node 0)⟩]⟩]).length = 1 := by decide +kernel
/-- two different cycles with the same vertex set {S0,S1} … only the first is reported (de-duplication by vertex set) -/
example : (detectCycles [⟨"S0", false, [⟨"f0", .node 1⟩, ⟨"f1", .node 1⟩]⟩, ⟨"S1", false, [⟨"f0", .node 0⟩]⟩]).length = 1 := by decide +kernel
/-- an acyclic diamond -/
example : detectCycles [⟨"S0", false, [⟨"a", .node 1⟩, ⟨"b", .node 2⟩]⟩, ⟨"S1", false, [⟨"a", .node 2⟩]⟩, ⟨"S2", false, []⟩] = [] := by decide +kernel
/-- `all_base_interfaces` on a diamond: I3 : I1, I2; I1 : I0; I2 : I0 -/
example : allBases [[], [0], [0], [1, 2]] 5 3 = some [1, 2, 0] := by decide +kernel
example : allBasesSpec [[], [0], [0], [1, 2]] 5 3 = some [1, 2, 0] := by decide +kernel
/-- a layered DAG (3 layers of 2, each interface inherits both interfaces of the layer below): direct bases first -/
example : allBases [[], [], [0, 1], [0, 1], [2, 3], [2, 3]] 7 5 = some [2, 3, 0, 1] := by decide +kernel
example : allBasesSpec [[], [], [0, 1], [0, 1], [2, 3], [2, 3]] 7 5 = some [2, 3, 0, 1] := by decide +kernel
/-- a base list in which the order matters: I3 : I2, I1; I2 : I0; I1 : I0 -/
example : allBases [[], [0], [0], [2, 1]] 5 3 = some [2, 1, 0] := by decide +kernel
/-- loops: `interface I0 : I1 {} interface I1 : I0 {} interface I2 : I0 {}` — I0 and I1 are reported with their chains,
    I2 (which only reaches the loop) is not, but the program is rejected; `all_base_interfaces` returns all the same -/
example : ifaceLoopErrors [[1], [0], [0]] = [(0, [0, 1, 0]), (1, [1, 0, 1])] := by decide +kernel
example : checkInterface [[1], [0], [0]] 2 = none := by decide +kernel
example : allBases [[1], [0], [0]] 4 2 = some [0, 1] := by decide +kernel
example : allBasesSpec [[1], [0], [0]] 4 2 = none := by decide +kernel
example : ifaceLoopErrors [[0]] = [(0, [0, 0])] := by decide +kernel
/-- the gate order: an alias error returns alone; an interface loop does not stop the containment detector -/
example : (cycleGate ["M::A0"] [[0]] [⟨"S0", false, [⟨"f0", .node 0⟩]⟩]).ifaceErrors = [] := by decide +kernel
example : ((cycleGate [] [[0]] [⟨"S0", false, [⟨"f0", .node 0⟩]⟩]).ifaceErrors.length,
           (cycleGate [] [[0]] [⟨"S0", false, [⟨"f0", .node 0⟩]⟩]).reports.length) = (1, 1) := by decide +kernel
/-- the alias gate: `typealias Names = Sequence<string>  typealias Pair = Result<Names, Names>` — node 0 = the Result
    (children: Names twice), node 1 = the Sequence: a diamond, not a revisit; `typealias A = Result<A, int32>`: a revisit -/
example : aliasGate [[1, 1], []] [some 1, some 0] = [] := by decide +kernel
example : aliasGate [[0]] [some 0] = [0] := by decide +kernel
/-- three layers of diamonds and one alias on a loop that is used by another one: only these two are reported -/
example : aliasGate [[], [0, 0], [1, 1], [3, 0], [3, 2]] [some 0, some 1, some 2, some 3, some 4] = [3, 4] := by decide +kernel
/-- the skip rule at work: S0 → S1 → S2, S2 → S1: the search from S0 skips S1 at once (it does not contain S0) -/
example : steps [⟨"S0", false, [⟨"a", .node 1⟩]⟩, ⟨"S1", false, [⟨"a", .node 2⟩]⟩, ⟨"S2", false, [⟨"a", .node 1⟩]⟩] = 5 := by decide +kernel
/-- `types_depending_on_checked_type`: in the dense family S0 and S1 contain S2; in K3 everything contains S0, S0 included -/
example : dependsOn (edges (dense 4)) 4 2 = [1, 0] := by decide +kernel
example : (dependsOn (edges (complete 3)) 3 0).length = 3 := by decide +kernel

end Slicec.C05

#print axioms Slicec.C05.fuel_suffices_E
#print axioms Slicec.C05.dependsOn_is_reverse_reachability
#print axioms Slicec.C05.fuel_suffices
#print axioms Slicec.C05.report_sound_E
#print axioms Slicec.C05.report_sound
#print axioms Slicec.C05.edge_is_field
#print axioms Slicec.C05.no_spurious
#print axioms Slicec.C05.reported_root_on_cycle
#print axioms Slicec.C05.prune_preserves_reports_E
#print axioms Slicec.C05.prune_preserves_reports
#print axioms Slicec.C05.acyclic_steps_eq_edges_E
#print axioms Slicec.C05.acyclic_steps_eq_edges
#print axioms Slicec.C05.acyclic_steps_polynomial
#print axioms Slicec.C05.unpruned_dense_steps_exponential
#print axioms Slicec.C05.dense_steps_quadratic
#print axioms Slicec.C05.cyclic_steps_exponential
#print axioms Slicec.C05.anon_alias_loop_diverges
#print axioms Slicec.C05.walkAlias_fuel_suffices
#print axioms Slicec.C05.alias_walk_terminates
#print axioms Slicec.C05.report_complete_simple
#print axioms Slicec.C05.report_complete
#print axioms Slicec.C05.exact_acyclic
#print axioms Slicec.C05.inheritance_loop_rejected
#print axioms Slicec.C05.inheritance_chain_sound
#print axioms Slicec.C05.find_path_fuel_suffices
#print axioms Slicec.C05.iface_errors_iff
#print axioms Slicec.C05.gate_accepts_iff
#print axioms Slicec.C05.allBases_total
#print axioms Slicec.C05.inheritance_terminates_full
#print axioms Slicec.C05.allBases_eq_spec
#print axioms Slicec.C05.allBases_eq_spec_acyclic
#print axioms Slicec.C05.accepted_bases_agree
#print axioms Slicec.C05.allBases_mem_acyclic
#print axioms Slicec.C05.allBasesSpec_diverges_on_loop
#print axioms Slicec.C05.revisits_iff_reaches_cycle
#print axioms Slicec.C05.alias_gate_reports_iff
#print axioms Slicec.C05.alias_gate_silent_on_acyclic
