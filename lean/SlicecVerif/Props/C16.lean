/-
  C16 — Doc comments keep their text, tags and links.

  The theorems are about the executable model of the comment lexer / grammar / helper functions
  (`Model/Comment.lean`, mirrors `parsers/comments/*`) and of link binding and tag validation in whole
  programs (`Model/CommentDocs.lean`). The model is tied to the code by the `comments` and `compile`
  engines (Drv/C16.lean).

  `sanitize_message_lines` measures and strips the common indentation in characters, and skips whitespace-only lines
  when it measures. The model mirrors its two loops and `sanitize_eq_spec` proves that they compute the property's rule
  for every list of lines. `Gen.sanitizeCountsChars` (read off grammar.rs on every run) selects this reading of the
  model: on a source that measures in UTF-8 bytes (findings D-16a, D-16b) `sanitize_eq_spec` and everything that rests
  on it do not compile.
-/
import SlicecVerif.Lemmas.Comment
import SlicecVerif.Lemmas.CommentRoundtrip
import SlicecVerif.Model.CommentDocs

namespace Slicec.C16

open Slicec

/-- **The code's loops compute the property's rule.** For *every* list of lines — empty lines, whitespace-only lines,
    lines that start with a link, whitespace followed by a link, any of the 25 whitespace code points in any mixture of
    UTF-8 widths — `sanitize_message_lines` (first loop with the skip rule and the link break, `usize::MAX` ↦ 0, second loop
    through `char_indices().nth(..)` and `replace_range`) returns normally, and its result is the declarative rule
    `sanitizeSpec`: every line loses the first `commonIndent lines` characters of its first text, keeps everything else and
    is closed by one `"\n"` text (an empty line becomes just `"\n"`). -/
theorem sanitize_eq_spec (ls : List MLine) : sanitizeMessageLines ls = .ok (sanitizeSpec ls) := by
  simp only [sanitizeMessageLines, Gen.sanitizeCountsChars, if_true, normaliseCommon_commonWs, stripLines_endIndex, sanitizeSpec]

/-- **Why `replace_range` cannot panic.** The end index the second loop computes
    (`char_indices().nth(n).unwrap_or(len)`) is, for every text and every count, the UTF-8 length of the text's first `n`
    characters: a character boundary within the text. The model of `replace_range(..i, "")` (`dropBytes`) returns normally
    on this index, and what it leaves is the text without its first `n` characters (all of it gone when it has fewer).
    (That `dropBytes` returns normally exactly on character boundaries is `dropBytes_isSome_iff`, Lemmas/Comment.lean; it
    is not part of this statement.) -/
theorem strip_index_is_boundary (t : Str) (n : Nat) :
    OnBoundary t (endIndex t n) ∧ endIndex t n = utf8Len (t.take n) ∧ dropBytes t (endIndex t n) = some (t.drop n) :=
  ⟨endIndex_onBoundary t n, endIndex_eq t n, dropBytes_endIndex t n⟩

/-- **No panic, no error, for all inputs.** -/
theorem sanitize_no_panic (ls : List MLine) :
    (∃ m, sanitizeMessageLines ls = .ok m) ∧ (∀ s, sanitizeMessageLines ls ≠ .panic s) ∧ (∀ e, sanitizeMessageLines ls ≠ .err e) := by
  rw [sanitize_eq_spec]
  exact ⟨⟨_, rfl⟩, fun s h => (by cases h), fun e h => (by cases h)⟩

/-- **Common indentation, all line lists.** With `m` the number of characters `sanitize_message_lines` removes:
    * the result is every line without the first `m` characters of its first text, everything else kept, one `"\n"` text per
      line (line breaks preserved);
    * `m` is at most the indentation of every line that has one (`lineIndent`: the number of leading whitespace characters
      of a line with content; 0 for a line that starts with a link; the whole length of an all-whitespace text that is
      followed by further components (a link, a `{`); none for an empty or whitespace-only line) and is the indentation of some such line; it is 0
      when no line has content;
    * only whitespace is removed: the first `m` characters of every line's first text are whitespace characters. -/
theorem sanitize_common_indent (ls : List MLine) :
    let m := commonIndent ls
    sanitizeMessageLines ls = .ok (ls.flatMap (lineWithout m)) ∧
    (∀ l ∈ ls, ∀ k, lineIndent l = some k → m ≤ k) ∧
    ((∃ l ∈ ls, (lineIndent l).isSome) → ∃ l ∈ ls, lineIndent l = some m) ∧
    ((∀ l ∈ ls, lineIndent l = none) → m = 0) ∧
    (∀ t rest, some (Comp.text t, rest) ∈ ls → (t.take m).all isWsC = true) := by
  obtain ⟨hle, hat, hz⟩ := commonIndent_spec ls
  refine ⟨sanitize_eq_spec ls, hle, hat, hz, fun t rest hmem => ?_⟩
  cases hall : t.all isWsC with
  | true => exact take_all_ws_of_all t _ hall
  | false => exact take_all_ws t _ (hle _ hmem _ (by simp [lineIndent, hall]))

/-- **Common indentation, written lines.** For lines written as a run of whitespace `ws` — any of the 25 code points, any
    mixture of UTF-8 widths — followed by a body that starts with a non-blank character (and by further components; empty
    lines allowed anywhere), the number of characters removed is `m`, the minimum of `ws.length` over the non-empty lines
    (`m ≤ ws.length` for each, attained by one), every non-empty line keeps `ws.drop m ++ body` and all further
    components. -/
theorem sanitize_common_indent_written (ls : List ILine) (h : ∀ l ∈ ls, WellFormedI l) :
    let m := (minOpt (ls.map ILine.indent)).getD 0
    sanitizeMessageLines (ls.map ILine.toMLine) = .ok (ls.flatMap (ILine.stripped m)) ∧
    (∀ ws body rest, some (ws, body, rest) ∈ ls → m ≤ ws.length) ∧
    ((∃ ws body rest, some (ws, body, rest) ∈ ls) → ∃ ws body rest, some (ws, body, rest) ∈ ls ∧ ws.length = m) := by
  intro m
  have hm : commonIndent (ls.map ILine.toMLine) = m := by simp [m, commonIndent, map_lineIndent_written ls h]
  obtain ⟨hle0, hat, _⟩ := commonIndent_spec (ls.map ILine.toMLine)
  rw [hm] at hle0 hat
  have hle : ∀ l ∈ ls, ∀ k, l.indent = some k → m ≤ k := fun l hl k hk =>
    hle0 _ (List.mem_map_of_mem hl) k (by rw [lineIndent_written l (h l hl), hk])
  refine ⟨?_, fun ws body rest hmem => hle _ hmem _ rfl, ?_⟩
  · rw [sanitize_eq_spec, sanitizeSpec, hm, List.flatMap_map]
    exact congrArg _ (flatMap_congr_mem _ _ _ fun l hl => lineWithout_written m l (hle l hl))
  · rintro ⟨ws, body, rest, hmem⟩
    obtain ⟨l, hl, hlm⟩ := hat ⟨_, List.mem_map_of_mem hmem, by rw [lineIndent_written _ (h _ hmem)]; rfl⟩
    obtain ⟨l', hl', rfl⟩ := List.mem_map.1 hl
    rw [lineIndent_written _ (h _ hl')] at hlm
    rcases l' with _ | ⟨ws', b', r'⟩
    · cases hlm
    · exact ⟨ws', b', r', hl', by simpa [ILine.indent] using hlm⟩

/-- **The comment parser as it is = the comment parser with the property's stripping rule**, on every input (what the
    correspondence run compares the real parser with is therefore the property's own demand). -/
theorem parse_eq_spec (lines : List Str) : parseComment lines = parseCommentSpec lines := by
  have : sanitizeMessageLines = fun ls => .ok (sanitizeSpec ls) := funext sanitize_eq_spec
  simp [parseComment, parseCommentSpec, this]

/-- **`parse_doc_comment` returns normally** for every list of raw lines. The panic sites of the comment parser that this
    model has are `Lexer::new` on an empty comment (not called: no lines, no parser) and `replace_range`
    (`sanitize_no_panic`); the model has no columns, so the `col -= 3` of `create_doc_comment` is not among them (it is
    in `Model/CommentDocLoc.lean`). -/
theorem attach_total (raw : List Str) : ∃ a, attach raw = .ok a := by
  have hs : SanTotal sanitizeMessageLines := fun ls s => (sanitize_no_panic ls).2.1 s
  cases raw with
  | nil => exact ⟨_, rfl⟩
  | cons l ls =>
    simp only [attach, attachG]
    cases hp : parseCommentG sanitizeMessageLines (l :: ls) with
    | ok c | err e => exact ⟨_, rfl⟩
    | panic s => exact absurd hp (parseCommentG_no_panic _ hs l ls s)

/-- the input of D-16a (a space on one line, U+3000 on the next: byte index 1 is inside the second line's first character,
    where `replace_range` panics): one character is removed from each line -/
example : sanitizeMessageLines [some (.text [' ', 'x'], []), some (.text ['\u3000', 'y'], [])]
    = .ok [.text ['x'], nl, .text ['y'], nl] := by decide +kernel

/-- the same through the whole comment parser: `/// x` / `///　y` is a comment with overview `x⏎y⏎` -/
example : parseComment [[' ', 'x'], ['\u3000', 'y']]
    = .ok { overview := some [.text ['x'], nl, .text ['y'], nl], params := [], returns := [], see := [] } := by decide +kernel

/-- one U+00A0 (two bytes) on the first line, two spaces on the next: one character is removed, the second space of
    line 2 stays -/
example : sanitizeMessageLines [some (.text ['\u00A0', 'x'], []), some (.text [' ', ' ', 'y'], [])]
    = .ok [.text ['x'], nl, .text [' ', 'y'], nl] := by decide +kernel

/-- character order and byte order of the indentations disagree (U+3000: 1 character, 3 bytes; two spaces: 2 characters,
    2 bytes): the minimum is taken over characters -/
example : sanitizeMessageLines [some (.text ['\u3000', 'x'], []), some (.text [' ', ' ', 'y'], [])]
    = .ok [.text ['x'], nl, .text [' ', 'y'], nl] := by decide +kernel

/-- the input of D-16b (whitespace in front of a link counts with its full length, not as 0): the two spaces are removed
    from both lines; the link line keeps an empty text in front of the link -/
example : parseComment [[' ', ' ', 'a'], [' ', ' ', '{', '@', 'l', 'i', 'n', 'k', ' ', 'S', '}']]
    = .ok { overview := some [.text ['a'], nl, .text [], .link ['S'], nl], params := [], returns := [], see := [] } := by
  decide +kernel

/-- a whitespace-only line between indented lines (an editor's trailing blank) does not disable the stripping, whether it
    is shorter or longer than the common indentation; a message of whitespace-only lines is left as it is -/
example :
    sanitizeMessageLines [some (.text [' ', ' ', 'a'], []), some (.text [' '], []), some (.text [' ', ' ', ' ', 'b'], []),
                          some (.text [' ', '\t', ' ', ' '], [])]
      = .ok [.text ['a'], nl, .text [], nl, .text [' ', 'b'], nl, .text [' ', ' '], nl] ∧
    sanitizeMessageLines [some (.text [' ', ' '], []), none, some (.text ['\u3000'], [])]
      = .ok [.text [' ', ' '], nl, nl, .text ['\u3000'], nl] := by decide +kernel

/-- non-vacuity of `sanitize_common_indent_written`: indentations of 3 and 1 characters in mixed widths, an empty line
    between them -/
example : sanitizeMessageLines ([some ([' ', '\u00A0', '\u3000'], ['a'], []), none, some (['\u2003'], ['b'], [.link ['S']])].map ILine.toMLine)
    = .ok [.text ['\u00A0', '\u3000', 'a'], nl, nl, .text ['b'], .link ['S'], nl] := by decide +kernel

/-- **Tags in order.** Whenever a comment parses (with the code's sanitizer or any other), its `@param`, `@returns` and
    `@see` tags are exactly the block tags written in the token stream — `writtenParams/Returns/See` scan the stream for
    the block keywords — in the order written and with the identifiers written (for `@returns`, also whether an
    identifier was written at all; for `@see`, "written" is what the model's `parseScopedId` reads behind the keyword). -/
theorem tags_in_order (san : Sanitizer) (lines : List Str) (c : DocC) (h : parseCommentG san lines = .ok c) :
    c.params.map (·.1) = writtenParams (lexComment lines).toks ∧
    c.returns.map (·.1) = writtenReturns (lexComment lines).toks ∧
    c.see = writtenSee (lexComment lines).toks := by
  cases lines with
  | nil => cases h
  | cons l ls => simpa [Tags] using ((parseCommentG_yields san l ls).of_ok h).2

/-- non-vacuity: interleaved tags come out grouped by kind, each group in the order written -/
example : (parseComment ["@see A::B".toList, "@param x: m".toList, "@returns".toList, "@param y".toList, "@see ::C".toList]).bind
    (fun c => .ok (c.params.map (·.1), c.returns.map (·.1), c.see))
    = .ok ([['x'], ['y']], [none], [['A', ':', ':', 'B'], [':', ':', 'C']]) := by decide +kernel

/-- a lexer error anywhere in the comment means the comment does not parse (the pending error blocks every accepting path) -/
theorem lexer_error_is_failure (san : Sanitizer) (lines : List Str) (e : CLexErr) (c : DocC)
    (he : (lexComment lines).err = some e) : parseCommentG san lines ≠ .ok c := by
  intro h
  cases lines with
  | nil => cases h
  | cons l ls => rw [((parseCommentG_yields san l ls).of_ok h).1] at he; cases he

/-- **Malformed is a warning.** Every failure of the lexer or the grammar (`parseCommentG … = .err _`) reaches the Slice
    parser as: no comment, and exactly one diagnostic, the lint `MalformedDocComment`, whose level is Warning.
    Conversely the only ways `parse_doc_comment` attaches something are: no lines → nothing, no lint; success → the
    comment, no lint; failure → nothing and that one lint. (A panic is not a value of this function; `attach_total`:
    with the code's sanitizer there is none.)
    The element itself and its siblings cannot be affected: `attachG` is a function of the element's own raw lines
    only and its result has no other component than these two (`siblings_preserved` states what that means for the
    name table and the element list). -/
theorem malformed_is_warning (san : Sanitizer) (raw : List Str) :
    (∀ e, parseCommentG san raw = .err e →
        attachG san raw = .ok ⟨none, [.malformedDocComment]⟩ ∧ lintLevel .malformedDocComment = "W") ∧
    (∀ a, attachG san raw = .ok a →
        (raw = [] ∧ a = ⟨none, []⟩) ∨
        (∃ c, parseCommentG san raw = .ok c ∧ a = ⟨some c, []⟩) ∨
        (∃ e, parseCommentG san raw = .err e ∧ a = ⟨none, [.malformedDocComment]⟩)) := by
  constructor
  · intro e he
    cases raw with
    | nil => simp [parseCommentG] at he
    | cons l ls => simp [attachG, he, lintLevel]
  · intro a ha
    cases raw with
    | nil => left; simp [attachG] at ha; exact ⟨rfl, ha.symm⟩
    | cons l ls =>
      right
      simp only [attachG] at ha
      cases hp : parseCommentG san (l :: ls) with
      | ok c => left; simp [hp] at ha; exact ⟨c, rfl, ha.symm⟩
      | err e => right; simp [hp] at ha; exact ⟨e, rfl, ha.symm⟩
      | panic s => simp [hp] at ha

/-- non-vacuity: the catalogue's failure kinds (unknown tag, missing `}`, inline `@param`, `@` alone, stray symbol) -/
example :
    attach ["@foo".toList] = .ok ⟨none, [.malformedDocComment]⟩ ∧
    attach [" ok".toList, "{@link X".toList] = .ok ⟨none, [.malformedDocComment]⟩ ∧
    attach ["{@param x}".toList] = .ok ⟨none, [.malformedDocComment]⟩ ∧
    attach ["@".toList] = .ok ⟨none, [.malformedDocComment]⟩ ∧
    attach ["@param (x)".toList] = .ok ⟨none, [.malformedDocComment]⟩ := by decide +kernel

/-- **Siblings preserved** (what "never cost the documented element or its siblings" means in the model).
    Whatever doc lines one definition, or the fields of one field list, carry — well-formed, malformed, or none —
    (1) the name-table entries of that definition and of those fields are the same (type references and links bind
        through these entries);
    (2) the definition's list of commentable elements (paths and scoped identifiers) is the same, and its member
        elements, with their own doc lines, are untouched;
    and by `malformed_is_warning` the only trace of a malformed comment is `comment = none` plus one warning. -/
theorem siblings_preserved (i : Nat) (path m s : String) (d : Def) (doc : List String) (g : Field → List String) (fs : List Field) :
    defEntries i m (d.withDoc doc) = defEntries i m d ∧
    fieldEntries i m s (reDocFields g fs) = fieldEntries i m s fs ∧
    (defElems path m (d.withDoc doc)).map (fun e => (e.path, e.key)) = (defElems path m d).map (fun e => (e.path, e.key)) ∧
    (defElems path m (d.withDoc doc)).tail = (defElems path m d).tail := by
  refine ⟨?_, ?_, ?_, ?_⟩
  · cases d <;> rfl
  · simp [fieldEntries, reDocFields, List.map_map, Function.comp_def]
  · cases d <;> rfl
  · cases d <;> rfl

/-- **Link binding = type binding's search.** A `{@link id}` / `@see id` on an element is looked up by
    `findNodeWithScope` (the function `resolveNamed` of C03 starts with), the scope being the documented element's *own*
    parser-scoped identifier (so the element's members and the element itself are found first); the result is kept
    unless it is a module, a parameter / return member or a primitive. This holds by definition of the model's
    `resolveLink` (its `match` written as a filter); that the compiler binds links so is compared by stream `C16p`. -/
theorem link_binding_eq_C03 (t : Table) (elemKey id : String) :
    resolveLink t elemKey id = (findNodeWithScope t id elemKey).filter (fun n => linkable n.kind) := by
  unfold resolveLink
  cases findNodeWithScope t id elemKey with
  | _ => rfl

/-- a resolved link is the node the scoped search (the one type binding starts with) finds from the element's identifier,
    and that node is linkable -/
theorem link_target_is_search_result (t : Table) (elemKey id : String) (n : NodeInfo)
    (h : resolveLink t elemKey id = some n) : findNodeWithScope t id elemKey = some n ∧ linkable n.kind = true :=
  Option.filter_eq_some_iff.1 (link_binding_eq_C03 t elemKey id ▸ h)

/-- the lints for an unresolvable link and for an ill-fitting tag have level Warning: by definition of the model, whose
    `lintLevel` is constant (every lint is a warning); compared with the compiler by stream `C16p`, whose projection prints each
    lint with its level -/
theorem broken_link_is_warning : lintLevel .brokenDocLink = "W" ∧ lintLevel .incorrectDocComment = "W" := ⟨rfl, rfl⟩

/-! ### round trip

  `Renderable c` (Lemmas/CommentRoundtrip.lean, a decidable `Bool`; the conditions are listed there) says what the renderer
  `renderComment` can write so that it reads back. The `example`s after the theorems show six of the conditions to be
  necessary (an inline message that starts with `:` or with a blank, two adjacent texts, a `{` in a text, a line whose first
  non-blank character is `@`, no flush line); there is none for an empty text, an empty overview, a message not closed by
  the `"\n"` text, or the identifier conditions, and the condition that a text holds no line break (`noBreak`: a `///` line
  cannot hold one) is read by no proof.
-/

/-- **Round trip, exact form.** Every renderable comment `c` that is not empty (`hne`: an overview or a tag) — overview lines with inline `{@link X}` components at the
    start, in the middle or at the end of a line, empty lines, lines with indentation of their own, `@param id`,
    `@returns [id]` and `@see X` tags, tag messages with an inline first line and continuation lines — written by
    `renderComment` after *any* indentation `ind` made of whitespace characters (any of the 25 code points, any mixture of
    UTF-8 widths) is accepted by the comment parser as it is (the code's lexer, grammar, `sanitize_message_lines` and
    `construct_section_message`), and the result is `c.readBack ind`: the comment `c` itself, except that an overview or
    continuation line that *starts with a link* comes back with an **empty text component in front of the link** when `ind`
    is not empty (the lexer makes the indentation a text of its own, the sanitizer strips all of it and keeps the component;
    the real parser does the same — correspondence family `ws-link` — and no character of the comment is lost or added). -/
theorem comment_roundtrip_readback (c : DocC) (ind : Str) (hind : ind.all isWsC = true) (hr : Renderable c = true)
    (hne : c.overview.isSome ∨ c.params ≠ [] ∨ c.returns ≠ [] ∨ c.see ≠ []) :
    parseComment (renderComment c ind) = .ok (c.readBack ind) :=
  parseCommentG_render sanitizeMessageLines sanitize_eq_spec c ind hind hr hne

/-- **Round trip (the full statement).** For every renderable, non-empty (`hne`) comment `c` and every whitespace indentation `ind`, the parser
    accepts `renderComment c ind` and returns a comment `c'` such that
    * `c'` and `c` are equal **up to the segmentation of texts**: `c'.merged = c.merged`, where `DocC.merged` applies the
      canonical form `mergeMsg` (adjacent texts concatenated, empty texts dropped) to the overview and to every tag message and
      leaves identifiers, `@see` targets, links and their order alone. `mergeMsg`-equality — not literal equality — is what
      holds in general, because of the empty text in front of a link that starts an indented line (`comment_roundtrip_readback`
      gives `c'` exactly);
    * `c' = c` **literally** when nothing was written in front of a line-initial link: `ind` is empty, or no overview line and
      no continuation line starts with a link (`noLinkLedLine`; links in the middle or at the end of a line, and a link at the
      start of a tag's inline message, are unrestricted). -/
theorem comment_roundtrip (c : DocC) (ind : Str) (hind : ind.all isWsC = true) (hr : Renderable c = true)
    (hne : c.overview.isSome ∨ c.params ≠ [] ∨ c.returns ≠ [] ∨ c.see ≠ []) :
    ∃ c', parseComment (renderComment c ind) = .ok c' ∧ c'.merged = c.merged ∧
      ((ind = [] ∨ noLinkLedLine c = true) → c' = c) :=
  ⟨c.readBack ind, comment_roundtrip_readback c ind hind hr hne, readBack_merged c ind hr, readBack_eq c ind hr⟩

/-- the literal corollary: without an indented line that starts with a link, `parse (render c) = c` -/
theorem comment_roundtrip_literal (c : DocC) (ind : Str) (hind : ind.all isWsC = true) (hr : Renderable c = true)
    (hne : c.overview.isSome ∨ c.params ≠ [] ∨ c.returns ≠ [] ∨ c.see ≠ []) (h : ind = [] ∨ noLinkLedLine c = true) :
    parseComment (renderComment c ind) = .ok c := by
  rw [comment_roundtrip_readback c ind hind hr hne, readBack_eq c ind hr h]

/-- **What the lexer makes of a rendered comment**: no lexer error, and the token stream is, line by line, the one written —
    `renderToks`: per overview / continuation line the indentation joined to the first text (a text of its own in front of a
    link), `{` `link` scoped-identifier tokens `}` per link, one `Newline`; per tag line the keyword, the identifier tokens,
    and either `Newline` or `:` and the inline message. (Per kind of line: `lexOneLine_line`, `lexOneLine_tag`,
    `lexOneLine_see` in Lemmas/CommentRoundtrip.lean.) -/
theorem rendered_tokens (c : DocC) (ind : Str) (hind : ind.all isWsC = true) (hr : Renderable c = true) :
    lexComment (renderComment c ind) = ⟨renderToks c ind, none⟩ := by
  rw [renderComment_eq]
  exact lexComment_written ind hind _ (ovLines_OK c hr).1 _ (blocksOf_OK c hr)

/-- non-vacuity: links at the start, in the middle and at the end of overview lines, an empty line, a line with indentation of
    its own, all three tag kinds, inline messages (one starting with a link, one with `@`) and continuation lines (one starting
    with a link). Written after three spaces and after a mixed-width indentation it reads back as `readBack` says — which is
    not `c` literally (two lines start with a link) but equal to it after `mergeMsg`; written without indentation it reads
    back literally. -/
example :
    let ov : Msg := [.text "See ".toList, .link "A::B".toList, .text " now".toList, nl,
                     .link "::M::S".toList, .text " starts".toList, nl, nl,
                     .text "  ends with ".toList, .link "X".toList, nl]
    let pm : Msg := [.text "the x ".toList, .link "T".toList, nl, .text "cont".toList, nl, .link "U".toList, .text " led".toList, nl]
    let c : DocC :=
      { overview := some ov, params := [("x".toList, pm)],
        returns := [(none, []), (some "r".toList, [nl, .text "later".toList, nl]), (none, [.link "V".toList, nl]),
                    (none, [.text "@x".toList, nl])],
        see := ["::M::S".toList, "K".toList] }
    Renderable c = true ∧ noLinkLedLine c = false ∧
    parseComment (renderComment c (spaces 3)) = .ok (c.readBack (spaces 3)) ∧ c.readBack (spaces 3) ≠ c ∧
    (c.readBack (spaces 3)).merged = c.merged ∧
    parseComment (renderComment c [' ', '　', '\u0085']) = .ok (c.readBack [' ', '　', '\u0085']) ∧
    parseComment (renderComment c []) = .ok c := by decide +kernel

/-- non-vacuity of the literal case: links in the middle and at the end, all three tag kinds, no line-initial link -/
example :
    let c : DocC :=
      { overview := some [.text "See ".toList, .link "A::B".toList, .text " now".toList, nl, nl, .text "  more ".toList, .link "C".toList, nl],
        params := [("x".toList, [.text "the x".toList, nl, .text "cont".toList, nl])],
        returns := [(none, []), (some "r".toList, [nl, .text "later".toList, nl])],
        see := ["::M::S".toList] }
    Renderable c = true ∧ noLinkLedLine c = true ∧ parseComment (renderComment c (spaces 3)) = .ok c ∧
      parseComment (renderComment c [' ', '　', '\u0085']) = .ok c := by decide +kernel

/-- an inline message must not start with `:`: it is written `@param x::y`, which the lexer reads as `@param x` `::` `y` —
    the comment is rejected -/
example :
    let c : DocC := { overview := none, params := [("x".toList, [.text ":y".toList, nl])], returns := [], see := [] }
    Renderable c = false ∧ renderComment c [] = ["@param x::y".toList] ∧
    parseComment (renderComment c []) = .err (.malformed none) := by decide +kernel

/-- an inline message must not start with a blank: it is written `@param x: y`, and `construct_section_message` trims the
    inline message — it reads back as `y` -/
example :
    let c : DocC := { overview := none, params := [("x".toList, [.text " y".toList, nl])], returns := [], see := [] }
    Renderable c = false ∧ renderComment c [] = ["@param x: y".toList] ∧
    parseComment (renderComment c []) = .ok { c with params := [("x".toList, [.text "y".toList, nl])] } := by decide +kernel

/-- the other conditions are necessary too: two adjacent texts come back as one; a text with `{` is split; a line
    whose first non-blank character is `@` starts a block tag; without a flush line the common indentation is not `ind` -/
example :
    parseComment (renderComment { overview := some [.text ['a'], .text ['b'], nl], params := [], returns := [], see := [] } [])
      = .ok { overview := some [.text ['a', 'b'], nl], params := [], returns := [], see := [] } ∧
    parseComment (renderComment { overview := some [.text ['a', '{', 'b'], nl], params := [], returns := [], see := [] } [])
      = .ok { overview := some [.text ['a'], .text ['{', 'b'], nl], params := [], returns := [], see := [] } ∧
    parseComment (renderComment { overview := some [.text ['@', 'a'], nl], params := [], returns := [], see := [] } [])
      = .err (.malformed (some (.unknownTag ['a']))) ∧
    parseComment (renderComment { overview := some [.text [' ', 'a'], nl], params := [], returns := [], see := [] } [])
      = .ok { overview := some [.text ['a'], nl], params := [], returns := [], see := [] } := by decide +kernel

/-- **Round trip, plain lines** (not an instance of `comment_roundtrip_literal`: the texts may contain line-break characters
    here): overview comments made of plain text lines (no links, no tags; empty lines and lines
    with additional indentation of their own allowed, some non-empty line having none), written after *any* indentation
    `ind` made of whitespace characters — ASCII or not, of any mixture of UTF-8 widths: the parser returns exactly the
    comment that was rendered — the written lines minus their common indentation, one `"\n"` text per line. -/
theorem comment_roundtrip_plain (ls : List PLine) (ind : Str) (hind : ind.all isWsC = true) (hne : ls ≠ []) (hwf : ∀ l ∈ ls, l.WF)
    (hzero : ∀ j b, some (j, b) ∈ ls → ∃ b0, some (0, b0) ∈ ls) :
    parseComment (renderComment (plainDoc ls) ind) = .ok (plainDoc ls) := by
  have hlines : ∀ l ∈ ls.map PLine.comps, lineWritable l = true := by
    intro l hl
    obtain ⟨p, hp, rfl⟩ := List.mem_map.mp hl
    exact p.comps_writable (hwf p hp)
  have h := parseCommentG_written sanitizeMessageLines sanitize_eq_spec ind hind _ hlines (zeroIndent_plain ls hwf hzero) []
    (fun _ hb => by cases hb) (Or.inl (by simpa using hne))
  rw [List.flatMap_nil, List.append_nil, ← render_plainDoc ls ind hwf] at h
  rw [parseComment, h, List.foldl_nil, linesBack_plain ind ls hne]
  rfl

/-- non-vacuity: three lines (own indentation 0, 2 and an empty line) written at indentation 4 -/
example : parseComment (renderComment (plainDoc [some (0, "Hello, world".toList), none, some (2, "x: y".toList)]) (spaces 4))
    = .ok (plainDoc [some (0, "Hello, world".toList), none, some (2, "x: y".toList)]) := by decide +kernel

/-- the same written after a tab, U+00A0 and U+3000 (1-, 2- and 3-byte whitespace) -/
example : parseComment (renderComment (plainDoc [some (0, "Hello, world".toList), none, some (2, "x: y".toList)]) ['\t', '\u00A0', '\u3000'])
    = .ok (plainDoc [some (0, "Hello, world".toList), none, some (2, "x: y".toList)]) := by decide +kernel

end Slicec.C16

#print axioms Slicec.C16.sanitize_eq_spec
#print axioms Slicec.C16.strip_index_is_boundary
#print axioms Slicec.C16.sanitize_no_panic
#print axioms Slicec.C16.sanitize_common_indent
#print axioms Slicec.C16.sanitize_common_indent_written
#print axioms Slicec.C16.parse_eq_spec
#print axioms Slicec.C16.attach_total
#print axioms Slicec.C16.tags_in_order
#print axioms Slicec.C16.lexer_error_is_failure
#print axioms Slicec.C16.malformed_is_warning
#print axioms Slicec.C16.link_binding_eq_C03
#print axioms Slicec.C16.link_target_is_search_result
#print axioms Slicec.C16.broken_link_is_warning
#print axioms Slicec.C16.comment_roundtrip_readback
#print axioms Slicec.C16.comment_roundtrip
#print axioms Slicec.C16.comment_roundtrip_literal
#print axioms Slicec.C16.rendered_tokens
#print axioms Slicec.C16.comment_roundtrip_plain
#print axioms Slicec.C16.siblings_preserved
