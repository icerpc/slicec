/-
  C02 — Source-to-AST fidelity: the AST says exactly what the source says.
  The unbounded part of the property is carried by four things: (1) the correspondence compares, for every
  generated program and every token-level layout, the real AST with `astDump` — a direct structural
  function of the abstract program (Model/Elab.lean), so "exactly what was declared, in order, nothing else"
  and "independent of layout" are checked against the program itself, not against a second parser;
  (2) the theorems below settle, for ALL values, the places where the compiler transforms what was written:
  string-literal escaping, enumerator numbering, tag storage, keyword escaping by the printer;
  (3) the LEXICAL half of "the result does not depend on layout" is proved for ALL files and ALL layouts
  (`layout_independence` and the theorems leading to it for every text the printer's `render` produces; `SLex.lex_lays`,
  Lemmas/SliceLexerLayout.lean, for every text that is a layout of the items at all) over `Model/SliceLexer.lean`, a character-level model of
  parsers/slice/lexer.rs that is itself tied to the real lexer by the correspondence stream `C02lex` (engine `slicelex`):
  whitespace, line breaks, `//` and `/* */` comments, optional commas and backslash-escaped identifiers never change the
  token sequence the parser receives (optional commas — layout in the printer model — show up as extra `Comma` tokens
  exactly where they were written, nothing else);
  (4) the GRAMMAR half: `Model/SliceParser.lean` is an executable recursive-descent model of
  parsers/slice/grammar.lalrpop and of the actions of grammar.rs (one function per nonterminal; its production list is proved
  equal to the list extracted from grammar.lalrpop: `grammar_table_matches`; tied to the real LALRPOP parser by the
  correspondence stream `C02parse`: accept / reject (E002) and the AST, on rendered programs, token soups in valid
  contexts and single-token mutations), its fuel is never exhausted (`parser_fuel_never_exhausted`), and it inverts the
  printer: `parse_print` (the token sequence of every well-formed file, with optional commas written anywhere the layout
  may write them, parses back to exactly that file) and, composed with `layout_independence`, `parse_print_full`: for ALL
  files, ALL layouts and ALL seeds, lexing and parsing the rendered text gives back the abstract file.
-/
import SlicecVerif.Model.Literals
import SlicecVerif.Model.Elab
import SlicecVerif.Gen.Keywords
import SlicecVerif.Lemmas.SliceLexerLayout
import SlicecVerif.Lemmas.SliceLexerItems
import SlicecVerif.Lemmas.SliceLexerNames
import SlicecVerif.Lemmas.SliceParserItems
import SlicecVerif.Lemmas.SliceParserDefs
import SlicecVerif.Lemmas.SliceParserFuel
import SlicecVerif.Lemmas.SliceParserLeaves
import SlicecVerif.Gen.SliceGrammar

namespace Slicec.C02

open Slicec

/-- un-escaping inverts the printer's escaping for every argument string (quotes and backslashes incl.). -/
theorem unescape_escape (s : List Char) : unescapeLit (escapeChars s) false = s := by
  rw [← SPar.escArg_eq_escapeChars]
  exact SPar.unescape_escArg s

/-- `scanString` (Model/Literals.lean, the scanning of `read_string_literal` on its own; `lexSlice` runs `readString`,
    for which the same is `SLex.readString_escL`) returns exactly the escaped text the printer wrote, and stops at the
    closing quote, for every argument string without a line break (which the syntax cannot express). -/
theorem scan_escape (s rest : List Char) (h : '\n' ∉ s) :
    scanString (escapeChars s ++ '"' :: rest) = some (escapeChars s, rest) := by
  induction s with
  | nil => simp [escapeChars, scanString]
  | cons c cs ih =>
    rw [escapeChars, List.append_assoc]
    exact SPar.scan_escChar c (fun e => h (by simp [e])) _ _ _ (ih fun e => h (by simp [e]))

/-- composition: what `scanString` and un-escaping make of the attribute argument `"…"` is the string that was written. -/
theorem string_argument_roundtrip (s rest : List Char) (h : '\n' ∉ s) :
    (scanString (escapeChars s ++ '"' :: rest)).map (fun p => (unescapeLit p.1 false, p.2)) = some (s, rest) := by
  rw [scan_escape s rest h]; simp [unescape_escape]

/-- enumerator numbering: a written literal is taken as is; otherwise the value is the previous value + 1
    (wrapping in i128), starting from 0. -/
theorem enumerator_values (es : List Enumerator) (prev : Option Int) :
    (enumValues prev es).length = es.length ∧
    ∀ i (h : i < es.length), ∀ v, (enumValues prev es)[i]? = some v →
      (∀ l, es[i].value = some l → v = l.value) ∧
      (es[i].value = none →
        v = match (if i = 0 then prev else (enumValues prev es)[i - 1]?) with
            | some p => wrapI128 p
            | none => 0) := by
  induction es generalizing prev with
  | nil => simp [enumValues]
  | cons e es ih =>
    simp only [enumValues, List.length_cons]
    refine ⟨by simp [(ih _).1], ?_⟩
    intro i hi v hv
    cases i with
    | zero =>
      simp only [List.getElem?_cons_zero, Option.some.injEq] at hv
      subst hv
      constructor
      · intro l (hl : e.value = some l)
        simp [hl]
      · intro (hn : e.value = none)
        simp only [hn]
        cases prev <;> rfl
    | succ i =>
      simp only [List.getElem?_cons_succ] at hv
      have := (ih _).2 i (by simpa using hi) v hv
      simp only [List.getElem_cons_succ]
      refine ⟨this.1, fun hn => ?_⟩
      have h2 := this.2 hn
      cases i <;> simpa using h2

/-- a tag inside the legal range is stored unchanged by the `as u32` cast. -/
theorem tag_stored (l : IntLit) (h0 : 0 ≤ l.value) (h1 : l.value < 2 ^ 31) :
    tagS (some l) = toString l.value.toNat := by
  have : l.value % 2 ^ 32 = l.value := Int.emod_eq_of_lt h0 (by omega)
  simp only [tagS, this]

/-- the printer escapes every word the compiler's lexer treats as a keyword (table extracted from
    `check_if_keyword` on every run), so a generated identifier can never be read as a keyword. -/
theorem printer_escapes_every_keyword : ∀ k ∈ Gen.sliceKeywords, keywords.contains k.1 = true :=
  SLex.keyword_table_subset

/-! ## the lexical half of layout independence (model: Model/SliceLexer.lean, tied to lexer.rs by stream `C02lex`) -/

open Slicec.SLex

/-- **Separation lemma (general form): reading is local.** For every text `s`, every continuation `r` and either
    attribute mode: if the way `s` ends cannot be affected by how `r` starts (`compat`: after a word no word character,
    after a single `[` no `[`, after `]` no `]`, after `:` no `:`, after `-` no `>`, after an open `//` comment only a
    line break, after whitespace / a closed comment / any self-delimiting token anything), then the lexer's output on
    `s ++ r` is its output on `s` followed by its output on `r` started in the attribute mode reached at the end of `s`.
    Two adjacent spellings never merge into one token or split differently unless `compat` says so. -/
theorem lex_is_local (a : Bool) (s r : List Char) (h : compat (lexRun a s).last r = true) :
    (lexRun a (s ++ r)).items = (lexRun a s).items ++ (lexRun (lexRun a s).attr r).items ∧
    (lexRun a (s ++ r)).attr = (lexRun (lexRun a s).attr r).attr := by
  rw [lexRun_append a s r h]; exact ⟨rfl, rfl⟩

/-- every separator of the printer's catalogue (blanks, tabs, LF, CR LF, `//` comments running over lone carriage
    returns up to the line break, `/* */` comments with line breaks, stars, slashes and non-ASCII text inside) reads as
    no token at all, leaves `attribute_mode` alone, is not empty, and may follow anything but an open line comment (or an
    error). -/
theorem gaps_read_as_nothing : ∀ g ∈ gapCatalogue,
    (∀ a, lexRun a g.toList = ⟨[], a, .closed⟩) ∧ gapHeadOk g.toList = true ∧ g.toList ≠ [] := gapCatalogue_ok

/-- any run of Unicode `White_Space` characters reads as nothing. -/
theorem whitespace_reads_as_nothing (a : Bool) (g : List Char) (h : g.all isWs = true) :
    lexRun a g = ⟨[], a, .closed⟩ := lexRun_ws a g h

/-- beyond the catalogue: a `//` comment with ANY body (no line break in it; not starting with a third slash, which
    would make it a doc comment) followed by its line break reads as nothing — a carriage return does not end it. -/
theorem line_comment_reads_as_nothing (a : Bool) (t : List Char) (h1 : t.all (· != '\n') = true)
    (h2 : t.head? ≠ some '/') : lexRun a ('/' :: '/' :: (t ++ ['\n'])) = ⟨[], a, .closed⟩ :=
  lexRun_lineComment_nl a t h1 h2

/-- a `/* */` comment with ANY body that does not contain `*/` (line breaks, `/*`, `//`, stars, quotes included)
    reads as nothing: block comments do not nest and hide everything up to the first `*/`. -/
theorem block_comment_reads_as_nothing (a : Bool) (body : List Char) (h : noClose body = true) :
    lexRun a ('/' :: '*' :: (body ++ ['*', '/'])) = ⟨[], a, .closed⟩ := lexRun_blockComment a body h

/-- a backslash-escaped identifier is the same `Identifier` token as the plain spelling — for every identifier text,
    in and outside attributes — and the plain spelling is that token too unless the word is in the keyword table
    (outside attributes); inside attributes the keyword table is not consulted at all. -/
theorem escaped_identifier_same_token (a : Bool) (w : List Char) (h : isIdentText w = true) :
    (lexRun a ('\\' :: w)).items = [.tok (.ident w)] ∧
    (lexRun true w).items = [.tok (.ident w)] ∧
    (Gen.sliceKeywords.lookup (String.ofList w) = none → (lexRun a w).items = [.tok (.ident w)]) := by
  refine ⟨by rw [lexRun_escaped a w h], by rw [lexRun_word true w h]; rfl, fun hk => ?_⟩
  rw [lexRun_word a w h]
  cases a
  · simp [checkKeyword, hk]
  · rfl

/-- the extracted keyword table, row by row: the plain spelling is the keyword token outside attributes, an
    identifier inside `[…]` / `[[…]]`, and an identifier when escaped. -/
theorem keyword_rows : ∀ p ∈ Gen.sliceKeywords,
    lexSlice p.1.toList = .ok [.kw p.2] ∧ (lexRun true p.1.toList).items = [.tok (.ident p.1.toList)] ∧
    lexSlice ('\\' :: p.1.toList) = .ok [.ident p.1.toList] := by
  intro p hp
  have hw := (SLex.keyword_table_rows p hp).1
  exact ⟨by rw [lexSlice, SLex.lexRun_keyword hp]; rfl, by rw [lexRun_word true _ hw]; rfl,
    by rw [lexSlice, lexRun_escaped false _ hw]; rfl⟩

/-- `attribute_mode` is set by `[` and `[[`, cleared by `]` and `]]`, and by nothing else: separators, line breaks and
    comments between the bracket, the directive and the arguments leave it alone (see `gaps_read_as_nothing`), and so
    does every other token. -/
theorem attribute_mode_brackets_only (a : Bool) (c : Char) (cs : List Char) :
    (lexNext a c cs).attr = (if c = '[' then true else if c = ']' then false else a) := by
  by_cases h1 : c = '['
  · subst h1; exact lexPair_attr _ _ _ _ _
  · by_cases h2 : c = ']'
    · subst h2; exact lexPair_attr _ _ _ _ _
    · rw [if_neg h1, if_neg h2]
      fun_cases lexNext a c cs <;> rename_i hc
      case case2 => exact absurd (eq_of_beq hc) h1
      case case3 => exact absurd (eq_of_beq hc) h2
      case case4 | case5 => exact lexPair_attr _ _ _ _ _
      case case6 => exact lexString_attr a cs
      case case7 => exact lexSlash_attr a cs
      case case8 => exact lexBackslash_attr a cs
      all_goals rfl

/-- **The printer respects the separation rule.** For every file whose leaves are well-formed (`fileOk`: names are
    identifiers, attribute directives and scoped names print as identifier/`::` sequences, string arguments and doc
    lines contain no line break, integer literals are in base 2/10/16 — nothing about the *shape* of the file), the item
    list passes the separation check `itemsOk`: wherever a layout may write two spellings without a separator (`glue`
    gaps, absent optional commas) they cannot merge; every spelling lexes cleanly on its own; a doc line is followed
    by nothing or by a separator (which every layout starts with the line break that ends the doc comment there:
    `SLex.GapText`), never directly by a spelling that does not begin with a line break. No pair of adjacent items of
    `fileItems` is glued wrongly by the compact layout. -/
theorem printer_respects_separation (f : SFile) (h : fileOk f = true) : itemsOk (fileItems f) = true :=
  itemsOk_fileItems f h

/-- a syntactic criterion for the name condition of `fileOk`: a scoped name whose `::`-separated segments (as the
    printer splits them) are identifiers `[A-Za-z][A-Za-z0-9_]*` — the first may be empty: global scope — prints, with
    the printer's escaping of keyword segments, as text that reads as identifiers separated by `::`. -/
theorem names_with_identifier_segments (id : String) (h : nameSegsOk (id.splitOn "::") = true) :
    nameTextOk false (escapeScoped id).toList = true := nameTextOk_of_segments id h

/-- the same for attribute directives `a::b::c`: any identifiers will do, keyword spellings included, because the
    keyword table is off in attribute mode. -/
theorem directives_with_identifier_segments (segs : List String) (hne : segs ≠ [])
    (h : ∀ s ∈ segs, isIdentText s.toList = true) : nameTextOk true ("::".intercalate segs).toList = true :=
  nameTextOk_directive segs hne h

/-- **Layout independence for item lists.** For every item list that passes the separation check, every layout and
    every seed: the rendered text lexes without error to the tokens the items denote, with a `Comma` token exactly at
    the optional commas the layout chose to write (`cs`), none in the canonical layout. -/
theorem layout_independence_items (layout seed : Nat) (items : List Item) (h : itemsOk items = true) :
    ∃ cs : List Bool, (layout = 0 → cs = []) ∧
      lexSlice (render layout seed items).1.toList = .ok (tokensWith false cs items) :=
  lex_render layout seed items h

/-- **Layout independence (lexical half of C02), for ALL files and ALL layouts.** For every well-formed file, every
    layout style and every seed of the layout generator (in every gap the canonical blanks or a separator of
    `gapCatalogue`: blanks, tabs, LF / CR LF, `//` and `/* */` comments; optional commas written or not, identifiers
    written with or without a backslash), the real lexer's model reads the rendered text without error as
    `tokensOf (fileItems f)` — a function of the abstract file alone — plus `Comma` tokens exactly where an optional comma
    was written. This is the instance for `render` of `SLex.lex_lays` (Lemmas/SliceLexerLayout.lean), which says the same of
    EVERY text that is a layout of the items (`SLex.Lays`): in every gap any text that reads as nothing in both attribute
    modes and starts with nothing that could extend the token before it (`SLex.GapOk`: arbitrary white space and comments,
    see `whitespace_reads_as_nothing`, `line_comment_reads_as_nothing`, `block_comment_reads_as_nothing`), any choice of
    optional commas and of backslashes that leaves no keyword of the lexer's table bare. -/
theorem layout_independence (f : SFile) (hf : fileOk f = true) (layout seed : Nat) :
    ∃ cs : List Bool, (layout = 0 → cs = []) ∧
      lexSlice (render layout seed (fileItems f)).1.toList = .ok (tokensWith false cs (fileItems f)) ∧
      CommaExt (tokensOf (fileItems f)) (tokensWith false cs (fileItems f)) := by
  obtain ⟨cs, hcs, hlex⟩ := lex_render layout seed (fileItems f) (itemsOk_fileItems f hf)
  exact ⟨cs, hcs, hlex, commaExt_tokensWith _ _ _⟩

/-- the canonical text of a file lexes to exactly `tokensOf`. -/
theorem canonical_tokens (f : SFile) (hf : fileOk f = true) :
    lexSlice (printFile f).toList = .ok (tokensOf (fileItems f)) := by
  obtain ⟨cs, hcs, hlex⟩ := lex_render 0 0 (fileItems f) (itemsOk_fileItems f hf)
  rwa [hcs rfl] at hlex

/-- any two layouts of one file give token sequences that agree once all `Comma` tokens (optional and mandatory) are
    dropped; that the optional ones are the only difference is the `CommaExt` conjunct of `layout_independence`. -/
theorem two_layouts_same_tokens (f : SFile) (hf : fileOk f = true) (l1 s1 l2 s2 : Nat) :
    ∃ t1 t2, lexSlice (render l1 s1 (fileItems f)).1.toList = .ok t1 ∧
      lexSlice (render l2 s2 (fileItems f)).1.toList = .ok t2 ∧ dropCommas t1 = dropCommas t2 := by
  obtain ⟨c1, _, h1, e1⟩ := layout_independence f hf l1 s1
  obtain ⟨c2, _, h2, e2⟩ := layout_independence f hf l2 s2
  exact ⟨_, _, h1, h2, by rw [dropCommas_of_commaExt e1, dropCommas_of_commaExt e2]⟩

/-! ## the grammar half (model: Model/SliceParser.lean, tied to the LALRPOP parser by stream `C02parse`) -/

open Slicec.SPar

/-- **The production list kept beside the parser model is that of grammar.lalrpop.** `productions` (Model/SliceParser.lean:
    a literal list, one entry per nonterminal, naming the function written for it; no parser function refers to it, so
    this is a tripwire for changes of the grammar, not a statement about what the functions accept) equals the list
    the translator extracts from grammar.lalrpop on every run — nonterminals in source order, every alternative with its
    symbols (bindings and location markers removed, `?` `*` `+`, groups and macro applications kept) and the helper its
    action calls; the token kinds the model distinguishes are the declared terminals, and every keyword kind the lexer
    can produce is one of them.  A production that is added, removed, reordered or re-shaped re-opens this proof. -/
theorem grammar_table_matches :
    productions = Gen.sliceGrammar ∧ tokenKinds = Gen.sliceTerminals.map (·.2) ∧
    ∀ k ∈ Gen.sliceKeywords, k.2 ∈ tokenKinds := ⟨rfl, rfl, by decide +kernel⟩

/-- **The fuel of the parser model is never exhausted.** The lists parsed with `many` (`X*`, `UndelimitedList`, the
    `NonEmptyCommaList` of bases) and nested type references recurse on a counter; every list element and every type reference consumes at least one token, so
    for every token list any counter above its length gives the same result as the `length + 1` the entry points supply:
    no input is rejected (or accepted differently) because a counter ran out. -/
theorem parser_fuel_never_exhausted (n : Nat) (ts : Toks) (hn : ts.length < n) :
    manyF localAttrStep n ts = many localAttrStep ts ∧ manyF fileAttrStep n ts = many fileAttrStep ts ∧
    manyF preludeStep n ts = many preludeStep ts ∧ manyF fieldStep n ts = many fieldStep ts ∧
    manyF paramStep n ts = many paramStep ts ∧ manyF opStep n ts = many opStep ts ∧
    manyF enumeratorStep n ts = many enumeratorStep ts ∧ manyF baseStep n ts = many baseStep ts ∧
    manyF defStep n ts = many defStep ts ∧ parseTypeRefF n ts = parseTypeRef ts :=
  ⟨many_fuel _ localAttrStep_shrinks n ts hn, many_fuel _ fileAttrStep_shrinks n ts hn,
   many_fuel _ preludeStep_shrinks n ts hn, many_fuel _ fieldStep_shrinks n ts hn,
   many_fuel _ paramStep_shrinks n ts hn, many_fuel _ opStep_shrinks n ts hn,
   many_fuel _ enumeratorStep_shrinks n ts hn, many_fuel _ baseStep_shrinks n ts hn,
   many_fuel _ defStep_shrinks n ts hn, parseTypeRef_fuel n ts hn⟩

/-- what the parsers of a type reference and of an attribute and the steps of the five lists of members and definitions
    leave is shorter than what they were given, what `parsePrelude` leaves no longer: eight of the facts behind
    `parser_fuel_never_exhausted` (Lemmas/SliceParserFuel.lean has one for every parser function that `parseFileRaw` reaches). -/
theorem parsers_consume : Shrinks parseTypeRef ∧ Shrinks parseAttribute ∧ ShrinksLe parsePrelude ∧
    StepShrinks fieldStep ∧ StepShrinks paramStep ∧ StepShrinks opStep ∧ StepShrinks enumeratorStep ∧ StepShrinks defStep :=
  ⟨parseTypeRef_lt, parseAttribute_lt, parsePrelude_le, fieldStep_shrinks, paramStep_shrinks, opStep_shrinks,
   enumeratorStep_shrinks, defStep_shrinks⟩

/-- **What the printer writes.** For every file that meets the leaf conditions `fileOk` and the read-back conditions
    `fileRT` (of which the proof reads those on doc lines only) and every choice of the optional commas, the token
    sequence the items denote has the file's *shape* (`FileSh`, Lemmas/SliceParserShapes.lean): file attributes, module
    declaration, definitions — each element its doc lines, attributes, keywords, name, members in order, with an optional
    comma exactly where the printer has one to choose (after the members of `{…}` blocks, between parameters / tuple
    elements / enumerator fields: the `","?` of `UndelimitedList`; not the one that may end a list of base types or of
    attribute arguments), nothing else. -/
theorem printed_tokens_have_shape (f : SFile) (hf : fileOk f = true) (hrt : fileRT f = true) (cs : List Bool) :
    FileSh f (tokensWith false cs (fileItems f)) := by
  simp only [fileOk, Bool.and_eq_true] at hf
  obtain ⟨⟨hfa, hmod⟩, hdefs⟩ := hf
  simp only [fileRT, Bool.and_eq_true] at hrt
  obtain ⟨_, h2defs⟩ := hrt
  rw [List.all_eq_true] at hfa hdefs h2defs
  have hfaE : EmitsL false (f.fileAttrs.zipIdx.flatMap fun (a, i) =>
      [Item.tok "[[", .glue] ++ attrItems ("fa" ++ toString i) a ++ [.glue, .tok "]]", .nl 0]) (fileAttrsToks f.fileAttrs) false := by
    refine emitsL_flatMap_zipIdx _ _ false f.fileAttrs 0 ?_
    intro a ha i _ cs' R'
    simp only [tokens_with, (emits_attr _ a (hfa a ha)).tw]
  obtain ⟨Td, cs1, hTd, e1⟩ := emitsR_flatMap_zipIdx (fun (d, i) => [Item.nl 0] ++ defItems ("d" ++ toString i) d ++ [.nl 0]) DefSh f.defs 0
    (fun d hd i cs' => by
      obtain ⟨T, cs2, hT, e⟩ := emits_def ("d" ++ toString i) d (hdefs d hd) (h2defs d hd) cs'
      exact ⟨T, cs2, hT, fun R' => by simp only [tokens_with, e]⟩) cs
  refine ⟨Td, hTd, ?_⟩
  have e1 := e1 []
  rw [List.append_nil] at e1
  rw [fileItems_eq, List.append_assoc, hfaE.tw, (emits_module f.module hmod).tw, e1]
  cases cs1 <;> simp [tokensWith]

/-- **The parser inverts the shape.** Every token sequence of the shape of a file (whatever optional commas
    it contains) is accepted by the parser model, no action reports a syntax error, and the result is exactly that
    file: every declared element, in order, with its modifiers, tags, types, attributes, doc lines — nothing else. -/
theorem parser_inverts_shape (f : SFile) (hrt : fileRT f = true) (T : Toks) (hT : FileSh f T) : parseFile T = some f := by
  simp only [parseFile, parseFileRaw_shape f hrt T hT]

/-- **parse ∘ print = id on tokens, with optional commas.** For every file `f` of the abstract syntax whose leaves are
    well-formed (`fileOk`: the hypothesis of `layout_independence`) and read back as themselves (`fileRT`) and for EVERY
    choice list `cs` of the optional commas: the parser model, applied to the token sequence of `f` with those commas
    written, returns `f`. `fileRT` is decidable: scoped names, module paths and directives as printed are one
    `RelativeIdentifier` / `GlobalIdentifier` whose `::`-join is the name; integer literals are the digits of their value
    in their base, `underscores` says whether any were written; doc lines do not start with a fourth `/` and do not end
    in CR. The examples below show that the conditions on doc lines, integers and directives are necessary (none for
    names: `String.splitOn` does not evaluate in the kernel); the `C02parse` driver evaluates `fileRT` on every generated
    file. -/
theorem parse_print (f : SFile) (hf : fileOk f = true) (hrt : fileRT f = true) (cs : List Bool) :
    parseFile (tokensWith false cs (fileItems f)) = some f :=
  parser_inverts_shape f hrt _ (printed_tokens_have_shape f hf hrt cs)

/-- the canonical token sequence (no optional comma written) parses back to the file. -/
theorem parse_print_canonical (f : SFile) (hf : fileOk f = true) (hrt : fileRT f = true) :
    parseFile (tokensOf (fileItems f)) = some f := parse_print f hf hrt []

/-- **Source-to-AST fidelity, end to end on the models, for ALL files, ALL layouts, ALL seeds.** Lexing (model of
    lexer.rs) and parsing (model of grammar.lalrpop + grammar.rs) the text that `render` writes for `f` — in the canonical
    layout or any pseudo-random one: arbitrary whitespace, LF / CR LF, tabs, `//` and `/* */` comments in every gap,
    optional commas written or not, identifiers written with or without a backslash — gives back exactly `f`.
    (`layout_independence` ∘ `parse_print`.) -/
theorem parse_print_full (f : SFile) (hf : fileOk f = true) (hrt : fileRT f = true) (layout seed : Nat) :
    parseText (render layout seed (fileItems f)).1.toList = some f := by
  obtain ⟨cs, _, hlex, _⟩ := layout_independence f hf layout seed
  simp only [parseText, hlex, parse_print f hf hrt cs]

/-- any two layouts of a file denote the same file, hence the same AST dump. -/
theorem layouts_same_file (f : SFile) (hf : fileOk f = true) (hrt : fileRT f = true) (l1 s1 l2 s2 : Nat) :
    parseText (render l1 s1 (fileItems f)).1.toList = parseText (render l2 s2 (fileItems f)).1.toList := by
  rw [parse_print_full f hf hrt l1 s1, parse_print_full f hf hrt l2 s2]

/-- **The token sequence determines the file** (the model-level form of "the AST says exactly what the source says"):
    two well-formed files whose token sequences agree — under any choices of the optional commas — are the same file,
    and so have the same AST dump. -/
theorem tokens_determine_file (f g : SFile) (hf : fileOk f = true) (hg : fileOk g = true) (hrf : fileRT f = true)
    (hrg : fileRT g = true) (cs cs' : List Bool)
    (h : tokensWith false cs (fileItems f) = tokensWith false cs' (fileItems g)) : f = g ∧ astDump [f] = astDump [g] := by
  have e := parse_print f hf hrf cs
  rw [h, parse_print g hg hrg cs'] at e
  cases e
  exact ⟨rfl, rfl⟩

/-- syntactic criterion for the integer condition of `fileRT`: a literal in base 2, 10 or 16 whose value fits the 200 digits
    the printer writes and whose `underscores` flag is set only where an underscore is actually written (three digits or
    more) reads back as itself: `try_parse_integer` (underscores removed, base from the prefix, `from_str_radix`) returns
    the value, the base and the flag. -/
theorem integer_literals_read_back (l : IntLit) (h : intCanon l = true) : intRT l = true := by
  simp only [intCanon, Bool.and_eq_true, Bool.or_eq_true, Bool.not_eq_true', decide_eq_true_eq] at h
  obtain ⟨⟨hok, hmag⟩, hus⟩ := h
  have hb := hok
  simp only [intLitOk, Bool.or_eq_true, beq_iff_eq] at hb
  have hb2 : 2 ≤ l.base := by rcases hb with (h | h) | h <;> omega
  have hb16 : l.base ≤ 16 := by rcases hb with (h | h) | h <;> omega
  obtain ⟨hf, hc⟩ := digits_written l.base l.mag l.underscores hb2 hb16 hus
  obtain ⟨hpre, hbase, hmagOf⟩ := prefixed_arm l.base hb _ (natDigits_ne_nil l.base 199 l.mag)
    (fun e => by rw [e]; exact dec_head l.mag)
  have hval := fromDigits_natDigits l.base hb2 hb16 200 l.mag hmag
  simp only [intRT, beq_iff_eq]
  rw [intOfText_eq, magText_toList l hok, (prefix_no_us _ _ hpre).1, (prefix_no_us _ _ hpre).2]
  simp only [digitsOf] at hf hc ⊢
  rw [hf, hc, hbase, hmagOf, hval]
  rfl

/-- syntactic criterion for the directive condition of `fileRT`: identifiers joined by `::` — keyword spellings included —
    read back, inside `[ ]`, as the `RelativeIdentifier` whose `::`-join is the directive. -/
theorem directives_read_back (segs : List String) (hne : segs ≠ []) (h : ∀ s ∈ segs, isIdentText s.toList = true) :
    dirRT ("::".intercalate segs) = true := by
  have e := toList_dcolon
  have hex := lexRun_joined_exact true String.toList String.toList segs hne fun s hs => by
    rw [lexRun_word true _ (h s hs)]
    rfl
  obtain ⟨s, rest, rfl⟩ := List.exists_cons_of_ne_nil hne
  simp only [dirRT, dirToks, beq_iff_eq, String.toList_intercalate, e]
  rw [hex, List.map_cons, relOf_joined, ← List.map_cons, joinScoped_toList]

/-- syntactic criterion for the name conditions of `fileRT`, up to one fact about `String.splitOn` that core does not
    provide (joining the segments gives the string back — stated as a hypothesis): a scoped name whose `::`-separated
    segments are identifiers (the first may be empty: global scope; keywords are escaped by the printer) reads back as
    itself, as a type name and — without empty segment — as a module path. -/
theorem names_read_back (id : String) (h : nameSegsOk (id.splitOn "::") = true)
    (hjoin : "::".intercalate (id.splitOn "::") = id) :
    nameRT id = true ∧ ((id.splitOn "::").all (fun s => isIdentText s.toList) = true → pathRT id = true) := by
  have htoks : nameToks id = toksOf (lexRun false ([':', ':'].intercalate ((id.splitOn "::").map escSeg))).items := by
    rw [nameToks, escapeScoped_toList]
  generalize id.splitOn "::" = segs at h hjoin htoks
  have hj : joinScoped (segs.map String.toList) = id := (joinScoped_toList segs).trans hjoin
  obtain ⟨ss, hne, hall, e⟩ := nameSegsOk_cases segs h
  have hread := lexRun_joined_exact false escSeg String.toList ss hne fun s hs => escSeg_run s (hall s hs)
  obtain ⟨s, rest, rfl⟩ := List.exists_cons_of_ne_nil hne
  rcases e with rfl | rfl
  · rw [hread] at htoks
    simp only [List.map_cons] at htoks hj
    simp only [nameRT, pathRT, htoks, scopedOf_joined, relOf_joined, hj, beq_self_eq_true, and_self, implies_true]
  · rw [escSeg_global _ hne, lexRun_dcolon, toksOf_cons_tok, hread] at htoks
    simp only [List.map_cons] at htoks hj
    refine ⟨?_, fun hall' => ?_⟩
    · rw [nameRT, htoks, scopedOf_global]
      exact beq_iff_eq.mpr (congrArg some hj)
    · simp only [List.all_cons, Bool.and_eq_true] at hall'
      exact absurd hall'.1 (by decide)

/-- a file the parser accepts is reported as a syntax error all the same when it has definitions but no module
    declaration (`parse_file`, after the parser): the condition under which a printed file is free of E002. -/
theorem printed_file_syntax_verdict (f : SFile) (hf : fileOk f = true) (hrt : fileRT f = true) (layout seed : Nat) :
    syntaxError (render layout seed (fileItems f)).1.toList = moduleRequired f := by
  obtain ⟨cs, _, hlex, _⟩ := layout_independence f hf layout seed
  simp only [syntaxError, hlex, parse_print f hf hrt cs]

/-! ## test vectors; the hypotheses can be met, and where they fail so does the conclusion -/
example : unescapeLit "a\\\"b\\\\c".toList false = "a\"b\\c".toList := by decide +kernel
example : enumValues none [⟨[], [], "A", none, none⟩, ⟨[], [], "B", none, some ⟨true, 16, 5, false⟩⟩, ⟨[], [], "C", none, none⟩] = [0, -5, -4] := by decide +kernel

/-- a file with attribute arguments, a doc line, a keyword as name, a tag, a nested optional type and enumerator values
    (no module, no named type) satisfies the hypothesis of `layout_independence` -/
def exFile : SFile := ⟨[⟨"cs::attr", ["a b", "x"]⟩], none,
  [.struct [" doc"] [⟨"deprecated", []⟩] true "struct"
     [⟨[], [], some ⟨true, 16, 255, true⟩, "x", .mk [] (.seq (.mk [] (.prim .string) true)) false⟩],
   .enum [] [] false true "E" none [⟨[], [], "A", none, some ⟨false, 10, 7, false⟩⟩, ⟨[], [], "B", none, none⟩]]⟩
example : fileOk exFile = true := by decide +kernel
example : tokensOf [.tok "module", .sp, .tok "M", .nl 0, .tok "[", .glue, .tok "custom", .glue, .tok "]", .nl 0,
      .tok "custom", .sp, .ident "struct", .glue, .optComma] =
    [.kw "ModuleKeyword", .ident ['M'], .lbracket, .ident "custom".toList, .rbracket, .kw "CustomKeyword",
     .ident "struct".toList] := by decide +kernel
/-- where `compat` fails the spellings do merge: the separation rule is not vacuous -/
example : lexSlice ("a".toList ++ "b".toList) = .ok [.ident ['a', 'b']] := by decide +kernel
example : lexSlice ("[".toList ++ "[".toList) = .ok [.dlbracket] := by decide +kernel
example : lexSlice (":".toList ++ ":".toList) = .ok [.dcolon] := by decide +kernel
example : lexSlice ("-".toList ++ ">".toList) = .ok [.arrow] := by decide +kernel
example : lexSlice ("1".toList ++ "x".toList) = .ok [.intLit ['1', 'x']] := by decide +kernel
example : lexSlice ("///d".toList ++ "x".toList) = .ok [.doc ['d', 'x']] := by decide +kernel
example : lexSlice "// a\r x: bool\ny".toList = .ok [.ident ['y']] := by decide +kernel
/-- with CR LF line ends the CR is not part of a doc line (`strip_suffix('\r')`, lexer.rs); a CR in the middle of the line stays -/
example : lexSlice "/// d\r\nx".toList = .ok [.doc [' ', 'd'], .ident ['x']] := by decide +kernel
example : lexSlice "/// d\re\r\nx".toList = .ok [.doc [' ', 'd', '\r', 'e'], .ident ['x']] := by decide +kernel
example : (lexRun false "[a\n// ]\n struct]struct".toList).items =
    [.tok .lbracket, .tok (.ident ['a']), .tok (.ident "struct".toList), .tok .rbracket, .tok (.kw "StructKeyword")] := by decide +kernel

/-! ### the parser half: non-vacuity and necessity of the side conditions -/

/-- two definitions and an interface: file attribute with a quoted and a bare argument, doc comments, a compact struct with a
    tagged optional field carrying attributes (also on the nested type), an unchecked enum with an underlying type,
    explicit (negative, hexadecimal) and implicit values and an enumerator with fields, an idempotent operation with a
    tagged streamed parameter and a tuple return, an operation returning a tagged streamed optional -/
def exFile2 : SFile := ⟨[⟨"cs::attr", ["a b", "x"]⟩], none,
  [.struct [" doc"] [⟨"deprecated", []⟩] true "S"
     [⟨[], [⟨"a", ["b"]⟩], some ⟨false, 10, 3, false⟩, "x", .mk [] (.seq (.mk [⟨"t", []⟩] (.prim .string) true)) true⟩,
      ⟨[" f"], [], none, "y", .mk [] (.dict (.mk [] (.prim .int32) false) (.mk [] (.prim .bool) false)) false⟩],
   .enum [] [] false true "E" (some (.mk [] (.prim .uint8) false))
     [⟨[], [], "A", none, some ⟨true, 16, 255, false⟩⟩,
      ⟨[" d"], [], "B", some [⟨[], [], none, "v", .mk [] (.prim .bool) false⟩], none⟩, ⟨[], [], "C", none, none⟩],
   .iface [] [] "I" []
     [⟨[" op"], [⟨"oneway", []⟩], true, "op",
        [⟨[], none, "a", false, .mk [] (.prim .int32) false⟩, ⟨[], some ⟨false, 10, 1, false⟩, "b", true, .mk [] (.prim .uint8) true⟩],
        .tuple [⟨[], none, "r", false, .mk [] (.prim .bool) false⟩, ⟨[], none, "s", false, .mk [] (.prim .string) false⟩]⟩,
      ⟨[], [], false, "op2", [], .single (some ⟨false, 16, 1000, true⟩) true (.mk [] (.prim .string) true)⟩]]⟩
private theorem exFile2_ok : fileOk exFile2 = true := by decide +kernel
private theorem exFile2_rt : fileRT exFile2 = true := by decide +kernel
example : fileOk exFile2 = true := exFile2_ok
example : fileRT exFile2 = true := exFile2_rt
/-- the hypotheses of `parse_print` hold for it, so the theorem applies: with every optional comma written, with none -/
example : parseFile (tokensWith false (List.replicate 20 true) (fileItems exFile2)) = some exFile2 :=
  parse_print exFile2 exFile2_ok exFile2_rt _
example : parseFile (tokensOf (fileItems exFile2)) = some exFile2 := parse_print_canonical exFile2 exFile2_ok exFile2_rt
example (layout seed : Nat) : parseText (render layout seed (fileItems exFile2)).1.toList = some exFile2 :=
  parse_print_full exFile2 exFile2_ok exFile2_rt layout seed
set_option maxRecDepth 8000 in
/-- the commas really are there: seven optional commas (2 fields, 3 enumerators, between the 2 parameters, between the 2
    return elements) make the sequence seven tokens longer -/
example : (tokensWith false (List.replicate 20 true) (fileItems exFile2)).length = (tokensOf (fileItems exFile2)).length + 7 := by decide +kernel
/-- the parser is not the constant function: a token sequence that is not a file is rejected, one with definitions but no
    module is accepted by the grammar and reported by `parse_file` -/
example : parseFile [.kw "StructKeyword", .ident ['S'], .lbrace] = none := by decide +kernel
set_option maxRecDepth 8000 in
example : syntaxError "struct S {}".toList = true ∧ syntaxError "module M struct S {}".toList = false := by decide +kernel
set_option maxRecDepth 8000 in
example : syntaxError "module M struct S {a:bool,,}".toList = true ∧ syntaxError "module M struct S {a:bool,}".toList = false := by decide +kernel
set_option maxRecDepth 8000 in
example : syntaxError "module M interface I{op(///d\na:bool)}".toList = true ∧ syntaxError "///d\nmodule M".toList = true ∧
    syntaxError "module M interface I{op(a:bool)}".toList = false := by decide +kernel
/-- necessity of `docLineRT`: a doc line starting with `/` is written `////…`, which is a plain comment — the doc line is not in the
    token sequence at all; a doc line ending in CR loses the CR (it belongs to the line ending) -/
example : tokensOf (fileItems ⟨[], none, [.custom ["/x"] [] "C"]⟩) = [.kw "CustomKeyword", .ident ['C']] := by decide +kernel
example : tokensOf (fileItems ⟨[], none, [.custom ["x\r"] [] "C"]⟩) = [.doc ['x'], .kw "CustomKeyword", .ident ['C']] := by decide +kernel
/-- necessity of `intRT`: `underscores` on a literal of fewer than three digits writes no underscore and reads back as `false` -/
example : intOfText (IntLit.magText ⟨false, 10, 5, true⟩).toList = ⟨false, 10, 5, false⟩ := by decide +kernel
example : intRT ⟨false, 10, 5, true⟩ = false ∧ intRT ⟨true, 16, 4096, true⟩ = true ∧ intRT ⟨false, 2, 0, false⟩ = true := by decide +kernel
/-- necessity of `dirRT`: these directives satisfy `attrOk` (they print as identifier / `::` tokens) but do not read back:
    `a::::b` is not a `RelativeIdentifier` at all, `\a` reads back as `a` -/
example : attrOk ⟨"a::::b", []⟩ = true ∧ dirRT "a::::b" = false ∧ attrOk ⟨"\\a", []⟩ = true ∧ dirRT "\\a" = false ∧
    dirRT "cs::attr" = true := by decide +kernel
/-- an attribute argument that looks like an identifier is printed bare, any other quoted; both read back as the argument -/
example : argTok "x" = .ident ['x'] ∧ argTok "a b" = .strLit ['a', ' ', 'b'] ∧ argTok "struct" = .strLit "struct".toList ∧
    argOf (argTok "a\"b\\") = some "a\"b\\" := by decide +kernel

/-- the keywords of the Slice language (specification; alphabetical) -/
def specKeywords : List String := ["Dictionary", "Result", "Sequence", "bool", "compact", "custom", "enum", "float32", "float64", "idempotent", "int16", "int32", "int64", "int8", "interface", "module", "stream", "string", "struct", "tag", "typealias", "uint16", "uint32", "uint64", "uint8", "unchecked", "varint32", "varint62", "varuint32", "varuint62"]

/-- **The keyword table of the lexer is the language's**, as a set (the order of the arms of `check_if_keyword` is free): the model
    and the printer take the keywords from the table the translator extracts; this pins the table, so that a keyword dropped from or
    added to the lexer re-opens this proof instead of being followed silently by the model. -/
theorem keyword_table_as_specified :
    (Gen.sliceKeywords.map (·.1)).all specKeywords.contains = true ∧
    specKeywords.all (Gen.sliceKeywords.map (·.1)).contains = true ∧ (Gen.sliceKeywords.map (·.1)).Nodup := by
  decide +kernel

end Slicec.C02

#print axioms Slicec.C02.unescape_escape
#print axioms Slicec.C02.scan_escape
#print axioms Slicec.C02.string_argument_roundtrip
#print axioms Slicec.C02.enumerator_values
#print axioms Slicec.C02.tag_stored
#print axioms Slicec.C02.printer_escapes_every_keyword
#print axioms Slicec.C02.lex_is_local
#print axioms Slicec.C02.gaps_read_as_nothing
#print axioms Slicec.C02.whitespace_reads_as_nothing
#print axioms Slicec.C02.line_comment_reads_as_nothing
#print axioms Slicec.C02.block_comment_reads_as_nothing
#print axioms Slicec.C02.escaped_identifier_same_token
#print axioms Slicec.C02.keyword_rows
#print axioms Slicec.C02.attribute_mode_brackets_only
#print axioms Slicec.C02.printer_respects_separation
#print axioms Slicec.C02.names_with_identifier_segments
#print axioms Slicec.C02.directives_with_identifier_segments
#print axioms Slicec.C02.layout_independence_items
#print axioms Slicec.C02.layout_independence
#print axioms Slicec.C02.canonical_tokens
#print axioms Slicec.C02.two_layouts_same_tokens
#print axioms Slicec.C02.grammar_table_matches
#print axioms Slicec.C02.parser_fuel_never_exhausted
#print axioms Slicec.C02.parsers_consume
#print axioms Slicec.C02.printed_tokens_have_shape
#print axioms Slicec.C02.parser_inverts_shape
#print axioms Slicec.C02.parse_print
#print axioms Slicec.C02.parse_print_canonical
#print axioms Slicec.C02.parse_print_full
#print axioms Slicec.C02.layouts_same_file
#print axioms Slicec.C02.tokens_determine_file
#print axioms Slicec.C02.printed_file_syntax_verdict
#print axioms Slicec.C02.integer_literals_read_back
#print axioms Slicec.C02.directives_read_back
#print axioms Slicec.C02.names_read_back
#print axioms Slicec.C02.keyword_table_as_specified
