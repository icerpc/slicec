/-
  C17 — Each input file is compiled exactly once: sources first, in the order given.  ("At most once" is `once`; that
  every discovered source is present is the second half of `source_wins`.)

  Every theorem quantifies over an ARBITRARY environment `env : FsEnv P C` (any path type, any canonical-path type,
  any answers to exists / is_file / is_dir / read_dir / canonicalize / read_to_string — no law is assumed, so
  unreadable directories and inconsistent answers are included), every walk bound `fuel` and every pair of argument
  lists.  `fuel` bounds the number of nested directories the model's walk lists (`references_expanded`); slicec's own
  walk has no bound, so the model is `find_slice_files` for any `fuel` above the depth of the tree (the driver of the
  correspondence uses `walkFuel` = 40).  With `fuel = 0` nothing is discovered and the statements hold of empty lists;
  on an environment whose directories nest without end (a symlink cycle) the statements are about the bounded walk only.
  "Canonical path" is whatever `env.canon` (= `Path::canonicalize`) answers: two spellings of one file ('.', '..',
  absolute, through a symbolic link) are the same file exactly when the operating system canonicalises them to the same
  path; that part is the OS's contract, exercised by the correspondence (`Drv/C17.lean` + engine `files`) on a concrete
  tree model with links.

  `srcFound` / `refFound` are the entries `find_slice_files` returns for the two lists (in argument order, a
  directory replaced by the walk of its subtree), `keepFirst []` is the first-occurrence de-duplication
  specification (`Lemmas/Files.lean`; characterised by `dedup_keeps_first`).
-/
import SlicecVerif.Lemmas.Files
import SlicecVerif.Lemmas.Basic

namespace Slicec.C17

open Slicec

variable {P C : Type} [DecidableEq C]

/-- At most once: no two entries of the compiled file list (`state.files`), nor of the list handed to the parser,
    nor of the list before reading, have the same canonical path. -/
theorem once (env : FsEnv P C) (fuel : Nat) (sources references : List P) :
    ((resolveFilesFrom env fuel sources references).filePaths.map (·.canon)).Nodup ∧
    ((compileFromOptions env fuel sources references).files.map (·.canon)).Nodup ∧
    ((compileFromOptions env fuel sources references).parsed.map (·.canon)).Nodup := by
  have h := filePaths_nodup env fuel sources references
  have hf : ((compileFromOptions env fuel sources references).files.map (·.canon)).Nodup :=
    h.sublist (List.filter_sublist.map _)
  refine ⟨h, hf, ?_⟩
  simp only [compileFromOptions] at hf ⊢
  split
  · simp
  · exact hf

/-- Sources first, in order: the file list is the de-duplicated discovered sources (argument order) followed by the
    de-duplicated discovered references (argument / walk order) minus every file already discovered as a source;
    `state.files` is that list without the entries that could not be read (order kept); every source entry carries
    `is_source = true`, every reference entry `false`; and each discovered list spells its entries in discovery
    order (only paths that cannot be canonicalised are dropped). -/
theorem sources_first_in_order (env : FsEnv P C) (fuel : Nat) (sources references : List P) :
    (resolveFilesFrom env fuel sources references).filePaths =
        keepFirst [] (srcFound env fuel sources) ++
        (keepFirst [] (refFound env fuel references)).filter
          (fun f => decide (f.canon ∉ (srcFound env fuel sources).map (·.canon))) ∧
    (compileFromOptions env fuel sources references).files =
        (resolveFilesFrom env fuel sources references).filePaths.filter (fun f => env.readOk f.path) ∧
    (∀ f ∈ srcFound env fuel sources, f.isSource = true) ∧
    (∀ f ∈ refFound env fuel references, f.isSource = false) ∧
    (srcFound env fuel sources).map (·.path) =
        (discovered env fuel sources true).filter (fun p => (env.canon p).isSome) ∧
    (refFound env fuel references).map (·.path) =
        (discovered env fuel references false).filter (fun p => (env.canon p).isSome) := by
  have hmap : ∀ (s : Bool) (l : List P),
      (l.filterMap (fun p => (env.canon p).map (fun c => (⟨p, c, s⟩ : FilePath P C)))).map (·.path) =
        l.filter (fun p => (env.canon p).isSome) := by
    intro s l
    rw [List.map_filterMap, ← List.filterMap_eq_filter]
    congr 1
    funext p
    cases hc : env.canon p <;> simp [Option.guard, hc]
  refine ⟨resolve_filePaths env fuel sources references, ?_, ?_, ?_, ?_, ?_⟩
  · simp only [compileFromOptions, resolveFilesFrom]
  · intro f hf; exact (mem_findSliceFiles env fuel sources true f hf).2.2
  · intro f hf; exact (mem_findSliceFiles env fuel references false f hf).2.2
  · simp only [srcFound, findSliceFiles, createAll]; exact hmap true _
  · simp only [refFound, findSliceFiles, createAll]; exact hmap false _

/-- What de-duplication keeps (for any already-seen set and any list): a sub-list in the original order, with
    pairwise different canonical paths, covering exactly the canonical paths of the list that were not seen before,
    and each kept entry is the FIRST entry of the list with its canonical path (so the first spelling is the one
    that is compiled and every later one is the repeat). -/
theorem dedup_keeps_first (seen : List C) (l : List (FilePath P C)) :
    (keepFirst seen l).Sublist l ∧
    ((keepFirst seen l).map (·.canon)).Nodup ∧
    (∀ c, c ∈ (keepFirst seen l).map (·.canon) ↔ c ∈ l.map (·.canon) ∧ c ∉ seen) ∧
    (∀ f ∈ keepFirst seen l, ∃ pre post, l = pre ++ f :: post ∧ ∀ g ∈ pre, g.canon ≠ f.canon) ∧
    removeDuplicates l = (keepFirst [] l, (repeats [] l).map (fun f => dupWarn f.path)) :=
  have h := keepFirst_spec seen l
  ⟨h.1, h.2.1, h.2.2.1, h.2.2.2.1, removeDuplicates_eq l⟩

omit [DecidableEq C] in
/-- The source list is taken as listed: with a positive walk bound, the paths discovered for the sources are exactly
    the listed sources that exist, are files (not directories) and are spelled with the `slice` extension — in the
    order given, repeats included. -/
theorem sources_as_listed (env : FsEnv P C) (fuel : Nat) (sources : List P) :
    discovered env (fuel + 1) sources true =
      sources.filter (fun p => env.pathExists p && !env.isDir p && env.isFile p && env.isSlice p) := by
  -- a directory is refused before the walk is reached, so the walk only ever sees a non-directory
  have h : ∀ p, (findStep env (fuel + 1) (!true) p).1 =
      if env.pathExists p && !env.isDir p && env.isFile p && env.isSlice p then [p] else [] := by
    intro p
    unfold findStep walkFiles
    cases env.pathExists p
    · rfl
    · cases env.isDir p <;> cases env.isFile p <;> cases env.isSlice p <;> rfl
  unfold discovered
  induction sources with
  | nil => rfl
  | cons p ps ih =>
    rw [List.flatMap_cons, ih, List.filter_cons, h]
    split <;> rfl

omit [DecidableEq C] in
/-- References are expanded recursively: a path is discovered for the reference list exactly when some listed
    reference exists, is not a file with a wrong extension, and the path is reached from it by listing fewer than
    `fuel` nested directories (zero for a reference that is itself a file) and is a non-directory file spelled with
    the `slice` extension. -/
theorem references_expanded (env : FsEnv P C) (fuel : Nat) (references : List P) (q : P) :
    q ∈ discovered env fuel references false ↔
      ∃ p ∈ references, env.pathExists p = true ∧ ¬(env.isFile p = true ∧ env.isSlice p = false) ∧
        ∃ n, n < fuel ∧ BelowDir env n p q ∧ sliceLeaf env q := by
  simp only [mem_discovered_iff, refused_false_iff]
  exact exists_congr fun p => and_congr_right fun _ =>
    ⟨fun ⟨⟨h1, h2, _⟩, hw⟩ => ⟨h1, h2, hw⟩, fun ⟨h1, h2, hw⟩ => ⟨⟨h1, h2, fun _ => rfl⟩, hw⟩⟩

/-- A source wins: an entry of the file list is marked as a source exactly when its canonical path was discovered
    through the source list; and every canonical path discovered through the source list is in the file list exactly
    once, as a source (whatever the references name). -/
theorem source_wins (env : FsEnv P C) (fuel : Nat) (sources references : List P) :
    (∀ f ∈ (resolveFilesFrom env fuel sources references).filePaths,
        (f.isSource = true ↔ f.canon ∈ (srcFound env fuel sources).map (·.canon))) ∧
    (∀ c ∈ (srcFound env fuel sources).map (·.canon),
        ∃ f ∈ (resolveFilesFrom env fuel sources references).filePaths, f.canon = c ∧ f.isSource = true ∧
          ∀ g ∈ (resolveFilesFrom env fuel sources references).filePaths, g.canon = c → g = f) := by
  constructor
  · intro f hf
    rcases (mem_filePaths env fuel sources references f).mp hf with h | ⟨h, hn⟩
    · have hm := keepFirst_subset h
      exact ⟨fun _ => List.mem_map_of_mem hm, fun _ => (mem_findSliceFiles env fuel sources true f hm).2.2⟩
    · have hs := (mem_findSliceFiles env fuel references false f (keepFirst_subset h)).2.2
      exact ⟨fun ht => Bool.noConfusion (hs.symm.trans ht), fun hc => absurd hc hn⟩
  · intro c hc
    have hk : c ∈ (keepFirst [] (srcFound env fuel sources)).map (·.canon) :=
      (mem_keepFirst_canon _ _ _).mpr ⟨hc, by simp⟩
    obtain ⟨f, hf, hfc⟩ := List.mem_map.mp hk
    have hfp : f ∈ (resolveFilesFrom env fuel sources references).filePaths :=
      (mem_filePaths env fuel sources references f).mpr (Or.inl hf)
    refine ⟨f, hfp, hfc, (mem_findSliceFiles env fuel sources true f (keepFirst_subset hf)).2.2, ?_⟩
    intro g hg hgc
    exact eq_of_nodup_map FilePath.canon (filePaths_nodup env fuel sources references) hg hfp (hgc.trans hfc.symm)

/-- DuplicateFile count: the number of `DuplicateFile` lints is the number of discovered source entries that repeat
    an earlier source entry plus the number of discovered reference entries that repeat an earlier reference entry:
    `#DuplicateFile + #kept sources + #kept references = #discovered sources + #discovered references`, the kept
    ones being one per distinct canonical path of each list.  A file in both lists adds nothing. -/
theorem dup_warning_count (env : FsEnv P C) (fuel : Nat) (sources references : List P) :
    ((resolveFilesFrom env fuel sources references).diags.filter (fun d => d.code == .duplicateFile)).length +
      (keepFirst [] (srcFound env fuel sources)).length + (keepFirst [] (refFound env fuel references)).length =
    (srcFound env fuel sources).length + (refFound env fuel references).length := by
  have hio : ∀ l : List (FDiag P), (∀ d ∈ l, d.code = .io) → l.countP (fun d => d.code == .duplicateFile) = 0 :=
    fun l hl => List.countP_eq_zero.2 fun d hd => by simp [hl d hd]
  have hdup : ∀ l : List (FilePath P C),
      (l.map fun f => dupWarn f.path).countP (fun d => d.code == .duplicateFile) = l.length :=
    fun l => (List.countP_map).trans (List.countP_eq_length.2 fun _ _ => rfl)
  rw [← List.countP_eq_length_filter, resolve_diags]
  simp only [List.countP_append]
  rw [hio _ (findSliceFiles_diag_code env fuel sources true), hio _ (findSliceFiles_diag_code env fuel references false),
    hdup, hdup, hio (List.map _ _) (fun d hd => by obtain ⟨_, _, rfl⟩ := List.mem_map.mp hd; rfl)]
  have h1 := keepFirst_length (P := P) [] (srcFound env fuel sources)
  have h2 := keepFirst_length (P := P) [] (refFound env fuel references)
  omega

/-- No warning across the lists: when neither discovered list repeats a canonical path within itself, no
    `DuplicateFile` lint is reported at all — however many files the two lists have in common. -/
theorem no_cross_list_warning (env : FsEnv P C) (fuel : Nat) (sources references : List P)
    (hs : ((srcFound env fuel sources).map (·.canon)).Nodup) (hr : ((refFound env fuel references).map (·.canon)).Nodup) :
    ∀ d ∈ (resolveFilesFrom env fuel sources references).diags, d.code = .io := by
  intro d hd
  rw [resolve_diags, (keepFirst_of_nodup [] _ (by simp) hs).2, (keepFirst_of_nodup [] _ (by simp) hr).2] at hd
  simp only [List.map_nil, List.append_nil, List.mem_append] at hd
  rcases hd with (hd | hd) | hd
  · exact findSliceFiles_diag_code env fuel sources true d hd
  · exact findSliceFiles_diag_code env fuel references false d hd
  · obtain ⟨_, _, rfl⟩ := List.mem_map.mp hd; rfl

/-- Only Slice files: every entry of the file list is spelled with the `slice` extension, answered "file" and not
    "directory" when it was discovered, exists under a listed argument, and carries the canonical path the
    environment gives for its spelling. -/
theorem only_slice_files (env : FsEnv P C) (fuel : Nat) (sources references : List P) :
    ∀ f ∈ (resolveFilesFrom env fuel sources references).filePaths,
      sliceLeaf env f.path ∧ env.canon f.path = some f.canon ∧
      ∃ p ∈ (if f.isSource then sources else references), env.pathExists p = true ∧ ∃ n, BelowDir env n p f.path := by
  intro f hf
  rcases (mem_filePaths env fuel sources references f).mp hf with h | ⟨h, _⟩
  · obtain ⟨hd, hc, hs⟩ := mem_findSliceFiles env fuel sources true f (keepFirst_subset h)
    obtain ⟨hl, hp⟩ := mem_discovered env fuel sources true f.path hd
    rw [hs]
    exact ⟨hl, hc, hp⟩
  · obtain ⟨hd, hc, hs⟩ := mem_findSliceFiles env fuel references false f (keepFirst_subset h)
    obtain ⟨hl, hp⟩ := mem_discovered env fuel references false f.path hd
    rw [hs]
    exact ⟨hl, hc, hp⟩

/-- I/O errors block everything: a listed path that does not exist, or is a file without the `slice` extension, or
    (in the source list) is a directory, and a file of the list that cannot be read, each produce an E001 naming that
    path; and whenever any E001 is present nothing at all is handed to the parser. -/
theorem io_error_blocks (env : FsEnv P C) (fuel : Nat) (sources references : List P) :
    (∀ p ∈ sources, (env.pathExists p = false ∨ (env.isFile p = true ∧ env.isSlice p = false) ∨ env.isDir p = true) →
        ioErr p ∈ (compileFromOptions env fuel sources references).diags) ∧
    (∀ p ∈ references, (env.pathExists p = false ∨ (env.isFile p = true ∧ env.isSlice p = false)) →
        ioErr p ∈ (compileFromOptions env fuel sources references).diags) ∧
    (∀ f ∈ (resolveFilesFrom env fuel sources references).filePaths, env.readOk f.path = false →
        ioErr f.path ∈ (compileFromOptions env fuel sources references).diags) ∧
    ((∃ d ∈ (compileFromOptions env fuel sources references).diags, d.code = .io) →
        (compileFromOptions env fuel sources references).parsed = []) := by
  have hdiags : (compileFromOptions env fuel sources references).diags = (resolveFilesFrom env fuel sources references).diags := rfl
  refine ⟨?_, ?_, ?_, ?_⟩
  · intro p hp h
    rw [hdiags, resolve_diags]
    simp only [List.mem_append]
    exact Or.inl (Or.inl (Or.inl (Or.inl (ioErr_mem_findSliceFiles env fuel sources true p hp
      ((refused_iff env _ p).mpr (h.imp_right (Or.imp_right fun hd => ⟨hd, rfl⟩)))))))
  · intro p hp h
    rw [hdiags, resolve_diags]
    simp only [List.mem_append]
    exact Or.inl (Or.inl (Or.inr (ioErr_mem_findSliceFiles env fuel references false p hp
      ((refused_iff env _ p).mpr (h.imp_right Or.inl)))))
  · intro f hf hr
    rw [hdiags, resolve_diags]
    simp only [List.mem_append]
    refine Or.inr (List.mem_map.mpr ⟨f, List.mem_filter.mpr ⟨hf, by simp [hr]⟩, rfl⟩)
  · rintro ⟨d, hd, hc⟩
    have : (resolveFilesFrom env fuel sources references).diags.any FDiag.isError = true := by
      rw [List.any_eq_true]
      exact ⟨d, hd, by simp [FDiag.isError, hc]⟩
    simp only [compileFromOptions, this, if_true]

/-- Conversely, without an E001 every file of the list was readable and all of them are parsed, in list order. -/
theorem no_error_all_parsed (env : FsEnv P C) (fuel : Nat) (sources references : List P)
    (h : ∀ d ∈ (compileFromOptions env fuel sources references).diags, d.code ≠ .io) :
    (compileFromOptions env fuel sources references).parsed = (resolveFilesFrom env fuel sources references).filePaths := by
  have hany : (resolveFilesFrom env fuel sources references).diags.any FDiag.isError = false := by
    rw [List.any_eq_false]
    intro d hd
    have := h d hd
    simp [FDiag.isError, this]
  have hread : ∀ f ∈ (resolveFilesFrom env fuel sources references).filePaths, env.readOk f.path = true :=
    fun f hf => Bool.of_not_eq_false fun hr => h _ ((io_error_blocks env fuel sources references).2.2.1 f hf hr) rfl
  simp only [compileFromOptions, hany]
  simp only [resolveFilesFrom] at hread ⊢
  exact List.filter_eq_self.mpr hread

/-! ## non-vacuity, on the environment `c17DemoEnv`: three spellings of two files -/

example : ((compileFromOptions c17DemoEnv 5 [1, 0] [10]).files.map (fun f => (f.path, f.canon, f.isSource))) =
    [(1, 0, true), (2, 2, false)] := by decide +kernel
example : ((compileFromOptions c17DemoEnv 5 [1, 0] [10]).diags.map (fun d => (d.code, d.path))) =
    [(.duplicateFile, 0), (.duplicateFile, 1)] := by decide +kernel
example : (compileFromOptions c17DemoEnv 5 [1] [10]).parsed.length = 2 := by decide +kernel
example : ((compileFromOptions c17DemoEnv 5 [2, 3] [10]).diags.map (fun d => (d.code, d.path))) = [(.io, 3), (.duplicateFile, 1)] ∧
    (compileFromOptions c17DemoEnv 5 [2, 3] [10]).parsed = [] ∧
    (compileFromOptions c17DemoEnv 5 [2, 3] [10]).files.length = 2 := by decide +kernel
example : ((compileFromOptions c17DemoEnv 5 [10] []).diags.map (fun d => (d.code, d.path))) = [(.io, 10)] := by decide +kernel

end Slicec.C17

#print axioms Slicec.C17.once
#print axioms Slicec.C17.sources_first_in_order
#print axioms Slicec.C17.dedup_keeps_first
#print axioms Slicec.C17.sources_as_listed
#print axioms Slicec.C17.references_expanded
#print axioms Slicec.C17.source_wins
#print axioms Slicec.C17.dup_warning_count
#print axioms Slicec.C17.no_cross_list_warning
#print axioms Slicec.C17.only_slice_files
#print axioms Slicec.C17.io_error_blocks
#print axioms Slicec.C17.no_error_all_parsed
