/-
  C04 — semantic validation. `validate : Program → List String` is the list of error codes the compiler
  reports for a program (compared as a *set* with the real compiler), phase by phase with the same gating:

    parse-time checks (`parse_tag_value`, `check_return_tuple`, literal overflow, "module declaration is required";
                       per file: the module check is only reached by a file without other parse errors)
    → attribute patching (`patch_attributes!`: argument counts, argument literals, unknown un-prefixed directive)
    → type-reference resolution (`TypeRefPatcher`, via Model/Resolve.lean)
    → `validate_ast`: cycle gate → redefinition scan (`check_for_redefinitions`, enumerator fields included) → `ValidatorVisitor`.

  Every check is a `Rule`: the contexts it is applied to (extracted from the program), the check *as written in the
  Rust code* (sort-and-window, hash-map scan, split_last, early returns …) producing codes, the kinds of error it may
  produce, and its declarative specification `Spec`. `WellFormed` is the conjunction of the specifications;
  Props/C04.lean proves check = [] ↔ Spec for every rule and for all contexts.

  Numeric bounds, integrality, error codes, lint names and the attribute table come from Gen/*.lean (regenerated
  from the Rust source on every run).
-/
import SlicecVerif.Gen.VisitorReach
import SlicecVerif.Model.Elab
import SlicecVerif.Gen.Primitives
import SlicecVerif.Gen.ErrorCodes
import SlicecVerif.Gen.Attributes

namespace Slicec.Validate

open Slicec

/-! ## tables -/

/-- the code of an error kind, looked up in the extracted `implement_diagnostic_functions!(Error, …)` table -/
def code (kind : String) : String :=
  match Gen.errorCodes.find? (fun r => r.2 == kind) with
  | some r => r.1
  | none => "E?" ++ kind

def primRow (p : Prim) : Option Gen.PrimRow := Gen.primitives.find? (fun r => r.keyword == p.kw)

/-- `Primitive::is_integral` -/
def primIntegral (p : Prim) : Bool := match primRow p with | some r => r.integral | none => false

/-- `Primitive::numeric_bounds` -/
def primBounds (p : Prim) : Option (Int × Int) := match primRow p with | some r => r.bounds | none => none

def i128Max : Nat := 2 ^ 127 - 1

/-- `try_parse_integer`: a magnitude beyond `i128::MAX` is an error and the value becomes 0 -/
def litValue (l : IntLit) : Int := if l.mag > i128Max then 0 else l.value

/-- `parse_tag_value`: `i.value as u32` -/
def tagU32 (l : IntLit) : Nat := (litValue l % 2 ^ 32).toNat

/-! ## the shape of a rule -/

structure Rule where
  /-- what the rule is called in the property text -/
  name : String
  κ : Type
  /-- the places of a program the check is applied to -/
  ctxs : Program → List κ
  /-- the check as written in the compiler: the codes it reports for one context -/
  check : κ → List String
  /-- error kinds the check may report -/
  kinds : List String
  /-- the language rule, stated declaratively -/
  Spec : κ → Prop
  dec : DecidablePred Spec

def Rule.codes (r : Rule) (P : Program) : List String := (r.ctxs P).flatMap r.check

def Rule.Holds (r : Rule) (P : Program) : Prop := ∀ x ∈ r.ctxs P, r.Spec x

instance (r : Rule) (P : Program) : Decidable (r.Holds P) :=
  haveI : DecidablePred r.Spec := r.dec
  inferInstanceAs (Decidable (∀ x ∈ r.ctxs P, r.Spec x))

/-- elements reported by a hash-map scan: every element that was already seen (`check_if_redefined`,
    `enumerator_values_are_unique`, `validate_repeated_attributes`) -/
def repeats {α} [BEq α] : List α → List α → List α
  | _, [] => []
  | seen, x :: xs => if seen.contains x then x :: repeats seen xs else repeats (x :: seen) xs

/-! ## walking the abstract syntax -/

def fileScope (f : SFile) : String := match f.module with | some m => m.path | none => ""

def allDefs (P : Program) : List (String × Def) := P.flatMap fun f => f.defs.map fun d => (fileScope f, d)

def defKey (sd : String × Def) : String := scopedId sd.2.name sd.1

/-- the definition a key denotes (the name table keeps the last writer) -/
def findDef (P : Program) (key : String) : Option (String × Def) := (allDefs P).reverse.find? (fun sd => defKey sd == key)

/-- field lists that are validated as members: struct fields, the fields of every enumerator -/
def defFieldLists : Def → List (List Field)
  | .struct _ _ _ _ fields => [fields]
  | .enum _ _ _ _ _ _ es => es.map fun e => e.fields.getD []
  | _ => []

/-- parameter lists: parameters and return members of every operation -/
def defParamLists : Def → List (List Param)
  | .iface _ _ _ _ ops => ops.flatMap fun o => [o.params, retParams o.ret]
  | _ => []

mutual
/-- a type reference and every type reference written inside it -/
def subRefsT : TRef → List TRef
  | .mk a ty o => .mk a ty o :: subRefsE ty
def subRefsE : TyExpr → List TRef
  | .prim _ => []
  | .named _ => []
  | .seq e => subRefsT e
  | .dict k v => subRefsT k ++ subRefsT v
  | .result s f => subRefsT s ++ subRefsT f
end

/-- type references the visitor reaches: field types, parameter and return types, alias underlying types -/
def defVisitedTRefs (d : Def) : List TRef :=
  (defFieldLists d).flatMap (·.map (·.ty)) ++ (defParamLists d).flatMap (·.map (·.ty)) ++
  (match d with | .alias _ _ _ ty => [ty] | _ => [])

/-- type references the visitor does not reach: interface bases, enum underlying types -/
def defOtherTRefs : Def → List TRef
  | .iface _ _ _ bases _ => bases
  | .enum _ _ _ _ _ (some u) _ => [u]
  | _ => []

def defTagLits (d : Def) : List IntLit :=
  (defFieldLists d).flatMap (·.filterMap (·.tag)) ++ (defParamLists d).flatMap (·.filterMap (·.tag))

def defValueLits : Def → List IntLit
  | .enum _ _ _ _ _ _ es => es.filterMap (·.value)
  | _ => []

def defTupleSizes : Def → List Nat
  | .iface _ _ _ _ ops => ops.filterMap fun o => match o.ret with | .tuple ps => some ps.length | _ => none
  | _ => []

def defAttrs : Def → List Attr
  | .struct _ a _ _ _ => a | .iface _ a _ _ _ => a | .enum _ a _ _ _ _ _ => a | .custom _ a _ => a | .alias _ a _ _ => a

/-- attributes of the members of a definition (fields, operations, parameters, enumerators) -/
def defMemberAttrs (d : Def) : List Attr :=
  (defFieldLists d).flatMap (·.flatMap (·.attrs)) ++ (defParamLists d).flatMap (·.flatMap (·.attrs)) ++
  (match d with
   | .iface _ _ _ _ ops => ops.flatMap (·.attrs)
   | .enum _ _ _ _ _ _ es => es.flatMap (·.attrs)
   | _ => [])

/-- every attribute node of a file (what `patch_attributes!` iterates over) -/
def fileAllAttrs (f : SFile) : List Attr :=
  f.fileAttrs ++ (match f.module with | some m => m.attrs | none => []) ++
  f.defs.flatMap fun d =>
    defAttrs d ++ defMemberAttrs d ++ ((defVisitedTRefs d ++ defOtherTRefs d).flatMap subRefsT).flatMap (·.attrs)

/-! ## phase 1: parse-time checks -/

/-- `parse_tag_value`: outside `RangeInclusive(lo, hi)` -/
def tagRangeCheck (v : Int) : List String :=
  if Gen.tagBounds.1 ≤ v ∧ v ≤ Gen.tagBounds.2 then [] else [code "TagValueOutOfBounds"]

/-- `check_return_tuple` -/
def tupleCheck (n : Nat) : List String := if n < 2 then [code "ReturnTuplesMustContainAtLeastTwoElements"] else []

/-- `try_parse_integer`: `i128::from_str_radix` overflow -/
def literalCheck (l : IntLit) : List String := if l.mag > i128Max then [code "IntegerLiteralOverflows"] else []

def fileLits (f : SFile) : List IntLit := f.defs.flatMap fun d => defTagLits d ++ defValueLits d

/-- diagnostics of the parser actions of one file -/
def fileActionCodes (f : SFile) : List String :=
  (fileLits f).flatMap literalCheck ++
  (f.defs.flatMap defTagLits).flatMap (fun l => tagRangeCheck (litValue l)) ++
  (f.defs.flatMap defTupleSizes).flatMap tupleCheck

/-- `parse_file`: definitions without a module declaration -/
def moduleCheck (f : SFile) : List String :=
  if !f.defs.isEmpty && f.module.isNone then [code "Syntax"] else []

/-- `parse_file`: the module check is only reached when the parser returned `Ok` (no error in this file) -/
def fileParseCodes (f : SFile) : List String :=
  let e := fileActionCodes f
  if e.isEmpty then moduleCheck f else e

def parseCodes (P : Program) : List String := P.flatMap fileParseCodes

/-- the parse-time rules, declaratively: literals fit `i128`, tags within `0..2^31-1`, return tuples have at
    least two members, definitions are preceded by a module declaration -/
def ParseOK (P : Program) : Prop :=
  ∀ f ∈ P,
    (∀ l ∈ fileLits f, l.mag ≤ i128Max) ∧
    (∀ l ∈ f.defs.flatMap defTagLits, 0 ≤ litValue l ∧ litValue l < 2 ^ 31) ∧
    (∀ n ∈ f.defs.flatMap defTupleSizes, 2 ≤ n) ∧
    (f.defs ≠ [] → f.module.isSome = true)

instance (P : Program) : Decidable (ParseOK P) := by unfold ParseOK; infer_instance

/-! ## phase 2: attribute patching -/

def attrRow (directive : String) : Option Gen.AttrRow := Gen.attributes.find? (fun r => r.directive == directive)

/-- `directive.split_once("::").map_or("", |(p, _)| p)` -/
def directivePrefix (d : String) : String :=
  match d.splitOn "::" with
  | [_] => ""
  | p :: _ => p
  | [] => ""

def countOK (r : Gen.AttrRow) (n : Nat) : Bool :=
  decide (r.minArgs ≤ n) && (match r.maxArgs with | some m => decide (n < m) | none => true)

def argOK (r : Gen.AttrRow) (x : String) : Bool :=
  if r.lintArgs then Gen.allowableLintIds.contains x && !Gen.allowExcluded.contains x
  else r.argLiterals.isEmpty || r.argLiterals.contains x

/-- `parse_from` of the built-in attributes and the unknown-directive arm of `patch_attributes!` -/
def patchAttrCheck (a : Attr) : List String :=
  match attrRow a.directive with
  | some r =>
    (if countOK r a.args.length then [] else [code "IncorrectAttributeArgumentCount"]) ++
    (a.args.filter (fun x => !argOK r x)).map (fun _ => code "InvalidAttributeArgument")
  | none => if directivePrefix a.directive == Gen.attributePrefix then [code "UnknownAttribute"] else []

/-- an attribute is well-formed: a built-in directive with a legal number of legal arguments, or a directive
    with a foreign prefix (`cs::…`) -/
def AttrWellFormed (a : Attr) : Prop :=
  match attrRow a.directive with
  | some r => countOK r a.args.length = true ∧ ∀ x ∈ a.args, argOK r x = true
  | none => directivePrefix a.directive ≠ Gen.attributePrefix

instance (a : Attr) : Decidable (AttrWellFormed a) := by unfold AttrWellFormed; split <;> infer_instance

def attrPatchRule : Rule where
  name := "attributes well-formed"
  κ := Attr
  ctxs := fun P => P.flatMap fileAllAttrs
  check := patchAttrCheck
  kinds := ["IncorrectAttributeArgumentCount", "InvalidAttributeArgument", "UnknownAttribute"]
  Spec := AttrWellFormed
  dec := inferInstance

/-! ## phase 3: resolution of type references (C03's model) -/

structure RefSite where
  want : Want
  id : String
  scope : String

def namedSites (w : Want) (scope : String) (rs : List TRef) : List RefSite :=
  rs.filterMap fun r => match r.ty with | .named id => some ⟨w, id, scope⟩ | _ => none

def resErrCodes : ResErr → List String
  | .doesNotExist _ => [code "DoesNotExist"]
  | .typeMismatch _ _ => [code "TypeMismatch"]
  | .aliasCycle true _ => [code "SelfReferentialTypeAliasNeedsConcreteType", code "DoesNotExist"]
  | .aliasCycle false _ => [code "DoesNotExist"]
  | .fuel => []   -- never produced: `resolve_never_out_of_fuel` (Props/C03)

def siteCodes (t : Table) (s : RefSite) : List String :=
  match resolveNamed t s.want s.id s.scope with
  | .ok _ => []
  | .error e => resErrCodes e

/-- bases are resolved left to right and the first failure ends the interface's patch
    (`collect::<Option<Vec<_>>>()`) -/
def basesCodes (t : Table) : List RefSite → List String
  | [] => []
  | s :: rest => match siteCodes t s with | [] => basesCodes t rest | e => e

def defResolveCodes (t : Table) (scope : String) (d : Def) : List String :=
  (namedSites .type scope ((defVisitedTRefs d).flatMap subRefsT)).flatMap (siteCodes t) ++
  (match d with
   | .iface _ _ _ bases _ => basesCodes t (namedSites .interface scope bases)
   | .enum _ _ _ _ _ (some u) _ => (namedSites .primitive scope [u]).flatMap (siteCodes t)
   | _ => [])

def resolveCodes (P : Program) : List String :=
  let t := buildTable P
  (allDefs P).flatMap fun sd => defResolveCodes t sd.1 sd.2

def resolveRule : Rule where
  name := "every type reference resolves (C03)"
  κ := Program
  ctxs := fun P => [P]
  check := resolveCodes
  kinds := ["DoesNotExist", "TypeMismatch", "SelfReferentialTypeAliasNeedsConcreteType"]
  Spec := fun P => resolveCodes P = []
  dec := fun _ => inferInstance

/-! ## resolved view of types -/

/-- what a type reference denotes once aliases are looked through -/
inductive RTy where
  | prim (p : Prim)
  | struct (key : String)
  | enum (key : String)
  | custom
  | anon          -- sequence, dictionary, result
  | other         -- unresolved, or not a type
  deriving Repr, DecidableEq, Inhabited

/-- the denotation of a type expression written in module scope `scope`, and the attributes inherited from aliases -/
def resolveTy (t : Table) (scope : String) : TyExpr → RTy × List Attr
  | .prim p => (.prim p, [])
  | .seq _ => (.anon, [])
  | .dict _ _ => (.anon, [])
  | .result _ _ => (.anon, [])
  | .named id =>
    match resolveNamed t .type id scope with
    | .ok (.node n, extra) =>
      ((match n.kind with
        | .struct => .struct n.key
        | .enum => .enum n.key
        | .custom => .custom
        | .primitive => (match n.prim with | some p => .prim p | none => .other)
        | _ => .other), extra)
    | .ok (.expr (.prim p) _, extra) => (.prim p, extra)
    | .ok (.expr _ _, extra) => (.anon, extra)
    | .error _ => (.other, [])

/-! ## phase 4a: the cycle gate (reachability; the detector itself is C05's) -/

def depFuel : Nat := 64

mutual
/-- struct / enum keys a type reference contains (through sequences, dictionaries, results, optionals, aliases) -/
def depsT (t : Table) (scope : String) : Nat → TRef → List String
  | 0, _ => []
  | fuel + 1, .mk _ ty _ => depsE t scope fuel ty
def depsE (t : Table) (scope : String) : Nat → TyExpr → List String
  | 0, _ => []
  | _ + 1, .prim _ => []
  | fuel + 1, .seq e => depsT t scope fuel e
  | fuel + 1, .dict k v => depsT t scope fuel k ++ depsT t scope fuel v
  | fuel + 1, .result s f => depsT t scope fuel s ++ depsT t scope fuel f
  | fuel + 1, .named id =>
    match resolveNamed t .type id scope with
    | .ok (.node n, _) => if n.kind == .struct || n.kind == .enum then [n.key] else []
    | .ok (.expr e s, _) => depsE t s fuel e
    | .error _ => []
end

def defDeps (t : Table) (sd : String × Def) : List String :=
  match sd.2 with
  | .struct .. | .enum .. => (defFieldLists sd.2).flatMap (·.flatMap fun f => depsT t sd.1 depFuel f.ty)
  | _ => []

def reachLoop (deps : String → List String) : Nat → List String → List String → List String
  | 0, _, vis => vis
  | _ + 1, [], vis => vis
  | fuel + 1, k :: rest, vis =>
    if vis.contains k then reachLoop deps fuel rest vis else reachLoop deps fuel (deps k ++ rest) (k :: vis)

/-- some struct or enum (identified by its scoped name) contains itself -/
def hasCycle (P : Program) : Bool :=
  let t := buildTable P
  let nodes := (allDefs P).filter fun sd => match sd.2 with | .struct .. | .enum .. => true | _ => false
  let depsOf := fun k => match findDef P k with | some sd => defDeps t sd | none => []
  let fuel := 2 * ((nodes.map fun sd => (defDeps t sd).length).sum + nodes.length) + 2
  nodes.any fun sd => (reachLoop depsOf fuel (defDeps t sd) []).contains (defKey sd)

def cycleRule : Rule where
  name := "no type contains itself (C05)"
  κ := Program
  ctxs := fun P => [P]
  check := fun P => if hasCycle P then [code "InfiniteSizeCycle"] else []
  kinds := ["InfiniteSizeCycle"]
  Spec := fun P => hasCycle P = false
  dec := fun _ => inferInstance

/-! ## phase 4b: the redefinition scan -/

/-- every module a program declares, with the enclosing modules a nested declaration declares as well (`module A::B::C` declares
    `A`, `A::B` and `A::B::C`): `check_for_redefinitions` enters them into its map before it looks at any definition -/
def pathPrefixes : List Char → List Char → List (List Char)
  | acc, [] => [acc.reverse]
  | acc, ':' :: ':' :: r => acc.reverse :: pathPrefixes (':' :: ':' :: acc) r
  | acc, c :: r => pathPrefixes (c :: acc) r

def modulePrefixes (P : Program) : List String :=
  P.flatMap fun f =>
    match f.module with
    | none => []
    | some m => (pathPrefixes [] m.path.toList).map String.ofList

/-- scopes scanned by `check_for_redefinitions`, each with the names that are taken before the scan starts: all definitions (by
    scoped name; the module names are taken — a definition may not share its fully-scoped name with a module), the fields of each
    struct, the operations of each interface, the parameters and the return members of each operation, the enumerators of each enum,
    the fields of each enumerator -/
def nameScopes (P : Program) : List (List String × List String) :=
  [(modulePrefixes P, (allDefs P).map defKey)] ++
  ((allDefs P).flatMap fun sd =>
    match sd.2 with
    | .struct _ _ _ _ fields => [fields.map (·.name)]
    | .iface _ _ _ _ ops => [ops.map (·.name)] ++ ops.flatMap fun o => [o.params.map (·.name), (retParams o.ret).map (·.name)]
    | .enum _ _ _ _ _ _ es => [es.map (·.name)] ++ es.map (fun e => (e.fields.getD []).map (·.name))
    | _ => []).map fun names => ([], names)

def namesRule : Rule where
  name := "names unique within their scope"
  κ := List String × List String
  ctxs := nameScopes
  check := fun c => (repeats c.1 c.2).map fun _ => code "Redefinition"
  kinds := ["Redefinition"]
  Spec := fun c => c.2.Nodup ∧ ∀ x ∈ c.2, x ∉ c.1
  dec := fun _ => inferInstance

/-! ## phase 4c: the visitor rules -/

/-- a tagged / optional / streamed member: field, parameter or return member -/
structure Member where
  name : String
  tag : Option Nat
  opt : Bool
  deriving Repr, DecidableEq, Inhabited

def memberOfField (f : Field) : Member := ⟨f.name, f.tag.map tagU32, f.ty.opt⟩
def memberOfParam (p : Param) : Member := ⟨p.name, p.tag.map tagU32, p.ty.opt⟩

def memberLists (P : Program) : List (List Member) :=
  (allDefs P).flatMap fun sd =>
    (defFieldLists sd.2).map (·.map memberOfField) ++ (defParamLists sd.2).map (·.map memberOfParam)

/-- `tags_have_optional_types` -/
def taggedOptionalCheck (ms : List Member) : List String :=
  ((ms.filter fun m => m.tag.isSome).filter fun m => !m.opt).map fun _ => code "TaggedMemberMustBeOptional"

def taggedOptionalRule : Rule where
  name := "tags only on optional members"
  κ := List Member
  ctxs := memberLists
  check := taggedOptionalCheck
  kinds := ["TaggedMemberMustBeOptional"]
  Spec := fun ms => ∀ m ∈ ms, m.tag.isSome = true → m.opt = true
  dec := fun _ => inferInstance

def insertSorted (x : Nat) : List Nat → List Nat
  | [] => [x]
  | y :: ys => if x < y then x :: y :: ys else y :: insertSorted x ys

/-- stable sort by key (`sort_by_key`) -/
def sortNat (l : List Nat) : List Nat := l.foldr insertSorted []

/-- `windows(2)`: one report per adjacent equal pair -/
def windowDups : List Nat → List String
  | a :: b :: rest => (if a == b then [code "CannotHaveDuplicateTag"] else []) ++ windowDups (b :: rest)
  | _ => []

/-- `tags_are_unique`: sort the tagged members by tag, compare neighbours -/
def dupTagCheck (ms : List Member) : List String := windowDups (sortNat (ms.filterMap (·.tag)))

def dupTagRule : Rule where
  name := "tags unique"
  κ := List Member
  ctxs := memberLists
  check := dupTagCheck
  kinds := ["CannotHaveDuplicateTag"]
  Spec := fun ms => (ms.filterMap (·.tag)).Nodup
  dec := fun _ => inferInstance

/-- a struct as the struct rules see it: `compact`, and for each field whether it is tagged -/
structure StructCtx where
  compact : Bool
  tagged : List Bool
  deriving Repr, DecidableEq, Inhabited

def structCtxs (P : Program) : List StructCtx :=
  (allDefs P).filterMap fun sd =>
    match sd.2 with
    | .struct _ _ compact _ fields => some ⟨compact, fields.map (·.tag.isSome)⟩
    | _ => none

/-- `validate_compact_struct_not_empty` -/
def compactEmptyCheck (s : StructCtx) : List String :=
  if s.compact && s.tagged.isEmpty then [code "CompactStructCannotBeEmpty"] else []

def compactEmptyRule : Rule where
  name := "compact structs non-empty"
  κ := StructCtx
  ctxs := structCtxs
  check := compactEmptyCheck
  kinds := ["CompactStructCannotBeEmpty"]
  Spec := fun s => s.compact = true → s.tagged ≠ []
  dec := fun _ => inferInstance

/-- an enum as the enum rules see it -/
structure EnumCtx where
  compact : Bool
  unchecked : Bool
  /-- underlying type: written optional?, the primitive it denotes -/
  underlying : Option (Bool × Option Prim)
  values : List Int
  /-- per enumerator: does it declare a field list (`fields.is_some()`) -/
  hasFields : List Bool
  /-- per enumerator field: is it tagged -/
  fieldTagged : List Bool
  deriving Repr, DecidableEq, Inhabited

def underlyingPrim (t : Table) (scope : String) (u : TRef) : Option Prim :=
  match u.ty with
  | .prim p => some p
  | .named id =>
    match resolveNamed t .primitive id scope with
    | .ok (.node n, _) => n.prim
    | .ok (.expr (.prim p) _, _) => some p
    | _ => none
  | _ => none

/-- explicit literal (through `try_parse_integer`), else previous value + 1 (wrapping), starting from 0 -/
def enumValuesV : Option Int → List Enumerator → List Int
  | _, [] => []
  | prev, e :: es =>
    let v := match e.value with
      | some l => litValue l
      | none => match prev with | some p => wrapI128 p | none => 0
    v :: enumValuesV (some v) es

def enumCtxs (P : Program) : List EnumCtx :=
  let t := buildTable P
  (allDefs P).filterMap fun sd =>
    match sd.2 with
    | .enum _ _ compact unchecked _ u es =>
      some { compact := compact, unchecked := unchecked,
             underlying := u.map fun r => (r.opt, underlyingPrim t sd.1 r),
             values := enumValuesV none es,
             hasFields := es.map (·.fields.isSome),
             fieldTagged := es.flatMap fun e => (e.fields.getD []).map (·.tag.isSome) }
    | _ => none

/-- a compact type as `compact_structs_cannot_contain_tags` / `compact_enums_cannot_contain_tags` see it -/
def compactTagCtxs (P : Program) : List (Bool × List Bool) :=
  (structCtxs P).map (fun s => (s.compact, s.tagged)) ++ (enumCtxs P).map (fun e => (e.compact, e.fieldTagged))

def compactTagCheck (c : Bool × List Bool) : List String :=
  if c.1 then (c.2.filter id).map fun _ => code "CompactTypeCannotContainTaggedFields" else []

def compactTagRule : Rule where
  name := "compact types untagged"
  κ := Bool × List Bool
  ctxs := compactTagCtxs
  check := compactTagCheck
  kinds := ["CompactTypeCannotContainTaggedFields"]
  Spec := fun c => c.1 = true → ∀ b ∈ c.2, b = false
  dec := fun _ => inferInstance

/-- bounds enumerator values are checked against: those of the underlying primitive (none when it has no numeric
    bounds), `0..i32::MAX` without an underlying type -/
def enumBounds (e : EnumCtx) : Option (Int × Int) :=
  match e.underlying with
  | some (_, some p) => primBounds p
  | some (_, none) => none
  | none => some Gen.plainEnumBounds

/-- `backing_type_bounds` -/
def enumRangeCheck (e : EnumCtx) : List String :=
  match enumBounds e with
  | some (lo, hi) => (e.values.filter fun v => v < lo || v > hi).map fun _ => code "EnumeratorValueOutOfBounds"
  | none => []

/-- every enumerator value lies within the bounds that apply to the enum -/
def EnumRangeOK (e : EnumCtx) : Prop :=
  match enumBounds e with
  | some b => ∀ v ∈ e.values, b.1 ≤ v ∧ v ≤ b.2
  | none => True

instance : DecidablePred EnumRangeOK := fun e => by unfold EnumRangeOK; split <;> infer_instance

def enumRangeRule : Rule where
  name := "enumerator values within the underlying type's range"
  κ := EnumCtx
  ctxs := enumCtxs
  check := enumRangeCheck
  kinds := ["EnumeratorValueOutOfBounds"]
  Spec := EnumRangeOK
  dec := inferInstance

/-- `allowed_underlying_types` -/
def enumIntegralCheck (e : EnumCtx) : List String :=
  match e.underlying with
  | some (_, p) => if (match p with | some p => primIntegral p | none => false) then [] else [code "EnumUnderlyingTypeNotSupported"]
  | none => []

/-- an underlying type, when present, denotes an integral primitive -/
def EnumIntegralOK (e : EnumCtx) : Prop :=
  match e.underlying with
  | some (_, some p) => primIntegral p = true
  | some (_, none) => False
  | none => True

instance : DecidablePred EnumIntegralOK := fun e => by unfold EnumIntegralOK; split <;> infer_instance

def enumIntegralRule : Rule where
  name := "underlying types integral"
  κ := EnumCtx
  ctxs := enumCtxs
  check := enumIntegralCheck
  kinds := ["EnumUnderlyingTypeNotSupported"]
  Spec := EnumIntegralOK
  dec := inferInstance

/-- `enumerator_values_are_unique` -/
def enumUniqueCheck (e : EnumCtx) : List String := (repeats [] e.values).map fun _ => code "DuplicateEnumeratorValue"

def enumUniqueRule : Rule where
  name := "enumerator values unique"
  κ := EnumCtx
  ctxs := enumCtxs
  check := enumUniqueCheck
  kinds := ["DuplicateEnumeratorValue"]
  Spec := fun e => e.values.Nodup
  dec := fun _ => inferInstance

/-- `underlying_type_cannot_be_optional` -/
def enumOptionalCheck (e : EnumCtx) : List String :=
  match e.underlying with
  | some (true, _) => [code "CannotUseOptionalUnderlyingType"]
  | _ => []

/-- an underlying type, when present, is not written optional -/
def EnumNonOptionalOK (e : EnumCtx) : Prop :=
  match e.underlying with
  | some (o, _) => o = false
  | none => True

instance : DecidablePred EnumNonOptionalOK := fun e => by unfold EnumNonOptionalOK; split <;> infer_instance

def enumOptionalRule : Rule where
  name := "underlying types non-optional"
  κ := EnumCtx
  ctxs := enumCtxs
  check := enumOptionalCheck
  kinds := ["CannotUseOptionalUnderlyingType"]
  Spec := EnumNonOptionalOK
  dec := inferInstance

/-- `nonempty_if_checked` -/
def enumNonEmptyCheck (e : EnumCtx) : List String :=
  if !e.unchecked && e.values.isEmpty then [code "MustContainEnumerators"] else []

def enumNonEmptyRule : Rule where
  name := "checked enums non-empty"
  κ := EnumCtx
  ctxs := enumCtxs
  check := enumNonEmptyCheck
  kinds := ["MustContainEnumerators"]
  Spec := fun e => e.unchecked = false → e.values ≠ []
  dec := fun _ => inferInstance

/-- `check_compact_modifier` -/
def enumCompactCheck (e : EnumCtx) : List String :=
  if e.compact then
    (if e.underlying.isSome then [code "CannotBeCompact"] else []) ++ (if e.unchecked then [code "CannotBeCompact"] else [])
  else []

def enumCompactRule : Rule where
  name := "compact enums neither unchecked nor backed"
  κ := EnumCtx
  ctxs := enumCtxs
  check := enumCompactCheck
  kinds := ["CannotBeCompact"]
  Spec := fun e => e.compact = true → e.underlying = none ∧ e.unchecked = false
  dec := fun _ => inferInstance

/-- `cannot_contain_fields` (only called with an underlying type) -/
def enumFieldsCheck (e : EnumCtx) : List String :=
  if e.underlying.isSome then (e.hasFields.filter id).map fun _ => code "EnumeratorCannotContainFields" else []

def enumFieldsRule : Rule where
  name := "no fields under an underlying type"
  κ := EnumCtx
  ctxs := enumCtxs
  check := enumFieldsCheck
  kinds := ["EnumeratorCannotContainFields"]
  Spec := fun e => e.underlying ≠ none → ∀ b ∈ e.hasFields, b = false
  dec := fun _ => inferInstance

/-- stream flags of a parameter list (parameters, or return members, of one operation) -/
def streamLists (P : Program) : List (List Bool) :=
  (allDefs P).flatMap fun sd => (defParamLists sd.2).map (·.map (·.stream))

/-- `stream_parameter_is_last`: every streamed member before the last (`split_last`) -/
def streamLastCheck (ss : List Bool) : List String :=
  (ss.dropLast.filter id).map fun _ => code "StreamedMembersMustBeLast"

/-- `at_most_one_stream_parameter`: with more than one streamed member, all but the last of them -/
def multiStreamCheck (ss : List Bool) : List String :=
  let st := ss.filter id
  if st.length > 1 then st.dropLast.map fun _ => code "MultipleStreamedMembers" else []

def streamRule : Rule where
  name := "'stream' only on the single last parameter"
  κ := List Bool
  ctxs := streamLists
  check := fun ss => streamLastCheck ss ++ multiStreamCheck ss
  kinds := ["StreamedMembersMustBeLast", "MultipleStreamedMembers"]
  Spec := fun ss => ∀ i, ss[i]? = some true → i + 1 = ss.length
  dec := fun ss => decidable_of_iff (∀ i, i < ss.length → ss[i]? = some true → i + 1 = ss.length)
    ⟨fun h i hi => h i (by
        rcases Nat.lt_or_ge i ss.length with hl | hl
        · exact hl
        · rw [List.getElem?_eq_none hl] at hi; cases hi) hi,
     fun h i _ hi => h i hi⟩

/-- own and inherited operation names of an interface -/
structure ShadowCtx where
  own : List String
  inherited : List String
  deriving Repr, DecidableEq, Inhabited

def directBases (P : Program) (t : Table) (key : String) : List String :=
  match findDef P key with
  | some (scope, .iface _ _ _ bases _) =>
    bases.filterMap fun b =>
      match b.ty with
      | .named id => (match resolveNamed t .interface id scope with | .ok (.node n, _) => some n.key | _ => none)
      | _ => none
  | _ => []

/-- `all_base_interfaces`: the transitive closure of the bases (each interface once) -/
def baseClosure (P : Program) (t : Table) : Nat → List String → List String → List String
  | 0, _, acc => acc
  | _ + 1, [], acc => acc
  | fuel + 1, k :: rest, acc =>
    if acc.contains k then baseClosure P t fuel rest acc else baseClosure P t fuel (rest ++ directBases P t k) (acc ++ [k])

def opNames (P : Program) (key : String) : List String :=
  match findDef P key with
  | some (_, .iface _ _ _ _ ops) => ops.map (·.name)
  | _ => []

def shadowCtxs (P : Program) : List ShadowCtx :=
  let t := buildTable P
  let nBases := ((allDefs P).map fun sd => match sd.2 with | .iface _ _ _ bases _ => bases.length | _ => 0).sum
  (allDefs P).filterMap fun sd =>
    match sd.2 with
    | .iface _ _ _ _ ops =>
      let closure := baseClosure P t (2 * nBases + 2) (directBases P t (defKey sd)) []
      some ⟨ops.map (·.name), closure.flatMap (opNames P)⟩
    | _ => none

/-- `check_for_shadowing`: one report per (own, inherited) pair with the same identifier -/
def shadowCheck (c : ShadowCtx) : List String :=
  c.own.flatMap fun o => (c.inherited.filter fun i => o == i).map fun _ => code "Shadows"

def shadowRule : Rule where
  name := "no redeclaration of an inherited operation"
  κ := ShadowCtx
  ctxs := shadowCtxs
  check := shadowCheck
  kinds := ["Shadows"]
  Spec := fun c => ∀ o ∈ c.own, o ∉ c.inherited
  dec := fun _ => inferInstance

def aliasOpts (P : Program) : List Bool :=
  (allDefs P).filterMap fun sd => match sd.2 with | .alias _ _ _ ty => some ty.opt | _ => none

def aliasRule : Rule where
  name := "no alias of an optional type"
  κ := Bool
  ctxs := aliasOpts
  check := fun o => if o then [code "TypeAliasOfOptional"] else []
  kinds := ["TypeAliasOfOptional"]
  Spec := fun o => o = false
  dec := fun _ => inferInstance

/-! ### dictionary keys -/

/-- a key type reference: written optional?, what it denotes -/
structure KRef where
  opt : Bool
  ty : RTy
  deriving Repr, DecidableEq, Inhabited

/-- what the key check needs to know about the definitions: for a struct key its `compact` flag and the types of
    its fields; for an enum key whether it has an underlying type -/
structure KEnv where
  structOf : String → Option (Bool × List KRef)
  enumBacked : String → Bool

def legalKeyPrim (p : Prim) : Bool := primIntegral p || p == .bool || p == .string

/-- `check_dictionary_key_type`, returning the error kind (`none` = valid). `fuel` bounds the descent through
    compact structs; exhausted, it rejects. Under a ranking of the compact-struct graph any fuel above the key's rank agrees
    with `LegalKey` (Props/C04 `keyType_fuel`); that a program past the cycle gate has a ranking below `keyFuel P` is not proved. -/
def keyCheck (env : KEnv) : Nat → KRef → Option String
  | 0, _ => some "KeyTypeNotSupported"
  | fuel + 1, k =>
    if k.opt then some "KeyMustBeNonOptional"
    else match k.ty with
      | .struct key =>
        match env.structOf key with
        | some (compact, fields) =>
          if !compact then some "StructKeyMustBeCompact"
          else if (fields.filterMap (keyCheck env fuel)).isEmpty then none
          else some "StructKeyContainsDisallowedType"
        | none => some "KeyTypeNotSupported"
      | .enum key => if env.enumBacked key then none else some "KeyTypeNotSupported"
      | .custom => none
      | .anon => some "KeyTypeNotSupported"
      | .other => some "KeyTypeNotSupported"
      | .prim p => if legalKeyPrim p then none else some "KeyTypeNotSupported"

/-- the key rule written as a specification: a legal key is not optional and is a bool, a string, an integral
    primitive, a custom type, an enum with an underlying type, or a compact struct all of whose fields are legal keys -/
def legalKeyB (env : KEnv) : Nat → KRef → Bool
  | 0, _ => false
  | fuel + 1, k =>
    !k.opt &&
    (match k.ty with
     | .prim p => legalKeyPrim p
     | .custom => true
     | .enum key => env.enumBacked key
     | .struct key =>
       (match env.structOf key with
        | some (compact, fields) => compact && fields.all (legalKeyB env fuel)
        | none => false)
     | .anon => false
     | .other => false)

/-- the same rule as an inductive predicate (no fuel) -/
inductive LegalKey (env : KEnv) : KRef → Prop where
  | prim (p : Prim) (h : legalKeyPrim p = true) : LegalKey env ⟨false, .prim p⟩
  | custom : LegalKey env ⟨false, .custom⟩
  | enum (key : String) (h : env.enumBacked key = true) : LegalKey env ⟨false, .enum key⟩
  | struct (key : String) (fields : List KRef) (h : env.structOf key = some (true, fields))
      (hf : ∀ f ∈ fields, LegalKey env f) : LegalKey env ⟨false, .struct key⟩

def kref (t : Table) (scope : String) (r : TRef) : KRef := ⟨r.opt, (resolveTy t scope r.ty).1⟩

def kenv (P : Program) : KEnv :=
  let t := buildTable P
  { structOf := fun key =>
      match findDef P key with
      | some (scope, .struct _ _ compact _ fields) => some (compact, fields.map fun f => kref t scope f.ty)
      | _ => none,
    enumBacked := fun key =>
      match findDef P key with
      | some (_, .enum _ _ _ _ _ u _) => u.isSome
      | _ => false }

def keyFuel (P : Program) : Nat := (allDefs P).length + 1

/-- every written dictionary the visitor reaches (at any depth), as its key reference -/
def dictKeys (P : Program) : List KRef :=
  let t := buildTable P
  (allDefs P).flatMap fun sd =>
    ((defVisitedTRefs sd.2).flatMap subRefsT).filterMap fun r =>
      match r.ty with
      | .dict k _ => some (kref t sd.1 k)
      | _ => none

structure KeyCtx where
  env : KEnv
  fuel : Nat
  key : KRef

def keyRule : Rule where
  name := "dictionary keys of a legal type"
  κ := KeyCtx
  ctxs := fun P => (dictKeys P).map fun k => ⟨kenv P, keyFuel P, k⟩
  check := fun c => match keyCheck c.env c.fuel c.key with | some kind => [code kind] | none => []
  kinds := ["KeyMustBeNonOptional", "StructKeyMustBeCompact", "KeyTypeNotSupported", "StructKeyContainsDisallowedType"]
  Spec := fun c => legalKeyB c.env c.fuel c.key = true
  dec := fun _ => inferInstance

/-! ### attribute placement and repetition -/

inductive Target where
  | file | module | struct | field | interface | operation (returnsData : Bool) | parameter
  | enum | enumerator | custom | alias | typeRef
  deriving Repr, DecidableEq, Inhabited

/-- `validate_on` of the five built-in attributes -/
def invalidOn (directive : String) (t : Target) : Bool :=
  if directive == "allow" then t == .module || t == .typeRef
  else if directive == "compress" || directive == "slicedFormat" then
    (match t with | .operation _ => false | _ => true)
  else if directive == "deprecated" then t == .module || t == .typeRef || t == .file || t == .parameter
  else if directive == "oneway" then
    (match t with | .operation returnsData => returnsData | _ => true)
  else false

def nonRepeatable (a : Attr) : Bool := match attrRow a.directive with | some r => !r.repeatable | none => false

/-- elements whose attributes are validated, with their attributes. With `unvisited` also the type references
    `visit_type_ref` never reaches — enum underlying types and interface bases — whose attributes the compiler validates in
    `visit_enum` / `visit_interface` (`validate_attributes_of`, the repair of D-04b). A type reference also carries the
    attributes of the aliases it was resolved through. -/
def attrSites (unvisited : Bool) (P : Program) : List (Target × List Attr) :=
  let t := buildTable P
  P.flatMap fun f =>
    [(Target.file, f.fileAttrs)] ++ (match f.module with | some m => [(Target.module, m.attrs)] | none => []) ++
    f.defs.flatMap fun d =>
      let scope := fileScope f
      [((match d with
         | .struct .. => Target.struct | .iface .. => .interface | .enum .. => .enum | .custom .. => .custom
         | .alias .. => .alias), defAttrs d)] ++
      (defFieldLists d).flatMap (·.map fun fl => (Target.field, fl.attrs)) ++
      (defParamLists d).flatMap (·.map fun p => (Target.parameter, p.attrs)) ++
      (match d with
       | .iface _ _ _ _ ops => ops.map fun o => (Target.operation (!(retParams o.ret).isEmpty), o.attrs)
       | .enum _ _ _ _ _ _ es => es.map fun e => (Target.enumerator, e.attrs)
       | _ => []) ++
      ((defVisitedTRefs d ++ (if unvisited then defOtherTRefs d else [])).flatMap subRefsT).map fun r =>
        (Target.typeRef, r.attrs ++ (resolveTy t scope r.ty).2)

/-- `validate_on` for every attribute of an element -/
def placementCheck (s : Target × List Attr) : List String :=
  (s.2.filter fun a => invalidOn a.directive s.1).map fun _ => code "InvalidAttribute"

def placementRule (unvisited : Bool) : Rule where
  name := "attributes only where legal"
  κ := Target × List Attr
  ctxs := attrSites unvisited
  check := placementCheck
  kinds := ["InvalidAttribute"]
  Spec := fun s => ∀ a ∈ s.2, invalidOn a.directive s.1 = false
  dec := fun _ => inferInstance

/-- `validate_repeated_attributes` -/
def repeatCheck (s : Target × List Attr) : List String :=
  (repeats [] ((s.2.filter nonRepeatable).map (·.directive))).map fun _ => code "AttributeIsNotRepeatable"

def repeatRule (unvisited : Bool) : Rule where
  name := "attributes not repeated"
  κ := Target × List Attr
  ctxs := attrSites unvisited
  check := repeatCheck
  kinds := ["AttributeIsNotRepeatable"]
  Spec := fun s => ((s.2.filter nonRepeatable).map (·.directive)).Nodup
  dec := fun _ => inferInstance

/-- the rules of the `ValidatorVisitor` -/
def visitorRules (unvisited : Bool) : List Rule :=
  [placementRule unvisited, repeatRule unvisited, enumRangeRule, enumIntegralRule, enumUniqueRule, enumOptionalRule, enumNonEmptyRule,
   enumCompactRule, compactTagRule, enumFieldsRule, compactEmptyRule, taggedOptionalRule, dupTagRule, streamRule,
   shadowRule, aliasRule, keyRule]

/-! ## the whole pipeline -/

/-- `CompilationState::apply` / the early returns of `validate_ast`: the first phase that reports an error ends
    the compilation -/
def firstNonEmpty : List (List String) → List String
  | [] => []
  | l :: rest => if l.isEmpty then firstNonEmpty rest else l

def phases (P : Program) : List (List String) :=
  [parseCodes P, attrPatchRule.codes P, resolveRule.codes P, cycleRule.codes P, namesRule.codes P,
   (visitorRules Gen.unvisitedTypeRefAttrsValidated).flatMap (·.codes P)]

end Slicec.Validate

namespace Slicec

open Slicec.Validate

/-- the error codes the compiler reports for `P` (as a list; compared as a set) -/
def validate (P : Program) : List String := firstNonEmpty (phases P)

/-- rules after parsing, in phase order. `unvisited`: the attribute rules also cover enum underlying types and
    interface bases (enforced by the compiler since the repair of D-04b: `Gen.unvisitedTypeRefAttrsValidated`). -/
def gatedRules (unvisited : Bool) : List Rule :=
  [attrPatchRule, resolveRule, cycleRule, namesRule] ++ visitorRules unvisited

/-- the specification: the program satisfies every language rule of the property -/
def WellFormed (P : Program) : Prop := ParseOK P ∧ ∀ r ∈ gatedRules true, r.Holds P

/-- what the compiler actually enforces. Whether the attribute rules also range over enum underlying types and interface
    bases is read off the source (`Gen.unvisitedTypeRefAttrsValidated`: true since the repair of D-04b). -/
def WellFormedAsEnforced (P : Program) : Prop := ParseOK P ∧ ∀ r ∈ gatedRules Gen.unvisitedTypeRefAttrsValidated, r.Holds P

/-- the weaker rule set in which attributes on enum underlying types and interface bases are not looked at -/
def WellFormedVisitedOnly (P : Program) : Prop := ParseOK P ∧ ∀ r ∈ gatedRules false, r.Holds P

instance (P : Program) : Decidable (WellFormed P) := by unfold WellFormed; infer_instance
instance (P : Program) : Decidable (WellFormedAsEnforced P) := by unfold WellFormedAsEnforced; infer_instance
instance (P : Program) : Decidable (WellFormedVisitedOnly P) := by unfold WellFormedVisitedOnly; infer_instance

/-- kinds of error a parse-time violation is reported with -/
def parseKinds : List String := ["IntegerLiteralOverflows", "TagValueOutOfBounds", "ReturnTuplesMustContainAtLeastTwoElements", "Syntax"]

/-- `code` is the diagnostic of a rule that `P` actually violates -/
def Violates (c : String) (P : Program) : Prop :=
  ((∃ k ∈ parseKinds, c = code k) ∧ ¬ ParseOK P) ∨
  ∃ r ∈ gatedRules Gen.unvisitedTypeRefAttrsValidated, (∃ k ∈ r.kinds, c = code k) ∧ ¬ r.Holds P

instance (c : String) (P : Program) : Decidable (Violates c P) := by unfold Violates; infer_instance

/-- sorted set of codes, `-` when empty: the projection `codes` of the `compile` engine -/
def codesProjection (cs : List String) : String :=
  let s := (sortStrings cs).eraseDups
  if s.isEmpty then "-" else ",".intercalate s

end Slicec
