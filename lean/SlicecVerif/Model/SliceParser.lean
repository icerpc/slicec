/-
  Executable model of the Slice parser (slicec/src/parsers/slice/grammar.lalrpop + the actions of grammar.rs), C02:
  a recursive-descent parser over the token list of Model/SliceLexer.lean that produces the abstract syntax of
  Model/Syntax.lean.  One function per nonterminal of the grammar (`productions` below lists them with their
  right-hand sides; `Gen/SliceGrammar.lean` is the list extracted from grammar.lalrpop, Props/C02 proves them equal).

  The grammar is LR(1); after left-factoring the common `Prelude` prefix every choice is decided by the next token,
  so the descent is deterministic and accepts exactly the language of the grammar:
    * `Prelude` = any interleaving of doc comments and `[attribute]`s (the AST keeps the two lists separately);
    * `UndelimitedList<T>` = `(T ","?)*`, `T*`, `FileAttribute*`, `LocalAttribute*`, `Definition*` are all `manyF`
      over a *step* (`none` = syntax error, `some none` = no element starts here, `some (some (x, rest))` = element);
      an element starts where its first token after the prelude says so; a non-empty prelude that is not followed by
      an element is an error (the LR automaton has already reduced `Prelude`);
    * `NonEmptyCommaList<T>` = `T ("," T)* ","?`, `CommaList<T>` = that or nothing.
  Recursion: only type expressions nest (`parseTypeRefF`, fuel = nesting depth ≤ number of tokens); lists use `manyF`
  (fuel = number of elements ≤ number of tokens). Every entry point supplies `length + 1`, and
  Lemmas/SliceParserFuel.lean proves that more fuel never changes a result (the fuel is never exhausted).

  What the *actions* add to the grammar is modelled too where it is about syntax: a doc comment on a module or on a
  parameter is accepted by the grammar and reported as a syntax error (E002) by the action — the `Bool` next to the
  results ("an action reported a syntax error"); `moduleRequired` is the check `parse_file` makes after the parser.
  Integer literals: `try_parse_integer` (an invalid literal is a non-syntax error and yields the dummy value 0).
-/
import SlicecVerif.Model.SliceLexer
import SlicecVerif.Model.Literals

namespace Slicec.SPar

open Slicec Slicec.SLex

abbrev Toks := List SliceTok

/-- a parser: the value and the unread tokens, `none` = syntax error -/
abbrev P (α : Type) := Toks → Option (α × Toks)

/-! ## lists -/

/-- one step of a list: `none` = syntax error, `some none` = no (further) element starts here -/
abbrev Step (α : Type) := Toks → Option (Option (α × Toks))

/-- `X*`: elements as long as one starts -/
def manyF {α : Type} (step : Step α) : Nat → Toks → Option (List α × Toks)
  | 0, _ => none
  | n + 1, ts =>
    match step ts with
    | none => none
    | some none => some ([], ts)
    | some (some (a, r)) =>
      match manyF step n r with
      | some (as, r') => some (a :: as, r')
      | none => none

/-- `X*` with enough fuel: every element consumes at least one token -/
def many {α : Type} (step : Step α) (ts : Toks) : Option (List α × Toks) := manyF step (ts.length + 1) ts

/-- `","?` -/
def skipComma : Toks → Toks
  | .comma :: r => r
  | r => r

/-! ## identifiers -/

def joinScoped (segs : List (List Char)) : String := "::".intercalate (segs.map String.ofList)

/-- `("::" <identifier>)*`; a `::` that is not followed by an identifier is an error (nothing else can follow `::`) -/
def parseScopedTail : Toks → Option (List (List Char) × Toks)
  | .dcolon :: .ident s :: r =>
    match parseScopedTail r with
    | some (v, r') => some (s :: v, r')
    | none => none
  | .dcolon :: _ => none
  | r => some ([], r)

/-- `RelativeIdentifier`: `identifier ("::" identifier)*`, joined with `::` -/
def parseRelIdent : P String
  | .ident s :: r =>
    match parseScopedTail r with
    | some (v, r') => some (joinScoped (s :: v), r')
    | none => none
  | _ => none

/-- `GlobalIdentifier`: `("::" identifier)+`, joined with a leading `::` -/
def parseGlobalIdent : P String
  | .dcolon :: .ident s :: r =>
    match parseScopedTail r with
    | some (v, r') => some (joinScoped ([] :: s :: v), r')
    | none => none
  | _ => none

/-! ## attributes -/

/-- `AttributeArgument` -/
def argOf : SliceTok → Option String
  | .strLit s => some (String.ofList (unescapeLit s false))
  | .ident s => some (String.ofList s)
  | _ => none

/-- after an argument: `("," arg)* ","? ")"` -/
def parseArgsTail : Toks → Option (List String × Toks)
  | .rparen :: r => some ([], r)
  | .comma :: .rparen :: r => some ([], r)
  | .comma :: t :: r =>
    match argOf t with
    | some x =>
      match parseArgsTail r with
      | some (xs, r') => some (x :: xs, r')
      | none => none
    | none => none
  | _ => none

/-- after `(`: `CommaList<AttributeArgument> ")"` -/
def parseArgs : Toks → Option (List String × Toks)
  | .rparen :: r => some ([], r)
  | t :: r =>
    match argOf t with
    | some x =>
      match parseArgsTail r with
      | some (xs, r') => some (x :: xs, r')
      | none => none
    | none => none
  | [] => none

/-- `Attribute`: `RelativeIdentifier ("(" CommaList<AttributeArgument> ")")?` -/
def parseAttribute : P Attr := fun ts =>
  match parseRelIdent ts with
  | none => none
  | some (d, r) =>
    match r with
    | .lparen :: r1 =>
      match parseArgs r1 with
      | some (args, r2) => some (⟨d, args⟩, r2)
      | none => none
    | _ => some (⟨d, []⟩, r)

/-- `LocalAttribute*` -/
def localAttrStep : Step Attr
  | .lbracket :: r =>
    match parseAttribute r with
    | some (a, .rbracket :: r') => some (some (a, r'))
    | _ => none
  | _ => some none

/-- `FileAttribute*` -/
def fileAttrStep : Step Attr
  | .dlbracket :: r =>
    match parseAttribute r with
    | some (a, .drbracket :: r') => some (some (a, r'))
    | _ => none
  | _ => some none

/-- one element of a `Prelude` -/
inductive PreItem where
  | doc (s : String)
  | attr (a : Attr)
  deriving Inhabited

def preludeStep : Step PreItem
  | .doc s :: r => some (some (.doc (String.ofList s), r))
  | .lbracket :: r =>
    match parseAttribute r with
    | some (a, .rbracket :: r') => some (some (.attr a, r'))
    | _ => none
  | _ => some none

def preDocs : List PreItem → List String
  | [] => []
  | .doc s :: r => s :: preDocs r
  | .attr _ :: r => preDocs r

def preAttrs : List PreItem → List Attr
  | [] => []
  | .doc _ :: r => preAttrs r
  | .attr a :: r => a :: preAttrs r

/-- `Prelude`: doc comment lines and local attributes in any order -/
def parsePrelude : P (List String × List Attr) := fun ts =>
  match many preludeStep ts with
  | some (items, r) => some ((preDocs items, preAttrs items), r)
  | none => none

/-- the common frame of the lists whose elements start with a `Prelude` (fields, parameters, enumerators, operations,
    definitions): read a prelude; if an element starts after it (`starts`), its `body` must follow, then `","?` where the
    list allows one; a prelude that is not empty and not followed by an element is an error; otherwise the list ends -/
def preStep {α : Type} (starts : Toks → Bool) (body : List String → List Attr → P α) (comma : Bool) : Step α := fun ts =>
  match parsePrelude ts with
  | none => none
  | some ((docs, attrs), r) =>
    if starts r then
      match body docs attrs r with
      | some (x, r') => some (some (x, if comma then skipComma r' else r'))
      | none => none
    else if docs.isEmpty && attrs.isEmpty then some none
    else none

/-! ## integers -/

/-- `try_parse_integer`: underscores removed, base from the prefix, an unparsable literal gives the dummy value 0
    (and a non-syntax error); the `IntLit` also remembers the base and whether underscores were written -/
def intOfText (s : List Char) : IntLit :=
  let sanitized := s.filter (· ≠ '_')
  let base := match sanitized with
    | '0' :: 'b' :: _ => 2
    | '0' :: 'x' :: _ => 16
    | _ => 10
  ⟨false, base, (parseIntMag s).getD 0, s.contains '_'⟩

/-- `SignedInteger`: `Integer | "-" Integer` -/
def parseSignedInt : P IntLit
  | .intLit s :: r => some (intOfText s, r)
  | .minus :: .intLit s :: r => some ({ intOfText s with neg := true }, r)
  | _ => none

/-- `Tag?`: `tag "(" SignedInteger ")"` -/
def parseTagOpt : P (Option IntLit)
  | .kw "TagKeyword" :: .lparen :: r =>
    match parseSignedInt r with
    | some (l, .rparen :: r') => some (some l, r')
    | _ => none
  | .kw "TagKeyword" :: _ => none
  | r => some (none, r)

/-! ## types -/

/-- `Primitive` -/
def primOfKind (k : String) : Option Prim :=
  Prim.all.find? fun p => Gen.sliceKeywords.lookup p.kw == some k

/-- the end of a `TypeRef`: `"?"?` -/
def finTy (attrs : List Attr) (ty : TyExpr) : Toks → Option (TRef × Toks)
  | .qmark :: r => some (.mk attrs ty true, r)
  | r => some (.mk attrs ty false, r)

/-- `TypeRefDefinition "?"?` after the local attributes; `rec` parses the nested type references -/
def tyBody (rec : P TRef) (attrs : List Attr) : P TRef
  | .kw k :: r1 =>
    if k == "SequenceKeyword" then
      match r1 with
      | .lchevron :: r2 =>
        match rec r2 with
        | some (e, .rchevron :: r3) => finTy attrs (.seq e) r3
        | _ => none
      | _ => none
    else if k == "DictionaryKeyword" then
      match r1 with
      | .lchevron :: r2 =>
        match rec r2 with
        | some (k', .comma :: r3) =>
          match rec r3 with
          | some (v, .rchevron :: r4) => finTy attrs (.dict k' v) r4
          | _ => none
        | _ => none
      | _ => none
    else if k == "ResultKeyword" then
      match r1 with
      | .lchevron :: r2 =>
        match rec r2 with
        | some (s, .comma :: r3) =>
          match rec r3 with
          | some (f, .rchevron :: r4) => finTy attrs (.result s f) r4
          | _ => none
        | _ => none
      | _ => none
    else
      match primOfKind k with
      | some p => finTy attrs (.prim p) r1
      | none => none
  | .ident s :: r =>
    match parseRelIdent (.ident s :: r) with
    | some (id, r1) => finTy attrs (.named id) r1
    | none => none
  | .dcolon :: r =>
    match parseGlobalIdent (.dcolon :: r) with
    | some (id, r1) => finTy attrs (.named id) r1
    | none => none
  | _ => none

/-- `TypeRef`: `LocalAttribute* TypeRefDefinition "?"?`, fuel = nesting depth -/
def parseTypeRefF : Nat → P TRef
  | 0, _ => none
  | n + 1, ts =>
    match many localAttrStep ts with
    | none => none
    | some (attrs, r) => tyBody (parseTypeRefF n) attrs r

def parseTypeRef : P TRef := fun ts => parseTypeRefF (ts.length + 1) ts

/-- the tokens a `TypeRef` can start with (decides `("," T)*` against the trailing `","?` of `NonEmptyCommaList`) -/
def startsTypeRef : Toks → Bool
  | .lbracket :: _ => true
  | .ident _ :: _ => true
  | .dcolon :: _ => true
  | .kw k :: _ => k == "SequenceKeyword" || k == "DictionaryKeyword" || k == "ResultKeyword" || (primOfKind k).isSome
  | _ => false

/-! ## members -/

def parseIdent : P String
  | .ident s :: r => some (String.ofList s, r)
  | _ => none

/-- does a field / parameter start here (after its prelude)? `Tag? Identifier` -/
def startsMember : Toks → Bool
  | .kw "TagKeyword" :: _ => true
  | .ident _ :: _ => true
  | _ => false

/-- `Field` after its prelude: `Tag? Identifier ":" TypeRef` -/
def parseFieldBody (docs : List String) (attrs : List Attr) : P Field := fun ts =>
  match parseTagOpt ts with
  | none => none
  | some (tag, r1) =>
    match r1 with
    | .ident name :: .colon :: r2 =>
      match parseTypeRef r2 with
      | some (ty, r3) => some (⟨docs, attrs, tag, String.ofList name, ty⟩, r3)
      | none => none
    | _ => none

/-- one element of `UndelimitedList<Field>`: `Field ","?` -/
def fieldStep : Step Field := preStep startsMember parseFieldBody true

/-- an optional keyword: `stream?`, `idempotent?` -/
def takeKw (kind : String) : Toks → Bool × Toks
  | .kw k :: r => if k == kind then (true, r) else (false, .kw k :: r)
  | r => (false, r)

/-- `Parameter` after its prelude: `Tag? Identifier ":" stream? TypeRef`; the `Bool`: the prelude had doc comments,
    which the action reports as a syntax error -/
def parseParamBody (docs : List String) (attrs : List Attr) : P (Param × Bool) := fun ts =>
  match parseTagOpt ts with
  | none => none
  | some (tag, r1) =>
    match r1 with
    | .ident name :: .colon :: r2 =>
      match parseTypeRef (takeKw "StreamKeyword" r2).2 with
      | some (ty, r4) => some ((⟨attrs, tag, String.ofList name, (takeKw "StreamKeyword" r2).1, ty⟩, !docs.isEmpty), r4)
      | none => none
    | _ => none

/-- one element of `UndelimitedList<Parameter>` -/
def paramStep : Step (Param × Bool) := preStep startsMember parseParamBody true

/-- `"(" UndelimitedList<Parameter> ")"` after the `(` -/
def parseParams : P (List Param × Bool) := fun ts =>
  match many paramStep ts with
  | some (ps, .rparen :: r) => some ((ps.map (·.1), ps.any (·.2)), r)
  | _ => none

/-- `ReturnType?` -/
def parseRet : P (Ret × Bool)
  | .arrow :: .lparen :: r =>
    match parseParams r with
    | some ((ps, bad), r') => some ((.tuple ps, bad), r')
    | none => none
  | .arrow :: r =>
    match parseTagOpt r with
    | none => none
    | some (tag, r1) =>
      match parseTypeRef (takeKw "StreamKeyword" r1).2 with
      | some (ty, r3) => some ((.single tag (takeKw "StreamKeyword" r1).1 ty, false), r3)
      | none => none
  | r => some ((.none, false), r)

/-- does an operation start here (after its prelude)? `idempotent? Identifier` -/
def startsOp : Toks → Bool
  | .kw "IdempotentKeyword" :: _ => true
  | .ident _ :: _ => true
  | _ => false

/-- `Operation` after its prelude: `idempotent? Identifier "(" UndelimitedList<Parameter> ")" ReturnType?` -/
def parseOpBody (docs : List String) (attrs : List Attr) : P (Op × Bool) := fun ts =>
  match (takeKw "IdempotentKeyword" ts).2 with
  | .ident name :: .lparen :: r1 =>
    match parseParams r1 with
    | none => none
    | some ((ps, bad1), r2) =>
      match parseRet r2 with
      | some ((ret, bad2), r3) =>
        some ((⟨docs, attrs, (takeKw "IdempotentKeyword" ts).1, String.ofList name, ps, ret⟩, bad1 || bad2), r3)
      | none => none
  | _ => none

/-- one element of `Operation*` -/
def opStep : Step (Op × Bool) := preStep startsOp parseOpBody false

/-- `("(" UndelimitedList<Field> ")")?` -/
def parseEnumFields : P (Option (List Field))
  | .lparen :: r1 =>
    match many fieldStep r1 with
    | some (fs, .rparen :: r2) => some (some fs, r2)
    | _ => none
  | r => some (none, r)

/-- `("=" SignedInteger)?` -/
def parseEnumValue : P (Option IntLit)
  | .equals :: r =>
    match parseSignedInt r with
    | some (l, r') => some (some l, r')
    | none => none
  | r => some (none, r)

/-- `Enumerator` after its prelude: `Identifier ("(" UndelimitedList<Field> ")")? ("=" SignedInteger)?` -/
def parseEnumeratorBody (docs : List String) (attrs : List Attr) : P Enumerator
  | .ident name :: r =>
    match parseEnumFields r with
    | none => none
    | some (fields, r1) =>
      match parseEnumValue r1 with
      | none => none
      | some (v, r2) => some (⟨docs, attrs, String.ofList name, fields, v⟩, r2)
  | _ => none

def startsEnumerator : Toks → Bool
  | .ident _ :: _ => true
  | _ => false

/-- one element of `UndelimitedList<Enumerator>` -/
def enumeratorStep : Step Enumerator := preStep startsEnumerator parseEnumeratorBody true

/-! ## definitions -/

/-- after the first base: `("," TypeRef)*`; a comma that is not followed by the start of a type is the trailing one -/
def baseStep : Step TRef
  | .comma :: r =>
    if startsTypeRef r then
      match parseTypeRef r with
      | some (t, r') => some (some (t, r'))
      | none => none
    else some none
  | _ => some none

/-- `NonEmptyCommaList<TypeRef>` -/
def parseBases : P (List TRef) := fun ts =>
  match parseTypeRef ts with
  | none => none
  | some (b, r) =>
    match many baseStep r with
    | some (bs, r') => some (b :: bs, skipComma r')
    | none => none

/-- `"{" UndelimitedList<Field> "}"` -/
def parseFieldBlock : P (List Field)
  | .lbrace :: r =>
    match many fieldStep r with
    | some (fs, .rbrace :: r') => some (fs, r')
    | _ => none
  | _ => none

/-- does a definition start here (after its prelude)? -/
def startsDef : Toks → Bool
  | .kw k :: _ => k == "CompactKeyword" || k == "UncheckedKeyword" || k == "StructKeyword" || k == "InterfaceKeyword" ||
      k == "EnumKeyword" || k == "CustomKeyword" || k == "TypeAliasKeyword"
  | _ => false

/-- `Identifier "{" UndelimitedList<Field> "}"` after `compact? struct` -/
def parseStructRest (docs : List String) (attrs : List Attr) (compact : Bool) : P (Def × Bool)
  | .ident name :: r1 =>
    match parseFieldBlock r1 with
    | some (fs, r2) => some ((.struct docs attrs compact (String.ofList name) fs, false), r2)
    | none => none
  | _ => none

/-- `(":" TypeRef)?` -/
def parseUnderlying : P (Option TRef)
  | .colon :: r1 =>
    match parseTypeRef r1 with
    | some (u, r2) => some (some u, r2)
    | none => none
  | r => some (none, r)

/-- `"{" UndelimitedList<Enumerator> "}"` -/
def parseEnumeratorBlock : P (List Enumerator)
  | .lbrace :: r =>
    match many enumeratorStep r with
    | some (es, .rbrace :: r') => some (es, r')
    | _ => none
  | _ => none

/-- `Identifier (":" TypeRef)? "{" UndelimitedList<Enumerator> "}"` after `compact? unchecked? enum` -/
def parseEnumRest (docs : List String) (attrs : List Attr) (compact unchecked : Bool) : P (Def × Bool)
  | .ident name :: r =>
    match parseUnderlying r with
    | none => none
    | some (u, r1) =>
      match parseEnumeratorBlock r1 with
      | some (es, r2) => some ((.enum docs attrs compact unchecked (String.ofList name) u es, false), r2)
      | none => none
  | _ => none

/-- `(":" NonEmptyCommaList<TypeRef>)?` -/
def parseBasesOpt : P (List TRef)
  | .colon :: r => parseBases r
  | r => some ([], r)

/-- `"{" Operation* "}"` -/
def parseOpBlock : P (List (Op × Bool))
  | .lbrace :: r =>
    match many opStep r with
    | some (os, .rbrace :: r') => some (os, r')
    | _ => none
  | _ => none

/-- `Identifier (":" NonEmptyCommaList<TypeRef>)? "{" Operation* "}"` after `interface` -/
def parseIfaceRest (docs : List String) (attrs : List Attr) : P (Def × Bool)
  | .ident name :: r =>
    match parseBasesOpt r with
    | none => none
    | some (bs, r1) =>
      match parseOpBlock r1 with
      | some (os, r2) => some ((.iface docs attrs (String.ofList name) bs (os.map (·.1)), os.any (·.2)), r2)
      | none => none
  | _ => none

/-- `Definition` after its prelude; the keyword(s) decide the production -/
def parseDefBody (docs : List String) (attrs : List Attr) : P (Def × Bool)
  | .kw "CompactKeyword" :: .kw "StructKeyword" :: r => parseStructRest docs attrs true r
  | .kw "StructKeyword" :: r => parseStructRest docs attrs false r
  | .kw "CompactKeyword" :: .kw "UncheckedKeyword" :: .kw "EnumKeyword" :: r => parseEnumRest docs attrs true true r
  | .kw "CompactKeyword" :: .kw "EnumKeyword" :: r => parseEnumRest docs attrs true false r
  | .kw "UncheckedKeyword" :: .kw "EnumKeyword" :: r => parseEnumRest docs attrs false true r
  | .kw "EnumKeyword" :: r => parseEnumRest docs attrs false false r
  | .kw "InterfaceKeyword" :: r => parseIfaceRest docs attrs r
  | .kw "CustomKeyword" :: .ident name :: r => some ((.custom docs attrs (String.ofList name), false), r)
  | .kw "TypeAliasKeyword" :: .ident name :: .equals :: r =>
    match parseTypeRef r with
    | some (ty, r2) => some ((.alias docs attrs (String.ofList name) ty, false), r2)
    | none => none
  | _ => none

/-- one element of `Definition*` -/
def defStep : Step (Def × Bool) := preStep startsDef parseDefBody false

/-! ## the file -/

/-- `Definition*` up to the end of the input -/
def parseDefs (ts : Toks) : Option (List Def × Bool) :=
  match many defStep ts with
  | some (ds, []) => some (ds.map (·.1), ds.any (·.2))
  | _ => none

/-- is the next token the `module` keyword? -/
def afterModuleKw : Toks → Option Toks
  | .kw "ModuleKeyword" :: r => some r
  | _ => none

/-- `SliceFile`: `FileAttribute* Module? Definition*`; `Module` = `Prelude module RelativeIdentifier`.
    After the file attributes a prelude is read; the `module` keyword after it makes it the module's, otherwise it
    belongs to the first definition (which is then parsed from where the prelude started).
    The `Bool`: an action reported a syntax error (doc comment on the module or on a parameter). -/
def parseFileRaw (ts : Toks) : Option (SFile × Bool) :=
  match many fileAttrStep ts with
  | none => none
  | some (fas, r) =>
    match parsePrelude r with
    | none => none
    | some ((docs, attrs), r1) =>
      match afterModuleKw r1 with
      | some r2 =>
        match parseRelIdent r2 with
        | none => none
        | some (path, r3) =>
          match parseDefs r3 with
          | some (ds, bad) => some (⟨fas, some ⟨attrs, path⟩, ds⟩, bad || !docs.isEmpty)
          | none => none
      | none =>
        match parseDefs r with
        | some (ds, bad) => some (⟨fas, none, ds⟩, bad)
        | none => none

/-- the parser's verdict: the file, unless the grammar rejects the tokens or an action reports a syntax error -/
def parseFile (ts : Toks) : Option SFile :=
  match parseFileRaw ts with
  | some (f, false) => some f
  | _ => none

/-- `parse_file` after the parser: "module declaration is required" (a syntax error, E002) -/
def moduleRequired (f : SFile) : Bool := !f.defs.isEmpty && f.module.isNone

/-- lexer and parser in sequence: the file a source text denotes (`none`: lexer error, grammar, or an action's syntax error) -/
def parseText (text : List Char) : Option SFile :=
  match lexSlice text with
  | .ok ts => parseFile ts
  | .error _ => none

/-- text → is a syntax error (E002) reported for this source block? (lexer error, grammar, actions, missing module) -/
def syntaxError (text : List Char) : Bool :=
  match lexSlice text with
  | .error _ => true
  | .ok ts =>
    match parseFile ts with
    | none => true
    | some f => moduleRequired f

/-! ## the token sequence of an abstract file, structurally

  `…Toks` give, for the comma-free parts of the syntax, the tokens that `tokensWith _ _ (…Items …)` denotes
  (Lemmas/SliceParserItems.lean proves it); lists with optional commas are described by the shapes of
  Lemmas/SliceParserShapes.lean.  Scoped names and directives keep the tokens of their printed spelling (`nameToks`,
  `dirToks`): the printer's escaping goes through `String.splitOn`, about which core proves nothing, so the
  condition that these tokens read back as the name is a decidable leaf condition (`nameRT`, `pathRT`, `dirRT`). -/

/-- the printer's escaping of a string argument, on characters (= `escapeStrLit`) -/
def escArg (x : List Char) : List Char := x.flatMap fun c => if c == '"' || c == '\\' then ['\\', c] else [c]

/-- an attribute argument: bare when it looks like an identifier and is not a keyword, quoted otherwise -/
def argTok (x : String) : SliceTok :=
  if isIdentLike x && !(keywords.contains x) then .ident x.toList else .strLit (escArg x.toList)

def argsToks : List String → Toks
  | [] => []
  | [x] => [argTok x]
  | x :: y :: r => argTok x :: .comma :: argsToks (y :: r)

/-- a directive as the lexer reads its spelling inside `[ ]` -/
def dirToks (d : String) : Toks := toksOf (lexRun true d.toList).items

def attrToks (a : Attr) : Toks :=
  dirToks a.directive ++ (if a.args.isEmpty then [] else .lparen :: argsToks a.args ++ [.rparen])

def localAttrsToks (as : List Attr) : Toks := as.flatMap fun a => .lbracket :: attrToks a ++ [.rbracket]

def fileAttrsToks (as : List Attr) : Toks := as.flatMap fun a => .dlbracket :: attrToks a ++ [.drbracket]

/-- a scoped name as the lexer reads its printed (keyword-escaped) spelling outside attributes -/
def nameToks (id : String) : Toks := toksOf (lexRun false (escapeScoped id).toList).items

mutual
def tyToks : TyExpr → Toks
  | .prim p => [checkKeyword p.kw.toList]
  | .named id => nameToks id
  | .seq e => .kw "SequenceKeyword" :: .lchevron :: trefToks e ++ [.rchevron]
  | .dict k v => .kw "DictionaryKeyword" :: .lchevron :: trefToks k ++ .comma :: trefToks v ++ [.rchevron]
  | .result s f => .kw "ResultKeyword" :: .lchevron :: trefToks s ++ .comma :: trefToks f ++ [.rchevron]
def trefToks : TRef → Toks
  | .mk attrs ty opt => localAttrsToks attrs ++ tyToks ty ++ (if opt then [.qmark] else [])
end

def intToks (l : IntLit) : Toks := (if l.neg then [.minus] else []) ++ [.intLit l.magText.toList]

def tagToks : Option IntLit → Toks
  | none => []
  | some l => .kw "TagKeyword" :: .lparen :: intToks l ++ [.rparen]

def docToks (doc : List String) : Toks := doc.map fun l => .doc l.toList

def streamToks (b : Bool) : Toks := if b then [.kw "StreamKeyword"] else []

def fieldToks (f : Field) : Toks :=
  docToks f.doc ++ localAttrsToks f.attrs ++ tagToks f.tag ++ .ident f.name.toList :: .colon :: trefToks f.ty

def paramToks (p : Param) : Toks :=
  localAttrsToks p.attrs ++ tagToks p.tag ++ .ident p.name.toList :: .colon :: (streamToks p.stream ++ trefToks p.ty)

/-! ### leaf conditions of the inverse theorem (decidable; each is necessary, see the examples in Props/C02) -/

/-- the whole token list is one `RelativeIdentifier` -/
def relOf (ts : Toks) : Option String :=
  match parseRelIdent ts with
  | some (id, []) => some id
  | _ => none

/-- the whole token list is one `RelativeIdentifier` or `GlobalIdentifier` -/
def scopedOf (ts : Toks) : Option String :=
  match ts with
  | .dcolon :: _ =>
    match parseGlobalIdent ts with
    | some (id, []) => some id
    | _ => none
  | _ => relOf ts

/-- a type name reads back as itself -/
def nameRT (id : String) : Bool := scopedOf (nameToks id) == some id
/-- a module path reads back as itself -/
def pathRT (id : String) : Bool := relOf (nameToks id) == some id
/-- an attribute directive reads back as itself -/
def dirRT (d : String) : Bool := relOf (dirToks d) == some d

/-- an integer literal reads back as itself: the digits are the value in the base, `underscores` says whether any
    were written (three digits or more), the value needs no more than the 200 digits the printer writes -/
def intRT (l : IntLit) : Bool := intOfText l.magText.toList == { l with neg := false }

/-- a doc line reads back as itself: a fourth slash would make the line a plain comment, a final carriage return
    belongs to the line ending -/
def docLineRT (l : String) : Bool := l.toList.head? != some '/' && l.toList.getLast? != some '\r'

def attrRT (a : Attr) : Bool := dirRT a.directive
def docRT (doc : List String) : Bool := doc.all docLineRT
def tagRT : Option IntLit → Bool
  | none => true
  | some l => intRT l

mutual
def tyRT : TyExpr → Bool
  | .prim _ => true
  | .named id => nameRT id
  | .seq e => trefRT e
  | .dict k v => trefRT k && trefRT v
  | .result s f => trefRT s && trefRT f
def trefRT : TRef → Bool
  | .mk attrs ty _ => attrs.all attrRT && tyRT ty
end

def fieldRT (f : Field) : Bool := docRT f.doc && f.attrs.all attrRT && tagRT f.tag && trefRT f.ty
def paramRT (p : Param) : Bool := p.attrs.all attrRT && tagRT p.tag && trefRT p.ty
def retRT : Ret → Bool
  | .none => true
  | .single tag _ ty => tagRT tag && trefRT ty
  | .tuple ps => ps.all paramRT
def opRT (o : Op) : Bool := docRT o.doc && o.attrs.all attrRT && o.params.all paramRT && retRT o.ret
def enumeratorRT (e : Enumerator) : Bool :=
  docRT e.doc && e.attrs.all attrRT &&
  (match e.fields with | none => true | some fs => fs.all fieldRT) &&
  (match e.value with | none => true | some l => intRT l)
def defRT : Def → Bool
  | .struct doc attrs _ _ fields => docRT doc && attrs.all attrRT && fields.all fieldRT
  | .iface doc attrs _ bases ops => docRT doc && attrs.all attrRT && bases.all trefRT && ops.all opRT
  | .enum doc attrs _ _ _ underlying es =>
    docRT doc && attrs.all attrRT && (match underlying with | none => true | some u => trefRT u) && es.all enumeratorRT
  | .custom doc attrs _ => docRT doc && attrs.all attrRT
  | .alias doc attrs _ ty => docRT doc && attrs.all attrRT && trefRT ty

/-- the leaf conditions of `parse_print` on a whole file (the shape of the file is unconstrained) -/
def fileRT (f : SFile) : Bool :=
  f.fileAttrs.all attrRT &&
  (match f.module with | none => true | some m => m.attrs.all attrRT && pathRT m.path) &&
  f.defs.all defRT

/-! ## the productions this parser implements

  The list of productions of grammar.lalrpop as this model understands them, in the normal form of the translator
  (`Gen/SliceGrammar.lean`: location markers and bindings removed; the action reduced to the helper it calls), each with
  the function above that implements it.  Props/C02.lean proves `productions = Gen.sliceGrammar` and
  `tokenKinds = Gen.sliceTerminals.map (·.2)`: a production or terminal that is added, removed, reordered or
  re-shaped in the source re-opens that proof, and with it the claim that the descent above is the grammar. -/

/-- the token kinds the parser distinguishes (`SliceTok`: `ident`, `strLit`, `intLit`, `doc`, `kw <kind>`, punctuation) -/
def tokenKinds : List String :=
  ["Identifier", "StringLiteral", "IntegerLiteral", "DocComment", "ModuleKeyword", "StructKeyword", "InterfaceKeyword", "EnumKeyword", "CustomKeyword", "TypeAliasKeyword", "ResultKeyword", "SequenceKeyword", "DictionaryKeyword", "BoolKeyword", "Int8Keyword", "UInt8Keyword", "Int16Keyword", "UInt16Keyword", "Int32Keyword", "UInt32Keyword", "VarInt32Keyword", "VarUInt32Keyword", "Int64Keyword", "UInt64Keyword", "VarInt62Keyword", "VarUInt62Keyword", "Float32Keyword", "Float64Keyword", "StringKeyword", "CompactKeyword", "IdempotentKeyword", "StreamKeyword", "TagKeyword", "UncheckedKeyword", "LeftParenthesis", "RightParenthesis", "LeftBracket", "RightBracket", "DoubleLeftBracket", "DoubleRightBracket", "LeftBrace", "RightBrace", "LeftChevron", "RightChevron", "Comma", "Colon", "DoubleColon", "Equals", "QuestionMark", "Arrow", "Minus"]

def productions : List (String × List (List String × String)) := [
  -- parseFileRaw
  ("SliceFile", [(["SliceFilePrelude", "Module?", "Definition*"], "")]),
  -- many fileAttrStep
  ("SliceFilePrelude", [(["FileAttribute*"], "")]),
  -- parseFileRaw (afterModuleKw, parseRelIdent; doc comments → syntax error)
  ("Module", [(["Prelude", "module_keyword", "RelativeIdentifier"], "construct_module")]),
  -- defStep / parseDefBody
  ("Definition", [(["Struct"], "Definition::Struct"), (["Interface"], "Definition::Interface"), (["Enum"], "Definition::Enum"), (["CustomType"], "Definition::CustomType"), (["TypeAlias"], "Definition::TypeAlias")]),
  -- parseDefBody → parseStructRest, parseFieldBlock
  ("Struct", [(["Prelude", "compact_keyword?", "struct_keyword", "ContainerIdentifier", "\"{\"", "UndelimitedList<Field>", "\"}\"", "ContainerEnd"], "construct_struct")]),
  -- fieldStep / parseFieldBody
  ("Field", [(["Prelude", "Tag?", "ContainerIdentifier", "\":\"", "TypeRef", "ContainerEnd"], "construct_field")]),
  -- parseDefBody → parseIfaceRest, parseBasesOpt, parseOpBlock
  ("Interface", [(["Prelude", "interface_keyword", "ContainerIdentifier", "(\":\" NonEmptyCommaList<TypeRef>)?", "\"{\"", "Operation*", "\"}\"", "ContainerEnd"], "construct_interface")]),
  -- opStep / parseOpBody
  ("Operation", [(["Prelude", "idempotent_keyword?", "ContainerIdentifier", "\"(\"", "UndelimitedList<Parameter>", "\")\"", "ReturnType?", "ContainerEnd"], "construct_operation")]),
  -- paramStep / parseParamBody (doc comments → syntax error)
  ("Parameter", [(["Prelude", "Tag?", "ContainerIdentifier", "\":\"", "stream_keyword?", "TypeRef", "ContainerEnd"], "construct_parameter")]),
  -- parseRet
  ("ReturnType", [(["\"->\"", "(Tag)?", "stream_keyword?", "TypeRef"], "construct_single_return_type"), (["\"->\"", "\"(\"", "UndelimitedList<Parameter>", "\")\""], "check_return_tuple")]),
  -- parseDefBody → parseEnumRest, parseUnderlying, parseEnumeratorBlock
  ("Enum", [(["Prelude", "compact_keyword?", "unchecked_keyword?", "enum_keyword", "ContainerIdentifier", "(\":\" TypeRef)?", "\"{\"", "UndelimitedList<Enumerator>", "\"}\"", "ContainerEnd"], "construct_enum")]),
  -- enumeratorStep / parseEnumeratorBody, parseEnumFields, parseEnumValue
  ("Enumerator", [(["Prelude", "ContainerIdentifier", "(\"(\" UndelimitedList<Field> \")\")?", "(\"=\" SignedInteger)?", "ContainerEnd"], "construct_enumerator")]),
  -- parseDefBody
  ("CustomType", [(["Prelude", "custom_keyword", "Identifier"], "construct_custom_type")]),
  -- parseDefBody
  ("TypeAlias", [(["Prelude", "type_alias_keyword", "ContainerIdentifier", "\"=\"", "TypeRef", "ContainerEnd"], "construct_type_alias")]),
  -- tyBody
  ("Result", [(["result_keyword", "\"<\"", "TypeRef", "\",\"", "TypeRef", "\">\""], "")]),
  -- tyBody
  ("Sequence", [(["sequence_keyword", "\"<\"", "TypeRef", "\">\""], "")]),
  -- tyBody
  ("Dictionary", [(["dictionary_keyword", "\"<\"", "TypeRef", "\",\"", "TypeRef", "\">\""], "")]),
  -- primOfKind (over Gen.sliceKeywords)
  ("Primitive", [(["bool_keyword"], "Primitive::Bool"), (["int8_keyword"], "Primitive::Int8"), (["uint8_keyword"], "Primitive::UInt8"), (["int16_keyword"], "Primitive::Int16"), (["uint16_keyword"], "Primitive::UInt16"), (["int32_keyword"], "Primitive::Int32"), (["uint32_keyword"], "Primitive::UInt32"), (["varint32_keyword"], "Primitive::VarInt32"), (["varuint32_keyword"], "Primitive::VarUInt32"), (["int64_keyword"], "Primitive::Int64"), (["uint64_keyword"], "Primitive::UInt64"), (["varint62_keyword"], "Primitive::VarInt62"), (["varuint62_keyword"], "Primitive::VarUInt62"), (["float32_keyword"], "Primitive::Float32"), (["float64_keyword"], "Primitive::Float64"), (["string_keyword"], "Primitive::String")]),
  -- parseTypeRefF / parseTypeRef, finTy
  ("TypeRef", [(["LocalAttribute*", "TypeRefDefinition", "\"?\"?"], "construct_type_ref")]),
  -- tyBody
  ("TypeRefDefinition", [(["Primitive"], "primitive_to_type_ref_definition"), (["Result"], "anonymous_type_to_type_ref_definition"), (["Sequence"], "anonymous_type_to_type_ref_definition"), (["Dictionary"], "anonymous_type_to_type_ref_definition"), (["RelativeIdentifier"], "construct_unpatched_type_ref_definition"), (["GlobalIdentifier"], "construct_unpatched_type_ref_definition")]),
  -- fileAttrStep
  ("FileAttribute", [(["\"[[\"", "Attribute", "\"]]\""], "")]),
  -- localAttrStep / preludeStep
  ("LocalAttribute", [(["\"[\"", "Attribute", "\"]\""], "")]),
  -- parseAttribute
  ("Attribute", [(["RelativeIdentifier", "(\"(\" CommaList<AttributeArgument> \")\")?"], "construct_attribute")]),
  -- argOf
  ("AttributeArgument", [(["string_literal"], "unescape_string_literal"), (["identifier"], "")]),
  -- the `.ident name` patterns
  ("Identifier", [(["identifier"], "")]),
  -- parseRelIdent
  ("RelativeIdentifier", [(["identifier", "(\"::\" identifier)*"], "")]),
  -- parseGlobalIdent
  ("GlobalIdentifier", [(["(\"::\" identifier)+"], "")]),
  -- intOfText
  ("Integer", [(["integer_literal"], "try_parse_integer")]),
  -- parseSignedInt
  ("SignedInteger", [(["Integer"], ""), (["\"-\"", "Integer"], "")]),
  -- parseTagOpt
  ("Tag", [(["tag_keyword", "\"(\"", "SignedInteger", "\")\""], "parse_tag_value")]),
  -- parsePrelude = many preludeStep
  ("Prelude", [([], ""), (["Prelude", "doc_comment"], ""), (["Prelude", "LocalAttribute"], "")]),
  -- parseBases / baseStep; parseArgs / parseArgsTail
  ("NonEmptyCommaList<T>", [(["T", "(\",\" T)*", "\",\"?"], "")]),
  -- parseArgs
  ("CommaList<T>", [(["NonEmptyCommaList<T>"], ""), ([], "")]),
  -- many (preStep … true): element, then skipComma
  ("UndelimitedList<T>", [(["(T \",\"?)*"], "")]),
  -- the `.ident name` patterns (scopes are not syntax)
  ("ContainerIdentifier", [(["Identifier"], "")]),
  -- — (scopes are not syntax)
  ("ContainerEnd", [([], "")])
]

end Slicec.SPar
