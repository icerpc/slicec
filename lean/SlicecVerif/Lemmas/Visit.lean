/-
  Lemmas for C20 about the forest of callbacks and its pre-order walk `flat`. One invariant, `Forest.WF`, holds of every
  forest Model/Visit.lean builds (`fileF_wf`). `Forest.hasEv` names the node at a relative position with its kind and flag;
  `mem_flat_ev` reads the events of a walk off it.
-/
import SlicecVerif.Model.Visit

namespace Slicec.Visit

open Slicec

theorem Seg.lt_irrefl (a : Seg) : ¬ Seg.lt a a := by
  unfold Seg.lt; omega

theorem Seg.lt_trans {a b c : Seg} : Seg.lt a b → Seg.lt b c → Seg.lt a c := by
  unfold Seg.lt; omega

theorem lex_irrefl (a : Path) : ¬ Path.lt a a :=
  List.lex_irrefl Seg.lt_irrefl a

theorem lex_trans {a b c : Path} (h : Path.lt a b) (h' : Path.lt b c) : Path.lt a c :=
  List.lex_trans Seg.lt_trans h h'

theorem lex_asymm {a b : Path} (h : Path.lt a b) (h' : Path.lt b a) : False :=
  lex_irrefl a (lex_trans h h')

theorem lex_append_left (q : Path) {a b : Path} (h : Path.lt a b) : Path.lt (q ++ a) (q ++ b) := by
  induction q with
  | nil => exact h
  | cons x xs ih => exact List.Lex.cons ih

theorem lex_prefix (q : Path) (s : Seg) (tl : Path) : Path.lt q (q ++ s :: tl) := by
  have : Path.lt (q ++ []) (q ++ s :: tl) := lex_append_left q List.Lex.nil
  simpa using this

theorem lex_sibling (q : Path) {a b : Seg} (h : Seg.lt a b) (x y : Path) : Path.lt (q ++ a :: x) (q ++ b :: y) :=
  lex_append_left q (List.Lex.rel h)

def Forest.segs : Forest → List Seg
  | .nil => []
  | .cons s _ _ _ rest => s :: rest.segs

/-- an *owner* is an element with a type reference of its own (`data_type` / `underlying` in slicec): a field, a parameter
    or return member (both are "parameter" callbacks), a type alias -/
def isOwner (k : String) : Prop := k = "field" ∨ k = "parameter" ∨ k = "alias"

instance (k : String) : Decidable (isOwner k) := by unfold isOwner; exact inferInstance

def kinds : List String :=
  ["file", "module", "struct", "interface", "enum", "custom", "alias", "field", "operation", "parameter", "enumerator", "typeref"]

def KindOK (k : String) (fr : Bool) : Prop := k ∈ kinds ∧ (k ≠ "typeref" → fr = false)

def NodeOK (k : String) (fr : Bool) (ch : Forest) : Prop :=
  KindOK k fr ∧ (isOwner k → ∃ g, ch = .cons .t "typeref" false g .nil)

/-- what the model's forests have in common, at every level: siblings in strictly increasing (declaration) order, which makes
    the walk sorted, and well-formed nodes, which makes owners adjacent to their types and the wire format readable -/
def Forest.WF : Forest → Prop
  | .nil => True
  | .cons s k fr ch rest => (∀ s' ∈ rest.segs, Seg.lt s s') ∧ NodeOK k fr ch ∧ ch.WF ∧ rest.WF

theorem segs_append (A B : Forest) : (A.append B).segs = A.segs ++ B.segs := by
  induction A with
  | nil => rfl
  | cons s k fr ch rest _ ih => simp [Forest.append, Forest.segs, ih]

theorem wf_append {A B : Forest} (hA : A.WF) (hB : B.WF) (h : ∀ a ∈ A.segs, ∀ b ∈ B.segs, Seg.lt a b) :
    (A.append B).WF := by
  induction A with
  | nil => exact hB
  | cons s k fr ch rest _ ih =>
    refine ⟨fun s' hs' => ?_, hA.2.1, hA.2.2.1, ih hA.2.2.2 (fun a ha b hb => h a (List.mem_cons_of_mem _ ha) b hb)⟩
    rw [segs_append, List.mem_append] at hs'
    rcases hs' with hs' | hs'
    · exact hA.1 s' hs'
    · exact h s List.mem_cons_self s' hs'

theorem flat_append (q : Path) (A B : Forest) : flat q (A.append B) = flat q A ++ flat q B := by
  induction A with
  | nil => rfl
  | cons s k fr ch rest _ ih => simp [Forest.append, flat, ih]

theorem flat_shape : ∀ (F : Forest) (q : Path) (e : PEvent), e ∈ flat q F → ∃ s tl, s ∈ F.segs ∧ e.path = q ++ s :: tl
  | .nil, _, _, h => by simp [flat] at h
  | .cons s k fr ch rest, q, e, h => by
    simp only [flat, List.cons_append, List.mem_cons, List.mem_append] at h
    rcases h with h | h | h
    · exact ⟨s, [], by simp [Forest.segs], by simp [h]⟩
    · obtain ⟨s', tl, _, hp⟩ := flat_shape ch (q ++ [s]) e h
      exact ⟨s, s' :: tl, by simp [Forest.segs], by simp [hp]⟩
    · obtain ⟨s', tl, hs, hp⟩ := flat_shape rest q e h
      exact ⟨s', tl, by simp [Forest.segs, hs], hp⟩

theorem flat_sorted : ∀ (F : Forest) (q : Path), F.WF → (flat q F).Pairwise (fun a b => Path.lt a.path b.path)
  | .nil, _, _ => by simp [flat]
  | .cons s k fr ch rest, q, h => by
    obtain ⟨h1, _, h2, h3⟩ := h
    simp only [flat, List.cons_append, List.pairwise_cons, List.pairwise_append, List.mem_append]
    refine ⟨?_, flat_sorted ch _ h2, flat_sorted rest _ h3, ?_⟩
    · intro b hb
      rcases hb with hb | hb
      · obtain ⟨s', tl, _, hp⟩ := flat_shape ch _ b hb
        rw [hp]; exact lex_prefix _ _ _
      · obtain ⟨s', tl, hs, hp⟩ := flat_shape rest _ b hb
        rw [hp]; exact lex_sibling q (h1 s' hs) [] tl
    · intro a ha b hb
      obtain ⟨s', tl, _, hp⟩ := flat_shape ch _ a ha
      obtain ⟨s'', tl', hs, hp'⟩ := flat_shape rest _ b hb
      rw [hp, hp', List.append_assoc]
      exact lex_sibling q (h1 s'' hs) _ _

def OwnerNext : List PEvent → Prop
  | [] => True
  | e :: rest => (isOwner e.kind → ∃ r', rest = ⟨"typeref", e.path ++ [.t], false⟩ :: r') ∧ OwnerNext rest

theorem ownerNext_append : ∀ {A B : List PEvent}, OwnerNext A → OwnerNext B → OwnerNext (A ++ B)
  | [], _, _, hB => hB
  | e :: A, B, hA, hB => by
    refine ⟨fun ho => ?_, ownerNext_append hA.2 hB⟩
    obtain ⟨r', hr⟩ := hA.1 ho
    exact ⟨r' ++ B, by simp [hr]⟩

theorem flat_ownerNext : ∀ (F : Forest) (q : Path), F.WF → OwnerNext (flat q F)
  | .nil, _, _ => trivial
  | .cons s k fr ch rest, q, h => by
    obtain ⟨_, h1, h2, h3⟩ := h
    refine ⟨fun ho => ?_, ownerNext_append (flat_ownerNext ch _ h2) (flat_ownerNext rest _ h3)⟩
    obtain ⟨g, hg⟩ := h1.2 ho
    subst hg
    exact ⟨flat (q ++ [s] ++ [.t]) g ++ flat q rest, by simp [flat]⟩

theorem ownerNext_getElem : ∀ (L : List PEvent) (i : Nat) (h : i < L.length), OwnerNext L → isOwner L[i].kind →
    L[i + 1]? = some ⟨"typeref", L[i].path ++ [.t], false⟩
  | e :: rest, 0, _, hN, ho => by
    obtain ⟨r', hr⟩ := hN.1 ho
    simp [hr]
  | e :: rest, i + 1, h, hN, ho => by
    have := ownerNext_getElem rest i (by simpa using h) hN.2 (by simpa using ho)
    simpa using this

def PEvent.OK (e : PEvent) : Prop := KindOK e.kind e.foreign

theorem flat_OK : ∀ (F : Forest) (q : Path), F.WF → ∀ e ∈ flat q F, e.OK
  | .nil, _, _, e, he => by simp [flat] at he
  | .cons s k fr ch rest, q, h, e, he => by
    simp only [flat, List.cons_append, List.mem_cons, List.mem_append] at he
    rcases he with rfl | he | he
    · exact h.2.1.1
    · exact flat_OK ch _ h.2.2.1 e he
    · exact flat_OK rest _ h.2.2.2 e he

theorem idxF_segs {α} (seg : Nat → Seg) (kind : α → String) (ch : α → Forest) :
    ∀ (xs : List α) (i : Nat) (s : Seg), s ∈ (idxF seg kind ch i xs).segs → ∃ j, i ≤ j ∧ s = seg j
  | [], _, _, h => by simp [idxF, Forest.segs] at h
  | x :: xs, i, s, h => by
    simp only [idxF, Forest.segs, List.mem_cons] at h
    rcases h with h | h
    · exact ⟨i, Nat.le_refl _, h⟩
    · obtain ⟨j, hj, hs⟩ := idxF_segs seg kind ch xs (i + 1) s h
      exact ⟨j, Nat.le_of_succ_le hj, hs⟩

theorem idxF_wf {α} (seg : Nat → Seg) (kind : α → String) (ch : α → Forest)
    (hc : ∀ i j, (seg i).cls = (seg j).cls) (hi : ∀ i, (seg i).idx = i) (h : ∀ x, NodeOK (kind x) false (ch x) ∧ (ch x).WF) :
    ∀ (xs : List α) (i : Nat), (idxF seg kind ch i xs).WF
  | [], _ => trivial
  | x :: xs, i => by
    refine ⟨fun s' hs' => ?_, (h x).1, (h x).2, idxF_wf seg kind ch hc hi h xs (i + 1)⟩
    obtain ⟨j, hj, rfl⟩ := idxF_segs seg kind ch xs (i + 1) s' hs'
    exact Or.inr ⟨hc i j, by rw [hi, hi]; omega⟩

theorem nodeOK_typeref (fr : Bool) (ch : Forest) : NodeOK "typeref" fr ch :=
  ⟨⟨by decide +kernel, fun h => absurd rfl h⟩, fun h => absurd h (by decide +kernel)⟩

theorem plain_kinds : ∀ k ∈ ["file", "module", "struct", "interface", "enum", "custom", "operation", "enumerator"],
    k ∈ kinds ∧ ¬ isOwner k := by
  decide +kernel

theorem nodeOK_plain {k : String} (hk : k ∈ ["file", "module", "struct", "interface", "enum", "custom", "operation", "enumerator"])
    (ch : Forest) : NodeOK k false ch :=
  ⟨⟨(plain_kinds k hk).1, fun _ => rfl⟩, fun h => absurd h (plain_kinds k hk).2⟩

theorem tyF_wf (t : Table) (self fuel : Nat) (sc : String) (fr : Bool) (ty : TyExpr) :
    (tyF t self fuel sc fr ty).WF := by
  fun_induction tyF t self fuel sc fr ty <;> simp_all [Forest.WF, Forest.segs, nodeOK_typeref, Seg.lt, Seg.cls]

theorem tref_wf (c : Ctx) (r : TRef) : (c.tref r).WF :=
  ⟨by simp [Forest.segs], nodeOK_typeref _ _, tyF_wf _ _ _ _ _ _, trivial⟩

theorem owner_wf (c : Ctx) {k : String} (hk : isOwner k) (r : TRef) : NodeOK k false (c.tref r) ∧ (c.tref r).WF :=
  ⟨⟨⟨by rcases hk with rfl | rfl | rfl <;> decide +kernel, fun _ => rfl⟩, fun _ => ⟨_, rfl⟩⟩, tref_wf c r⟩

theorem fieldsF_wf (c : Ctx) (fs : List Field) : (fieldsF c fs).WF :=
  idxF_wf _ _ _ (fun _ _ => rfl) (fun _ => rfl) (fun _ => owner_wf c (Or.inl rfl) _) fs 0

theorem paramsF_wf (c : Ctx) (seg : Nat → Seg) (hc : ∀ i j, (seg i).cls = (seg j).cls) (hi : ∀ i, (seg i).idx = i)
    (ps : List Param) : (paramsF c seg ps).WF :=
  idxF_wf _ _ _ hc hi (fun _ => owner_wf c (Or.inr (Or.inl rfl)) _) ps 0

theorem opF_wf (c : Ctx) (o : Op) : (opF c o).WF := by
  refine wf_append (paramsF_wf c .p (fun _ _ => rfl) (fun _ => rfl) _) (paramsF_wf c .r (fun _ _ => rfl) (fun _ => rfl) _) ?_
  intro a ha b hb
  obtain ⟨i, _, rfl⟩ := idxF_segs _ _ _ _ _ _ ha
  obtain ⟨j, _, rfl⟩ := idxF_segs _ _ _ _ _ _ hb
  exact Or.inl (by simp [Seg.cls])

theorem enumeratorF_wf (c : Ctx) (en : Enumerator) : (enumeratorF c en).WF := by
  unfold enumeratorF; split
  · exact fieldsF_wf c _
  · trivial

theorem defF_wf (c : Ctx) (d : Def) : NodeOK (defKind d) false (defF c d) ∧ (defF c d).WF := by
  cases d with
  | struct _ _ _ _ fs => exact ⟨nodeOK_plain (by simp [defKind]) _, fieldsF_wf c fs⟩
  | iface _ _ _ _ ops =>
    exact ⟨nodeOK_plain (by simp [defKind]) _, idxF_wf _ _ _ (fun _ _ => rfl) (fun _ => rfl)
      (fun o => ⟨nodeOK_plain (by simp) _, opF_wf c o⟩) ops 0⟩
  | «enum» _ _ _ _ _ _ es =>
    exact ⟨nodeOK_plain (by simp [defKind]) _, idxF_wf _ _ _ (fun _ _ => rfl) (fun _ => rfl)
      (fun e => ⟨nodeOK_plain (by simp) _, enumeratorF_wf c e⟩) es 0⟩
  | custom _ _ _ => exact ⟨nodeOK_plain (by simp [defKind]) _, trivial⟩
  | «alias» _ _ _ ty => exact owner_wf c (Or.inr (Or.inr rfl)) ty

def modF (m : Option ModDecl) : Forest :=
  match m with
  | some _ => .cons .mod "module" false .nil .nil
  | none => .nil

theorem fileF_eq (c : Ctx) (f : SFile) :
    fileF c f = .cons .file "file" false .nil ((modF f.module).append (idxF .d defKind (defF c) 0 f.defs)) := rfl

theorem modF_segs {m : Option ModDecl} {s : Seg} : s ∈ (modF m).segs → s = .mod := by
  cases m <;> simp [modF, Forest.segs]

theorem fileF_wf (c : Ctx) (f : SFile) : (fileF c f).WF := by
  have hd : (idxF .d defKind (defF c) 0 f.defs).WF :=
    idxF_wf _ _ _ (fun _ _ => rfl) (fun _ => rfl) (defF_wf c) f.defs 0
  have hm : (modF f.module).WF := by
    cases f.module
    · trivial
    · exact ⟨by simp [Forest.segs], nodeOK_plain (by simp) _, trivial, trivial⟩
  rw [fileF_eq]
  refine ⟨?_, nodeOK_plain (by simp) _, trivial, wf_append hm hd ?_⟩
  · intro s' hs'
    rw [segs_append, List.mem_append] at hs'
    rcases hs' with hs' | hs'
    · rw [modF_segs hs']; exact Or.inl (by simp [Seg.cls])
    · obtain ⟨j, _, rfl⟩ := idxF_segs _ _ _ _ _ _ hs'
      exact Or.inl (by simp [Seg.cls])
  · intro a ha b hb
    rw [modF_segs ha]
    obtain ⟨j, _, rfl⟩ := idxF_segs _ _ _ _ _ _ hb
    exact Or.inl (by simp [Seg.cls])

theorem visitP_OK (t : Table) (self : Nat) (f : SFile) : ∀ e ∈ visitP t self f, e.OK :=
  flat_OK _ _ (fileF_wf _ f)

def Forest.has : Forest → Path → Prop
  | .nil, _ => False
  | .cons s _ _ ch rest, p => p = [s] ∨ (∃ tl, p = s :: tl ∧ ch.has tl) ∨ rest.has p

def Forest.hasEv : Forest → Path → String → Bool → Prop
  | .nil, _, _, _ => False
  | .cons s k fr ch rest, p, k', fr' =>
    (p = [s] ∧ k' = k ∧ fr' = fr) ∨ (∃ tl, p = s :: tl ∧ ch.hasEv tl k' fr') ∨ rest.hasEv p k' fr'

section
variable {k : String} {fr : Bool}

theorem has_iff_hasEv : ∀ (F : Forest) (p : Path), F.has p ↔ ∃ k fr, F.hasEv p k fr
  | .nil, p => by simp [Forest.has, Forest.hasEv]
  | .cons s k fr ch rest, p => by
    simp only [Forest.has, Forest.hasEv, has_iff_hasEv ch, has_iff_hasEv rest, exists_or, exists_and_left, exists_eq, and_true]
    exact or_congr Iff.rfl (or_congr ⟨fun ⟨tl, h, k, fr, h'⟩ => ⟨k, fr, tl, h, h'⟩, fun ⟨k, fr, tl, h, h'⟩ => ⟨tl, h, k, fr, h'⟩⟩ Iff.rfl)

theorem nil_hasEv (p : Path) : ¬ Forest.nil.hasEv p k fr := id

theorem hasEv_nil_path : ∀ (F : Forest), ¬ F.hasEv [] k fr
  | .nil => id
  | .cons _ _ _ _ rest => by simp [Forest.hasEv, hasEv_nil_path rest]

theorem hasEv_cons (s' : Seg) (k' : String) (fr' : Bool) (ch rest : Forest) (s : Seg) (p : Path) :
    (Forest.cons s' k' fr' ch rest).hasEv (s :: p) k fr ↔
      (s = s' ∧ ((p = [] ∧ k = k' ∧ fr = fr') ∨ ch.hasEv p k fr)) ∨ rest.hasEv (s :: p) k fr := by
  simp only [Forest.hasEv, List.cons.injEq, and_assoc, exists_and_left, exists_eq_left', and_or_left, or_assoc]

theorem hasEv_append (A B : Forest) (p : Path) : (A.append B).hasEv p k fr ↔ A.hasEv p k fr ∨ B.hasEv p k fr := by
  induction A with
  | nil => simp [Forest.append, Forest.hasEv]
  | cons s k fr ch rest _ ih => simp [Forest.append, Forest.hasEv, ih, or_assoc]

end

theorem mem_flat_ev : ∀ (F : Forest) (q : Path) (e : PEvent), e ∈ flat q F ↔ ∃ r, F.hasEv r e.kind e.foreign ∧ e.path = q ++ r
  | .nil, q, e => by simp [flat, Forest.hasEv]
  | .cons s k fr ch rest, q, e => by
    simp only [flat, List.cons_append, List.mem_cons, List.mem_append, mem_flat_ev ch, mem_flat_ev rest, Forest.hasEv]
    constructor
    · rintro (rfl | ⟨r, hr, h⟩ | ⟨r, hr, h⟩)
      · exact ⟨[s], Or.inl ⟨rfl, rfl, rfl⟩, rfl⟩
      · exact ⟨s :: r, Or.inr (Or.inl ⟨r, rfl, hr⟩), by simp [h]⟩
      · exact ⟨r, Or.inr (Or.inr hr), h⟩
    · rintro ⟨r, (⟨rfl, hk, hf⟩ | ⟨tl, rfl, htl⟩ | hr), h⟩
      · exact Or.inl (by cases e; simp_all)
      · exact Or.inr (Or.inl ⟨tl, htl, by simp [h]⟩)
      · exact Or.inr (Or.inr ⟨r, hr, h⟩)

section row
variable {k : String} {fr : Bool}

theorem idxF_hasEv {α} (seg : Nat → Seg) (kind : α → String) (ch : α → Forest) :
    ∀ (xs : List α) (i : Nat) (p : Path),
      (idxF seg kind ch i xs).hasEv p k fr ↔
        ∃ j x r, p = seg (i + j) :: r ∧ xs[j]? = some x ∧ ((r = [] ∧ k = kind x ∧ fr = false) ∨ (ch x).hasEv r k fr)
  | [], i, p => by simp [idxF, Forest.hasEv]
  | x :: xs, i, p => by
    simp only [idxF, Forest.hasEv, idxF_hasEv seg kind ch xs (i + 1) p]
    constructor
    · rintro (⟨rfl, hk, hf⟩ | ⟨tl, rfl, htl⟩ | ⟨j, y, r, rfl, hj, hr⟩)
      · exact ⟨0, x, [], rfl, rfl, Or.inl ⟨rfl, hk, hf⟩⟩
      · exact ⟨0, x, tl, rfl, rfl, Or.inr htl⟩
      · exact ⟨j + 1, y, r, by rw [Nat.add_right_comm, Nat.add_assoc], hj, hr⟩
    · rintro ⟨_ | j, y, r, rfl, hj, hr⟩
      · cases hj
        exact hr.elim (fun ⟨h, hk, hf⟩ => Or.inl ⟨h ▸ rfl, hk, hf⟩) (fun h => Or.inr (Or.inl ⟨r, rfl, h⟩))
      · exact Or.inr (Or.inr ⟨j, y, r, by rw [Nat.add_right_comm, Nat.add_assoc], hj, hr⟩)

variable {α : Type} (seg : Nat → Seg) (kind : α → String) (ch : α → Forest) (xs : List α)

theorem idxF_hasEv_cons (hi : ∀ i, (seg i).idx = i) (j : Nat) (r : Path) :
    (idxF seg kind ch 0 xs).hasEv (seg j :: r) k fr ↔
      ∃ x, xs[j]? = some x ∧ ((r = [] ∧ k = kind x ∧ fr = false) ∨ (ch x).hasEv r k fr) := by
  rw [idxF_hasEv seg kind ch xs 0]
  constructor
  · rintro ⟨j', x, r', hp, hj, hr⟩
    rw [Nat.zero_add, List.cons.injEq] at hp
    have hjj : j = j' := by
      have := congrArg Seg.idx hp.1
      rwa [hi, hi] at this
    cases hjj; cases hp.2
    exact ⟨x, hj, hr⟩
  · rintro ⟨x, hj, hs⟩
    exact ⟨j, x, r, by rw [Nat.zero_add], hj, hs⟩

theorem idxF_hasEv_other (p : Path) (h : ∀ j r, p = seg j :: r → False) : ¬ (idxF seg kind ch 0 xs).hasEv p k fr := by
  rw [idxF_hasEv seg kind ch xs 0]
  rintro ⟨j, _, r, hp, _⟩
  exact h _ _ hp

end row

end Slicec.Visit
