/-
  C06, one directive line of the located lexer model, with the tokens in front of a lexical error kept.  One `next()` in
  directive mode gives the token kind, input left and mode of `dirNextK`, on the row of the cursor (`lexNext_dir`); hence
  a located directive line in front of any input is `LineSpec` (`lexES_dir` from anywhere in the line, `hash_line` from
  its `#`).  The line-by-line reading of a file (`Reads`, `Lemmas/PreprocLines.lean`) takes its directive lines from here.
-/
import SlicecVerif.Lemmas.PreprocLex

namespace Slicec.Pp

theorem Cur.skipWhile_row (p : Char → Bool) (hp : p '\n' = false) (c : Cur) : (c.skipWhile p).loc.row = c.loc.row :=
  (eats_skipWhile p c).row (noNl_takeWhile p hp _)

theorem Cur.skipWs_row (c : Cur) : c.skipWs.loc.row = c.loc.row := Cur.skipWhile_row _ isInlineWs_nl c
theorem Cur.toEol_row (c : Cur) : c.toEol.loc.row = c.loc.row := Cur.skipWhile_row _ notNewline_nl c

theorem Cur.skipWhile_stop (p : Char → Bool) (c : Cur) (ch : Char) (r : List Char) (h : c.rest = ch :: r)
    (hp : p ch = false) : c.skipWhile p = c := by
  obtain ⟨rest, o, l⟩ := c
  simp only at h
  subst h
  simp [Cur.skipWhile, skipWhileAux, hp]

def DirStep.onRow (R : Nat) : DirStep → Prop
  | .tok t => t.s.row = R ∧ t.e.row = R
  | .err e => e.s.row = R ∧ e.e.row = R
  | .skip => True

theorem DirStep.Between.onRow {ds : DirStep} {s e : Loc} (h : ds.Between s e) (he : e.row = s.row) : ds.onRow s.row := by
  cases ds with
  | tok t => exact ⟨by rw [h.1], by rw [h.2.1, he]⟩
  | err x => exact ⟨by rw [h.1], by rw [h.2, he]⟩
  | skip => trivial

theorem lexKeyword_row (cur : Cur) (h : cur.peek ≠ some '\n') :
    (lexKeyword cur).1.onRow cur.loc.row ∧ (lexKeyword cur).2.loc.row = cur.loc.row := by
  obtain ⟨p, hp, he, hb⟩ := lexKeyword_step cur h
  -- `onRow` is a `match` on the step: kept opaque, or elaboration evaluates `lexKeyword` as far as it goes
  generalize lexKeyword cur = res at he hb ⊢
  exact ⟨hb.onRow (he.row hp), he.row hp⟩

def ResRow (R : Nat) : Option (Except LexErr LTok) → Prop
  | some (.ok t) => t.s.row = R ∧ t.e.row = R ∧ t.tok.notBlock
  | some (.error e) => e.s.row = R ∧ e.e.row = R
  | none => True

theorem lexDirTok_nl (st : LexSt) :
    lexDirTok '\n' st = (.tok ⟨st.cur.loc, .dend, st.cur.loc⟩, { st with mode := .unknown }) := rfl

theorem nextLoop_dir_stop (f : List Char) (n : Nat) (st : LexSt) (start : Option (Loc × Nat)) (hm : st.mode = .directive)
    (h : stopNl st.cur.rest) :
    nextLoop f (n + 1) st start = (some (.ok ⟨st.cur.loc, .dend, st.cur.loc⟩), { st with mode := .unknown }) := by
  cases hr : st.cur.rest with
  | nil => rw [nextLoop_nil f n st start hr, hm]
  | cons c r =>
    rw [hr] at h
    simp only [stopNl] at h
    subst h
    rw [nextLoop_cons f n st start '\n' r hr, if_pos hm, lexDirTok_nl]

/-- A `//` comment runs to the end of the line, where the directive ends (`nextLoop_dir_stop`) in a second turn of the
    loop: hence the fuel `n + 1` for an input of length at most `n`. -/
theorem nextLoop_dir (f : List Char) (n : Nat) (st : LexSt) (start : Option (Loc × Nat)) (rest : List Char)
    (hm : st.mode = .directive) (hr : st.cur.rest = rest.dropWhile isInlineWs) (hn : st.cur.rest.length ≤ n) :
    ResRow st.cur.loc.row (nextLoop f (n + 1) st start).1 ∧
    (nextLoop f (n + 1) st start).2.cur.loc.row = st.cur.loc.row ∧
    match dirNextK rest with
    | (some t, r1) => ∃ lt st1, nextLoop f (n + 1) st start = (some (.ok lt), st1) ∧ lt.tok = t ∧ st1.cur.rest = r1 ∧
        st1.mode = if t = .dend then .unknown else .directive
    | (none, _) => ∃ e st1, nextLoop f (n + 1) st start = (some (.error e), st1) := by
  unfold dirNextK
  rw [← hr]
  cases h0 : st.cur.rest with
  | nil =>
    rw [nextLoop_dir_stop f n st start hm (by rw [h0]; trivial)]
    exact ⟨⟨rfl, rfl, trivial⟩, rfl, _, _, rfl, rfl, h0, rfl⟩
  | cons c r' =>
    rw [h0] at hn
    obtain ⟨n, rfl⟩ := exists_add_one_of_le hn
    simp only
    rw [nextLoop_cons f _ st start c r' h0, if_pos hm]
    obtain ⟨⟨p, hp, he⟩, hb, hk⟩ := lexDirTok_spec c st r' h0
    have hrow := he.row hp
    cases hd : lexDirTok c st with
    | mk ds st1 =>
      cases hK : dirTokK c r' with
      | mk k r'' =>
        rw [hd] at hrow hb hk
        rw [hK] at hk
        simp only at hrow hb hk
        obtain ⟨hk1, hk2, hk3⟩ := hk
        subst hk1
        cases ds with
        | tok t1 =>
          refine ⟨⟨(hb.onRow hrow).1, (hb.onRow hrow).2, hb.2.2⟩, hrow, t1, st1, rfl, rfl, hk2, ?_⟩
          rw [hk3, hm]
          by_cases hdd : t1.tok = .dend <;> simp [DirStep.kind, hdd]
        | err e => exact ⟨hb.onRow hrow, hrow, e, st1, rfl⟩
        | skip =>
          have hsk := dirTokK_skip c r' (by rw [hK]; rfl)
          rw [hK] at hsk
          simp only at hsk
          subst hsk
          simp only [DirStep.kind]
          have hstop := stopNl_dropWhile_notNewline r'
          have hr1 : st1.cur.skipWs.rest = r'.dropWhile notNewline := by
            rw [Cur.skipWs_rest, hk2]; exact dropWhile_stop _ isInlineWs_nl _ hstop
          have hm1 : st1.mode = .directive := by simpa [DirStep.kind, hm] using hk3
          have hrow1 : st1.cur.skipWs.loc.row = st.cur.loc.row := by rw [Cur.skipWs_row, hrow]
          rw [nextLoop_dir_stop f n { st1 with cur := st1.cur.skipWs } start hm1
            (show stopNl st1.cur.skipWs.rest by rw [hr1]; exact hstop)]
          exact ⟨⟨hrow1, hrow1, trivial⟩, hrow1, _, _, rfl, rfl, hr1, rfl⟩

theorem lexNext_dir (f : List Char) (st : LexSt) (hm : st.mode = .directive) :
    ResRow st.cur.loc.row (lexNext f st).1 ∧ (lexNext f st).2.cur.loc.row = st.cur.loc.row ∧
    match dirNextK st.cur.rest with
    | (some t, r1) => ∃ lt st1, lexNext f st = (some (.ok lt), st1) ∧ lt.tok = t ∧ st1.cur.rest = r1 ∧
        st1.mode = if t = .dend then .unknown else .directive
    | (none, _) => ∃ e st1, lexNext f st = (some (.error e), st1) := by
  have := nextLoop_dir f st.cur.rest.length { st with cur := st.cur.skipWs } none st.cur.rest hm (Cur.skipWs_rest st.cur)
    (by rw [Cur.skipWs_rest]; exact length_dropWhile_le _ _)
  simp only [Cur.skipWs_row] at this
  exact this

/-- the located stream `S` of a directive line on row `R` followed by the input `tl`, against the position-free
    token kinds `ks` of the line (`none` = lexical error in the line) -/
def LineSpec (f tl : List Char) (R : Nat) (S : List LTok × Option LexErr) : Option (List PTok) → Prop
  | some ks => ∃ ts d, S = (ts ++ d :: (lexES f (stAt f tl .unknown)).1, (lexES f (stAt f tl .unknown)).2) ∧
      ts.map (·.tok) = ks ∧ d.tok = .dend ∧ (∀ t ∈ ts ++ [d], t.s.row = R ∧ t.e.row = R) ∧
      CurInv f (curOf f tl) ∧ (curOf f tl).loc.row = R
  | none => ∃ ts e, S = (ts, some e) ∧ (∀ t ∈ ts, t.tok ≠ .dend ∧ t.tok.notBlock) ∧ e.s.row = R ∧ e.e.row = R

theorem LineSpec.cons {f tl : List Char} {R : Nat} {S : List LTok × Option LexErr} {o : Option (List PTok)} (K : LTok)
    (h : LineSpec f tl R S o) (h1 : K.tok ≠ .dend) (h2 : K.tok.notBlock) (h3 : K.s.row = R ∧ K.e.row = R) :
    LineSpec f tl R (K :: S.1, S.2) (o.map (K.tok :: ·)) := by
  cases o with
  | some ks =>
    obtain ⟨ts, d, hS, hk, hd, hrows, hci, hcr⟩ := h
    refine ⟨K :: ts, d, ?_, ?_, hd, List.forall_mem_cons.mpr ⟨h3, hrows⟩, hci, hcr⟩
    · rw [hS]; rfl
    · simp [hk]
  | none =>
    obtain ⟨ts, e, hS, hts, he⟩ := h
    exact ⟨K :: ts, e, by rw [hS], List.forall_mem_cons.mpr ⟨⟨h1, h2⟩, hts⟩, he⟩

theorem lexES_dir (f tl : List Char) (htl : stopNl tl) : ∀ (n : Nat) (r : List Char) (st : LexSt), st.mode = .directive →
    CurInv f st.cur → st.cur.rest = r ++ tl → noNl r → r.length < n →
    LineSpec f tl st.cur.loc.row (lexES f st) ((dirLexR n r).map (·.1)) := by
  intro n
  induction n with
  | zero => intro r st _ _ _ _ h; omega
  | succ n ih =>
    intro r st hm hinv hrest hr hlen
    obtain ⟨hres, hrow, hd⟩ := lexNext_dir f st hm
    have hf := lexNext_facts f st hinv
    have ha := dirNextK_append r tl hr htl
    have hs := dirNextK_suffix r
    rw [hrest, ha.1] at hd
    rw [lexES_unfold]
    unfold dirLexR
    cases hK : dirNextK r with
    | mk k r1 =>
      rw [hK] at hd ha hs
      cases k with
      | none =>
        obtain ⟨e, st1, hn⟩ := hd
        rw [hn] at hres
        simp only at hn ⊢
        rw [hn]
        exact ⟨[], e, rfl, by simp, hres.1, hres.2⟩
      | some t =>
        obtain ⟨lt, st1, hn, ht, hr1, hm1⟩ := hd
        rw [hn] at hf hres hrow
        have hinv1 : CurInv f st1.cur := hf.1
        simp only at hr1 hrow ⊢
        rw [hn]
        simp only [contE]
        by_cases hdd : t = .dend
        · have hnil := ha.2 (by rw [hdd])
          simp only at hnil
          subst hnil
          simp only [hdd, ↓reduceIte, List.nil_append] at hm1 hr1 ⊢
          have hst1 := LexSt.eq_stAt hinv1
          rw [hr1, hm1] at hst1
          have hcur : st1.cur = curOf f tl := by rw [hst1]; rfl
          refine ⟨[], lt, ?_, rfl, by rw [ht, hdd], List.forall_mem_singleton.mpr ⟨hres.1, hres.2.1⟩, ?_, ?_⟩
          · rw [← hst1]; rfl
          · rw [← hcur]; exact hinv1
          · rw [← hcur]; exact hrow
        · simp only [hdd, ↓reduceIte] at hm1 ⊢
          have hl := dirNextK_len r t (by rw [hK]) hdd
          rw [hK] at hl
          simp only at hl
          have := ih r1 st1 hm1 hinv1 hr1 (noNl_of_suffix hs hr) (by omega)
          rw [hrow] at this
          have h2 := LineSpec.cons lt this (by rw [ht]; exact hdd) hres.2.2 ⟨hres.1, hres.2.1⟩
          rw [ht] at h2
          rw [Option.map_map] at h2 ⊢
          exact h2

/-- what `next()` returns at the `#` of a directive line (modes Unknown and Directive alike) -/
def hashRes (cur : Cur) : Option (Except LexErr LTok) × LexSt :=
  match lexKeyword cur with
  | (.tok t, cur') => (some (.ok t), { cur := cur', mode := .directive })
  | (.err e, cur') => (some (.error e), { cur := cur', mode := .directive })
  | (.skip, cur') => (none, { cur := cur', mode := .directive })

theorem nextLoop_hash (f : List Char) (n : Nat) (st : LexSt) (start : Option (Loc × Nat)) (r : List Char)
    (h : st.cur.rest = '#' :: r) (hm : st.mode = .unknown) : nextLoop f (n + 1) st start = hashRes st.cur := by
  rw [nextLoop_cons f n st start '#' r h, hm, if_neg (by decide), if_neg (by decide), if_pos rfl]
  unfold hashRes
  cases lexKeyword st.cur with
  | mk ds cur' => cases ds <;> rfl

theorem lexDirTok_hash (st : LexSt) :
    lexDirTok '#' st = ((lexKeyword st.cur).1, { st with cur := (lexKeyword st.cur).2 }) := rfl

theorem lexKeyword_ne_skip (cur : Cur) (r : List Char) (h : cur.rest = '#' :: r) : (lexKeyword cur).1 ≠ .skip := by
  intro e
  have := (lexKeyword_kind cur r h).1
  rw [e] at this
  exact kwK_ne_skip r this.symm

/-- how the stream that `LineSpec` leaves behind a directive line goes on: by the loop of `next()` from the end of the line -/
theorem lexES_stAt (f tl : List Char) (htl : stopNl tl) :
    lexES f (stAt f tl .unknown) = contE f (nextLoop f (tl.length + 1) ⟨(curOf f tl).skipWs, .unknown⟩ none) ∧
    (curOf f tl).skipWs.rest = tl :=
  ⟨lexES_unfold f _, by rw [Cur.skipWs_rest]; exact dropWhile_stop _ isInlineWs_nl _ htl⟩

theorem lexES_hash (f : List Char) (st : LexSt) (r : List Char) (hm : st.mode = .directive) (h : st.cur.rest = '#' :: r) :
    lexES f st = contE f (hashRes st.cur) := by
  obtain ⟨cur, m⟩ := st
  cases hm
  simp only at h
  have hsk : cur.skipWs = cur := Cur.skipWhile_stop _ cur '#' r h (by decide)
  rw [lexES_unfold, lexNext]
  simp only [hsk, h, List.length_cons]
  rw [nextLoop_cons f _ _ none '#' r h, if_pos rfl, lexDirTok_hash]
  have hns := lexKeyword_ne_skip cur r h
  unfold hashRes
  rcases hd : lexKeyword cur with ⟨_ | _ | _, cur'⟩
  · rfl
  · rfl
  · exact absurd (by rw [hd]) hns

/-- the located stream from the `#` of a directive line on: in directive mode the `#` is one more token of the line -/
theorem hash_line (f d' tl : List Char) (cur : Cur) (hinv : CurInv f cur) (hrest : cur.rest = '#' :: d' ++ tl)
    (hd : noNl d') (htl : stopNl tl) :
    LineSpec f tl cur.loc.row (contE f (hashRes cur)) (dirLine ('#' :: d')) := by
  rw [← lexES_hash f ⟨cur, .directive⟩ (d' ++ tl) rfl hrest]
  have hr : noNl ('#' :: d') := noNl_append (noNl_singleton (by decide)) hd
  -- `LineSpec` is a `match` on `dirLine`: on a variable, or elaboration evaluates it on the literal `#`
  generalize '#' :: d' = r at hrest hr ⊢
  exact lexES_dir f tl htl _ r ⟨cur, .directive⟩ rfl hinv hrest hr (Nat.lt_succ_self _)

end Slicec.Pp
