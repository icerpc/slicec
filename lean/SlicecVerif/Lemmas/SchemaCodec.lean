/-
  Round trip of the schema-driven codec (Model/SchemaCodec.lean), for every schema: `decTy_encTy`, by induction on the fuel.
  Each lemma about a composite takes the round trip of the component types as a hypothesis (`hrt`), which `decTy_encTy`
  supplies at the smaller fuel. The proofs follow the branches of the encoder's definition (`fun_cases`, `fun_induction`):
  where it refuses there is nothing to show.
  Then, also for every schema, what `encTy` writes for a named type as a flat concatenation: a struct body (`encBody_parts`), a
  struct without optional fields, an enumerator with one field, an alias (`encTy_plain_struct`, `encTy_variant`, `encTy_alias`).
-/
import SlicecVerif.Model.SchemaCodec
import SlicecVerif.Lemmas.Codec

namespace Slicec

open Gen (STy SField SStruct SVariant SEnum SAlias SOp)

theorem catOpt_cons_some (x : Option Bytes) (xs : List (Option Bytes)) (bs : Bytes) (h : catOpt (x :: xs) = some bs) :
    ∃ a b, x = some a ∧ catOpt xs = some b ∧ bs = a ++ b := by
  unfold catOpt at h
  split at h
  · exact ⟨_, _, rfl, ‹_›, (Option.some.inj h).symm⟩
  · cases h

theorem catOpt_nil_some (bs : Bytes) (h : catOpt [] = some bs) : bs = [] := by
  simp only [catOpt, Option.some.injEq] at h; exact h.symm

theorem tagEndB_eq : tagEndB = some [0xFC] := by decide

theorem skipTagged_tagEnd (rest : Bytes) : skipTaggedFields (0xFC :: rest) = .ok ((), rest) := by
  have h := varint32_rt (-1) [0xFC] rest (by decide)
  simp only [List.cons_append, List.nil_append] at h
  simp only [skipTaggedFields, List.length_cons, skipTagged]
  rw [h]
  simp [Gen.tagEndMarker]

theorem liftDec_ok {α β} (f : α → β) (r : Dec α) (a : α) (rest : Bytes) (h : r = .ok (a, rest)) :
    liftDec f r = .ok (f a, rest) := by subst h; rfl

theorem prim_rt (p : String) (v : SVal) (bs rest : Bytes) (h : encPrim p v = some bs) :
    decPrim p (bs ++ rest) = .ok (v, rest) := by
  revert h
  fun_cases encPrim p v <;> intro h
  case case16 | case18 | case19 => cases h
  -- every name occurs, so Lean derives the seventeen equations of `decPrim` once and `rw` picks the one of the literal name;
  -- unifying `decPrim "…" _` with `liftDec _ _` would compare the name with the primitives before it again in each case
  all_goals rw [decPrim]; refine liftDec_ok _ _ _ _ ?_
  case case1 => exact bool_rt _ _ _ h
  case case2 => exact str_rt _ _ _ h
  case case3 => exact fixedU_rt .w1 _ _ _ h
  case case4 => exact fixedU_rt .w2 _ _ _ h
  case case5 => exact fixedU_rt .w4 _ _ _ h
  case case6 => exact fixedU_rt .w8 _ _ _ h
  case case7 => exact fixedS_rt .w1 _ _ _ h
  case case8 => exact fixedS_rt .w2 _ _ _ h
  case case9 => exact fixedS_rt .w4 _ _ _ h
  case case10 => exact fixedS_rt .w8 _ _ _ h
  case case11 => exact varint32_rt _ _ _ h
  case case12 => exact varuint32_rt _ _ _ h
  case case13 => exact encVarintI_dec _ _ _ _ _ (by omega) (by omega) h
  case case14 => exact encVaruintI_dec _ _ _ _ (by omega) h
  case case15 h0 => simp only [natI, bits_rt 4 _ _ rest h, Int.toNat_of_nonneg h0]
  case case17 h0 => simp only [natI, bits_rt 8 _ _ rest h, Int.toNat_of_nonneg h0]

theorem encList_decListS (enc : SVal → Option Bytes) (dec : Bytes → SDec SVal) (xs : List SVal)
    (hrt : ∀ x bs rest, enc x = some bs → dec (bs ++ rest) = .ok (x, rest))
    (bs rest : Bytes) (h : encList enc xs = some bs) :
    decListS dec xs.length (bs ++ rest) = .ok (xs, rest) := by
  induction xs generalizing bs with
  | nil => cases h; rfl
  | cons x xs ih =>
    obtain ⟨a, b, ha, hb, rfl⟩ := encList_cons_some h
    simp only [List.length_cons, decListS, List.append_assoc, hrt x a _ ha, ih b hb]

theorem encPairs_decPairsS (ek ev : SVal → Option Bytes) (dk dv : Bytes → SDec SVal) (es : List SVal)
    (hk : ∀ x bs rest, ek x = some bs → dk (bs ++ rest) = .ok (x, rest))
    (hv : ∀ x bs rest, ev x = some bs → dv (bs ++ rest) = .ok (x, rest))
    (seen : List SVal) (hnd : noDupKeys seen es = true)
    (bs rest : Bytes) (h : encList (encPairS ek ev) es = some bs) :
    decPairsS dk dv es.length seen (bs ++ rest) = .ok (es, rest) := by
  induction es generalizing bs seen with
  | nil => cases h; rfl
  | cons e es ih =>
    obtain ⟨a, b, ha, hb, rfl⟩ := encList_cons_some h
    cases e with
    | pair k v =>
      obtain ⟨a1, r1, hk1, hr1, rfl⟩ := catOpt_cons_some _ _ _ ha
      obtain ⟨a2, r2, hv1, hr2, rfl⟩ := catOpt_cons_some _ _ _ hr1
      cases catOpt_nil_some _ hr2
      simp only [noDupKeys, Bool.and_eq_true, Bool.not_eq_true'] at hnd
      simp only [List.length_cons, decPairsS, List.append_assoc, List.append_nil, hk k a1 _ hk1, hv v a2 _ hv1, hnd.1,
        Bool.false_eq_true, if_false, ih (k :: seen) hnd.2 b hb]
    | _ => cases ha

theorem bitsVal_eq (bs : List Bool) : bitsVal bs = (BitVec.ofBoolListLE bs).toNat := by
  induction bs with
  | nil => rfl
  | cons b bs ih =>
    rw [bitsVal, BitVec.ofBoolListLE, BitVec.toNat_concat, ← ih, Nat.add_comm, Nat.mul_comm]
    cases b <;> rfl

theorem bitsVal_lt (bs : List Bool) : bitsVal bs < 2 ^ bs.length := bitsVal_eq bs ▸ BitVec.isLt _

theorem bitsVal_testBit (bs : List Bool) (i : Nat) : ((bitsVal bs / 2 ^ i) % 2 == 1) = bs.getD i false := by
  rw [← BitVec.getLsbD_ofBoolListLE, BitVec.getLsbD, Nat.testBit_eq_decide_div_mod_eq, bitsVal_eq]
  rfl

theorem bitAt_cons_lt (b : UInt8) (bs : Bytes) (i : Nat) (h : i < 8) : bitAt (b :: bs) i = (b.toNat / 2 ^ i % 2 == 1) := by
  simp only [bitAt, Nat.div_eq_of_lt h, Nat.mod_eq_of_lt h, List.getD_cons_zero]

theorem bitAt_cons_add (b : UInt8) (bs : Bytes) (j : Nat) : bitAt (b :: bs) (j + 8) = bitAt bs j := by
  simp only [bitAt, Nat.add_div_right j (by decide : 0 < 8), Nat.add_mod_right, List.getD_cons_succ]

theorem bitAt_packBits (n : Nat) (bits : List Bool) (i : Nat) (hi : i < 8 * n) :
    bitAt (packBits n bits) i = bits.getD i false := by
  induction n generalizing bits i with
  | zero => omega
  | succ n ih =>
    rw [packBits]
    rcases Nat.lt_or_ge i 8 with h8 | h8
    · have hlt : bitsVal (bits.take 8) < 256 :=
        Nat.lt_of_lt_of_le (bitsVal_lt _) (Nat.pow_le_pow_right (by decide) (List.length_take_le 8 bits))
      rw [bitAt_cons_lt _ _ _ h8, u8_ofNat_toNat, Nat.mod_eq_of_lt hlt, bitsVal_testBit, List.getD_eq_getElem?_getD,
        List.getElem?_take, if_pos h8, List.getD_eq_getElem?_getD]
    · obtain ⟨j, rfl⟩ : ∃ j, i = j + 8 := ⟨i - 8, by omega⟩
      rw [bitAt_cons_add, ih _ _ (by omega), List.getD_eq_getElem?_getD, List.getElem?_drop, Nat.add_comm,
        List.getD_eq_getElem?_getD]

theorem optCount_cons (f : SField) (fs : List SField) (ht : ¬ (f.tag.isSome || f.stream) = true) :
    optCount (f :: fs) = (if f.optional then 1 else 0) + optCount fs := by
  have htn : f.tag.isNone = true := by cases hf : f.tag with | none => rfl | some _ => simp [hf] at ht
  simp only [optCount, List.filter_cons, htn, Bool.and_true]
  split <;> simp [Nat.add_comm]

/- `encFields` succeeds in four of its branches (`case1`, `3`, `5`, `8` of its induction principle; in the others `h` is
   `none = some _`): no field; a set optional field, written under a `true` bit; an unset one, nothing written under a `false`
   bit; a required field, written under no bit. -/

theorem encFields_bits_length (enc : STy → SVal → Option Bytes) (fs : List SField) (vs : List SVal) (bits : List Bool) (body : Bytes)
    (h : encFields enc fs vs = some (bits, body)) : bits.length = optCount fs := by
  fun_induction encFields enc fs vs generalizing bits body <;> cases h
  case case1 => rfl
  case case3 ht ho _ _ _ _ hfs _ ih => rw [optCount_cons _ _ ht, if_pos ho, List.length_cons, ih _ _ hfs, Nat.add_comm]
  case case5 ht ho _ _ hfs ih => rw [optCount_cons _ _ ht, if_pos ho, List.length_cons, ih _ _ hfs, Nat.add_comm]
  case case8 ht ho _ _ _ hfs _ ih => rw [optCount_cons _ _ ht, if_neg ho, ih _ _ hfs, Nat.zero_add]

theorem bitAt_cons_bits {allBits : Bytes} {k : Nat} {c : Bool} {bits : List Bool}
    (hb : ∀ i, i < (c :: bits).length → bitAt allBits (k + i) = (c :: bits).getD i false) :
    bitAt allBits k = c ∧ ∀ i, i < bits.length → bitAt allBits (k + 1 + i) = bits.getD i false :=
  ⟨hb 0 (Nat.zero_lt_succ _), fun i hi => by rw [Nat.add_assoc, Nat.add_comm 1 i]; exact hb (i + 1) (Nat.succ_lt_succ hi)⟩

theorem encFields_decFields (enc : STy → SVal → Option Bytes) (dec : STy → Bytes → SDec SVal)
    (hrt : ∀ ty v bs rest, enc ty v = some bs → dec ty (bs ++ rest) = .ok (v, rest))
    (allBits : Bytes) (rest : Bytes) (fs : List SField) (vs : List SVal) (bits : List Bool) (body : Bytes) (k : Nat)
    (h : encFields enc fs vs = some (bits, body))
    (hb : ∀ i, i < bits.length → bitAt allBits (k + i) = bits.getD i false) :
    decFields dec allBits k fs (body ++ rest) = .ok (vs, rest) := by
  fun_induction encFields enc fs vs generalizing bits body k <;> cases h
  case case1 => rfl
  case case3 ht ho _ _ _ _ hfs ha ih =>
    simp only [Bool.or_eq_true, not_or, Bool.not_eq_true] at ht
    obtain ⟨hk, tail⟩ := bitAt_cons_bits hb
    simp only [decFields, ht, ho, hk, if_true, Bool.false_eq_true, if_false, List.append_assoc, hrt _ _ _ _ ha,
      ih _ _ (k + 1) hfs tail]
  case case5 ht ho _ _ hfs ih =>
    simp only [Bool.or_eq_true, not_or, Bool.not_eq_true] at ht
    obtain ⟨hk, tail⟩ := bitAt_cons_bits hb
    simp only [decFields, ht, ho, hk, if_true, Bool.false_eq_true, if_false, ih _ _ (k + 1) hfs tail]
  case case8 ht ho _ _ _ hfs ha ih =>
    simp only [Bool.or_eq_true, not_or, Bool.not_eq_true] at ht ho
    simp only [decFields, ht, ho, Bool.false_eq_true, if_false, List.append_assoc, hrt _ _ _ _ ha, ih _ _ k hfs hb]

theorem packBits_length (n : Nat) (bits : List Bool) : (packBits n bits).length = n := by
  induction n generalizing bits with
  | zero => simp [packBits]
  | succ n ih => simp [packBits, ih]

theorem encBody_decBody (enc : STy → SVal → Option Bytes) (dec : STy → Bytes → SDec SVal)
    (hrt : ∀ ty v bs rest, enc ty v = some bs → dec ty (bs ++ rest) = .ok (v, rest))
    (compact : Bool) (fs : List SField) (vs : List SVal) (bs rest : Bytes)
    (h : encBody enc compact fs vs = some bs) :
    decBody dec compact fs (bs ++ rest) = .ok (vs, rest) := by
  revert h
  fun_cases encBody enc compact fs vs <;> intro h
  case case1 => cases h
  case case2 bits body hf =>
    obtain ⟨a1, r1, h1, hr1, rfl⟩ := catOpt_cons_some _ _ _ h
    obtain ⟨a2, r2, h2, hr2, rfl⟩ := catOpt_cons_some _ _ _ hr1
    obtain ⟨a3, r3, h3, hr3, rfl⟩ := catOpt_cons_some _ _ _ hr2
    cases catOpt_nil_some _ hr3
    cases h1
    cases h2
    have hbl := encFields_bits_length _ _ _ _ _ hf
    have hread := readN_append (packBits ((optCount fs + 7) / 8) bits) (body ++ (a3 ++ rest))
    rw [packBits_length] at hread
    have hfields := encFields_decFields enc dec hrt (packBits ((optCount fs + 7) / 8) bits) (a3 ++ rest) fs vs bits body 0 hf
      (fun i hi => by
        rw [Nat.zero_add]
        exact bitAt_packBits _ _ _ (by omega))
    simp only [decBody, List.append_assoc, List.append_nil, hread, hfields]
    cases compact with
    | true => cases h3; rfl
    | false =>
      rw [if_neg Bool.false_ne_true, tagEndB_eq] at h3
      cases h3
      simp only [Bool.false_eq_true, if_false, List.cons_append, List.nil_append, skipTagged_tagEnd]

theorem encEnum_decEnum (enc : STy → SVal → Option Bytes) (dec : STy → Bytes → SDec SVal)
    (hrt : ∀ ty v bs rest, enc ty v = some bs → dec ty (bs ++ rest) = .ok (v, rest))
    (e : SEnum) (v : SVal) (bs rest : Bytes) (h : encEnum enc e v = some bs) :
    decEnum dec e (bs ++ rest) = .ok (v, rest) := by
  revert h
  fun_cases encEnum enc e v <;> intro h <;> try cases h
  case case2 i vs hu var d hd hvar hfind =>
    obtain ⟨a1, r1, h1, hr1, rfl⟩ := catOpt_cons_some _ _ _ h
    obtain ⟨a2, r2, h2, hr2, rfl⟩ := catOpt_cons_some _ _ _ hr1
    cases catOpt_nil_some _ hr2
    simp only [decEnum, hu, List.append_assoc, List.append_nil, varint32_rt _ _ _ h1, beq_iff_eq.mp hfind, hvar,
      encBody_decBody enc dec hrt _ _ _ _ _ h2]

theorem decTy_encTy (S : Schema) : ∀ (f : Nat) (ty : STy) (v : SVal) (bs rest : Bytes),
    encTy S f ty v = some bs → decTy S f ty (bs ++ rest) = .ok (v, rest) := by
  intro f
  induction f with
  | zero => intro ty v bs rest h; cases h
  | succ f ih =>
    intro ty v bs rest
    -- `fun_cases` abstracts the fuel; `hn` keeps that it is `f + 1`, so that the component types are read with fuel `f`
    generalize hn : f + 1 = n
    fun_cases encTy S n ty v <;> intro h <;> try cases h
    all_goals obtain rfl := Nat.succ.inj hn
    case case2 => exact prim_rt _ _ _ _ h
    case case4 t _ ho xs =>  -- a sequence
      obtain ⟨a, b, ha, hb, rfl⟩ := withSize_some _ _ _ h
      simp only [decTy, ho, List.append_assoc, encSize_dec _ _ _ ha, Bool.false_eq_true, if_false,
        encList_decListS _ (decTy S f t) xs (ih t) b rest hb]
    case case7 k v' _ ho es hnd =>  -- a dictionary
      obtain ⟨a, b, ha, hb, rfl⟩ := withSize_some _ _ _ h
      simp only [decTy, ho, List.append_assoc, encSize_dec _ _ _ ha, Bool.false_eq_true, if_false,
        encPairs_decPairsS _ _ _ _ es (ih k) (ih v') [] hnd b rest hb]
    -- a name: of an alias, a struct, an enumeration
    case case12 n a hf ho => simp only [decTy, hf, ho, Bool.false_eq_true, if_false]; exact ih _ _ _ _ h
    case case13 n s hf vs => simp only [decTy, hf, encBody_decBody _ _ ih _ _ _ _ _ h]
    case case15 n e hf => simp only [decTy, hf]; exact encEnum_decEnum _ _ ih e _ bs rest h

/-- what each field adds to the body `encFields` writes (`none` where it refuses); `fieldBits` is the bit sequence beside it
    (`encFields_parts`) -/
def fieldParts (enc : STy → SVal → Option Bytes) : List SField → List SVal → List (Option Bytes)
  | [], [] => []
  | f :: fs, v :: vs =>
    if f.tag.isSome || f.stream then [none]
    else if f.optional then
      match v with
      | .present x => enc f.ty x :: fieldParts enc fs vs
      | .absent => some [] :: fieldParts enc fs vs
      | _ => [none]
    else enc f.ty v :: fieldParts enc fs vs
  | _, _ => [none]

def fieldBits : List SField → List SVal → List Bool
  | f :: fs, v :: vs =>
    if f.optional then
      match v with
      | .present _ => true :: fieldBits fs vs
      | _ => false :: fieldBits fs vs
    else fieldBits fs vs
  | _, _ => []

theorem catOpt_cons (x : Option Bytes) (xs : List (Option Bytes)) :
    catOpt (x :: xs) = match x, catOpt xs with | some a, some b => some (a ++ b) | _, _ => none := rfl

theorem catOpt_nil_head (xs : List (Option Bytes)) : catOpt (some [] :: xs) = catOpt xs := by
  rw [catOpt_cons]; cases catOpt xs <;> simp

theorem catOpt_append (ps qs : List (Option Bytes)) :
    catOpt (ps ++ qs) = match catOpt ps, catOpt qs with | some a, some b => some (a ++ b) | _, _ => none := by
  induction ps with
  | nil => simp [catOpt]; cases catOpt qs <;> simp
  | cons p ps ih =>
    simp only [List.cons_append, catOpt_cons, ih]
    cases p <;> cases catOpt ps <;> cases catOpt qs <;> simp

theorem catOpt_nest (a : Option Bytes) (xs : List (Option Bytes)) : catOpt [a, catOpt xs] = catOpt (a :: xs) := by
  simp only [catOpt]
  cases a <;> cases catOpt xs <;> simp

theorem encFields_parts (enc : STy → SVal → Option Bytes) (fs : List SField) : ∀ (vs : List SVal),
    encFields enc fs vs = (catOpt (fieldParts enc fs vs)).map (fieldBits fs vs, ·) := by
  induction fs with
  | nil => intro vs; cases vs <;> rfl
  | cons f fs ih =>
    intro vs
    cases vs with
    | nil => rfl
    | cons v vs =>
      simp only [encFields, fieldParts, fieldBits, ih vs]
      split
      · rfl
      · split
        · cases v with
          | present x => simp only [catOpt_cons]; cases enc f.ty x <;> cases catOpt (fieldParts enc fs vs) <;> rfl
          | absent => simp only [catOpt_cons]; cases catOpt (fieldParts enc fs vs) <;> rfl
          | _ => rfl
        · simp only [catOpt_cons]; cases enc f.ty v <;> cases catOpt (fieldParts enc fs vs) <;> rfl

theorem encBody_parts (enc : STy → SVal → Option Bytes) (compact : Bool) (fs : List SField) (vs : List SVal) :
    encBody enc compact fs vs =
      catOpt (some (packBits ((optCount fs + 7) / 8) (fieldBits fs vs)) ::
        (fieldParts enc fs vs ++ [if compact then some [] else tagEndB])) := by
  simp only [encBody, encFields_parts]
  cases h1 : catOpt (fieldParts enc fs vs) <;> cases h2 : (if compact = true then some [] else tagEndB) <;>
    simp [catOpt_append, catOpt, h1]

/-
Three readings of `Schema.find`, the look-up `encTy` itself makes (`plainFieldTys`, `variantPayload`, `aliasTarget`), each with
the one fact about `encTy` it was made for. On a concrete schema and name they are closed terms, which the kernel evaluates. -/

theorem encTy_struct {S : Schema} {n : String} {s : SStruct} (hs : S.structs.find? (fun s => s.name == n) = some s)
    (f : Nat) (vs : List SVal) : encTy S (f + 1) (.named n) (.struct vs) = encBody (encTy S f) s.compact s.fields vs := by
  simp only [encTy, Schema.find, hs]

def Gen.SField.plain (f : SField) : Bool := !(f.optional || f.tag.isSome || f.stream)

theorem fieldParts_plain (enc : STy → SVal → Option Bytes) : ∀ (fs : List SField) (vs : List SVal),
    fs.all SField.plain = true → vs.length = fs.length →
    fieldParts enc fs vs = List.zipWith enc (fs.map (·.ty)) vs ∧ fieldBits fs vs = [] ∧ optCount fs = 0 := by
  intro fs
  induction fs with
  | nil => intro vs _ hl; cases vs with | nil => exact ⟨rfl, rfl, rfl⟩ | cons _ _ => cases hl
  | cons fl fs ih =>
    intro vs hp hl
    cases vs with
    | nil => cases hl
    | cons v vs =>
      simp only [List.all_cons, Bool.and_eq_true, SField.plain, Bool.not_eq_true', Bool.or_eq_false_iff] at hp
      obtain ⟨⟨⟨ho, ht⟩, hst⟩, hp⟩ := hp
      obtain ⟨ih1, ih2, ih3⟩ := ih vs hp (Nat.succ.inj hl)
      refine ⟨?_, ?_, ?_⟩
      · simp only [fieldParts, ht, hst, ho, ih1, Bool.or_self, Bool.false_eq_true, if_false, List.map_cons, List.zipWith_cons_cons]
      · simp only [fieldBits, ho, Bool.false_eq_true, if_false, ih2]
      · simpa only [optCount, List.filter_cons, ho, Bool.false_and, Bool.false_eq_true, if_false] using ih3

def plainFieldTys (S : Schema) (n : String) : Option (List STy) :=
  match S.find n with
  | some (.struct s) => if !s.compact && s.fields.all SField.plain then some (s.fields.map (·.ty)) else none
  | _ => none

theorem encTy_plain_struct {S : Schema} {n : String} {tys : List STy} (h : plainFieldTys S n = some tys) (f : Nat)
    (vs : List SVal) (hl : vs.length = tys.length) :
    encTy S (f + 1) (.named n) (.struct vs) = catOpt (List.zipWith (encTy S f) tys vs ++ [tagEndB]) := by
  revert h
  fun_cases plainFieldTys S n <;> intro h <;> cases h
  case case1 s hs hc =>
    simp only [Bool.and_eq_true, Bool.not_eq_true'] at hc
    obtain ⟨hp, hb, ho⟩ := fieldParts_plain (encTy S f) s.fields vs hc.2 (by simpa using hl)
    simp only [encTy, hs, encBody_parts, hp, hb, ho, hc.1, Bool.false_eq_true, if_false]
    exact catOpt_nil_head _

def variantPayload (S : Schema) (n : String) (i : Nat) : Option (Int × STy) :=
  match S.find n with
  | some (.enum e) =>
    match e.underlying, e.variants[i]?, (variantValues 0 e.variants)[i]? with
    | none, some var, some d =>
      match var.fields with
      | some [fl] =>
        if !e.compact && findIdx (fun x => x == d) (variantValues 0 e.variants) 0 == some i && fl.plain then some (d, fl.ty)
        else none
      | _ => none
    | _, _, _ => none
  | _ => none

theorem encTy_variant {S : Schema} {n : String} {i : Nat} {d : Int} {t : STy} (h : variantPayload S n i = some (d, t))
    (f : Nat) (v : SVal) :
    encTy S (f + 1) (.named n) (.variant i [v]) = catOpt [encVarintI (-(2 ^ 31)) (2 ^ 31) d, encTy S f t v, tagEndB] := by
  revert h
  fun_cases variantPayload S n i <;> intro h <;> cases h
  case case1 e he var hv hu fl hf hd hc =>
    simp only [Bool.and_eq_true, Bool.not_eq_true'] at hc
    obtain ⟨hp, hb, ho⟩ := fieldParts_plain (encTy S f) [fl] [v] (by simp only [List.all_cons, hc.2, List.all_nil, Bool.and_self]) rfl
    simp only [encTy, he, encEnum, hu, hv, hd, if_pos hc.1.2, hf, Option.getD_some, hc.1.1,
      encBody_parts, hp, hb, ho, Bool.false_eq_true, if_false]
    show catOpt [_, catOpt (some [] :: [encTy S f fl.ty v, tagEndB])] = _
    rw [catOpt_nil_head]
    exact catOpt_nest _ _

def aliasTarget (S : Schema) (n : String) : Option STy :=
  match S.find n with
  | some (.alias a) => if a.optional then none else some a.ty
  | _ => none

theorem encTy_alias {S : Schema} {n : String} {t : STy} (h : aliasTarget S n = some t) (f : Nat) (v : SVal) :
    encTy S (f + 1) (.named n) v = encTy S f t v := by
  revert h
  fun_cases aliasTarget S n <;> intro h <;> cases h
  case case2 a ha ho => simp only [encTy, ha, ho, Bool.false_eq_true, if_false]

end Slicec
