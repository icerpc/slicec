/-
  C15 — the lints the compiler records (the model `lintSites` of C13) do not depend on the order of the input files.

  A lint site carries the *index* of its file, which a permutation changes; `LintSite.located` replaces the index by the
  file itself. `lintSites_located_perm`: for `P.Perm P'` and `UniqueKeys P` the located lint sites of `P'` are a
  permutation of those of `P`. The level a lint is emitted with (`into_updated`) is a function of the located site, the
  `--allow` values and the `allow` attributes of the element its scope names; that look-up is the third "last writer wins"
  table (`scopeAllowsOf_perm`), so the sites with their levels are permuted too (`lintLevels_perm`).
-/
import SlicecVerif.Lemmas.PermTable
import SlicecVerif.Model.Lints

namespace Slicec

theorem optmap_cases {α β} {f : α → β} {o1 o2 : Option α} (h : o1.map f = o2.map f) :
    (o1 = none ∧ o2 = none) ∨ ∃ a b, o1 = some a ∧ o2 = some b ∧ f a = f b := by
  cases o1 <;> cases o2 <;> simp at h
  · exact Or.inl ⟨rfl, rfl⟩
  · exact Or.inr ⟨_, _, rfl, rfl, h⟩

theorem isDeprecatedTarget_fun (t1 t2 : Table) (h : TableSim t1 t2) : isDeprecatedTarget t1 = isDeprecatedTarget t2 := by
  funext id ms
  unfold isDeprecatedTarget
  rcases optmap_cases (findNodeWithScope_sim t1 t2 h id ms) with ⟨h1, h2⟩ | ⟨n1, n2, h1, h2, hn⟩
  · rw [h1, h2]
  · rw [h1, h2]
    obtain ⟨hk, _, _, _, ha⟩ := NodeInfo.norm_fields hn
    simp only
    rw [← hk]
    by_cases hm : n1.kind = .module
    · simp [hm]
    · rw [ha hm]

theorem directHit_fun (t1 t2 : Table) (h : TableSim t1 t2) : directHit t1 = directHit t2 := by
  funext ms path r
  unfold directHit
  rw [isDeprecatedTarget_fun t1 t2 h]

mutual
theorem anonHits_sim (t1 t2 : Table) (h : TableSim t1 t2) : ∀ (r : TRef) (ms path : String), anonHits t1 ms path r = anonHits t2 ms path r
  | .mk _ ty _, ms, path => by
    simp only [anonHits]
    exact anonHitsTy_sim t1 t2 h ty ms path
theorem anonHitsTy_sim (t1 t2 : Table) (h : TableSim t1 t2) : ∀ (e : TyExpr) (ms path : String), anonHitsTy t1 ms path e = anonHitsTy t2 ms path e
  | .prim _, _, _ => by simp only [anonHitsTy]
  | .named _, _, _ => by simp only [anonHitsTy]
  | .seq e, ms, path => by
    simp only [anonHitsTy]
    rw [anonHits_sim t1 t2 h e, directHit_fun t1 t2 h]
  | .dict k v, ms, path => by
    simp only [anonHitsTy]
    rw [anonHits_sim t1 t2 h k, anonHits_sim t1 t2 h v, directHit_fun t1 t2 h]
  | .result s f, ms, path => by
    simp only [anonHitsTy]
    rw [anonHits_sim t1 t2 h s, anonHits_sim t1 t2 h f, directHit_fun t1 t2 h]
end

theorem anonHits_fun (t1 t2 : Table) (h : TableSim t1 t2) : anonHits t1 = anonHits t2 := by
  funext ms path r
  exact anonHits_sim t1 t2 h r ms path

theorem defDeprecatedSites_fun (t1 t2 : Table) (h : TableSim t1 t2) : defDeprecatedSites t1 = defDeprecatedSites t2 := by
  funext file ms path d
  unfold defDeprecatedSites memberRefSites
  rw [anonHits_fun t1 t2 h, directHit_fun t1 t2 h]

theorem linkBroken_fun (t1 t2 : Table) (h : TableSim t1 t2) : linkBroken t1 = linkBroken t2 := by
  funext c id
  unfold linkBroken
  rcases optmap_cases (findNodeWithScope_sim t1 t2 h id c.key) with ⟨h1, h2⟩ | ⟨n1, n2, h1, h2, hn⟩
  · rw [h1, h2]
  · rw [h1, h2]
    simp only [(NodeInfo.norm_fields hn).1]

theorem brokenLinkSites_fun (t1 t2 : Table) (h : TableSim t1 t2) : brokenLinkSites t1 = brokenLinkSites t2 := by
  funext file c
  unfold brokenLinkSites
  rw [linkBroken_fun t1 t2 h]

def LintSite.setFile (i : Nat) (s : LintSite) : LintSite := { s with file := i }

def LintSite.located (P : Program) (s : LintSite) : Option SFile × LintSite := (P[s.file]?, s.setFile 0)

/-- a generator of sites that uses the file index only to stamp it on the sites -/
def FileUniform (G : Nat → List LintSite) : Prop := ∀ i, G i = (G 0).map (LintSite.setFile i)

theorem FileUniform.flatMap {α} (l : List α) (G : α → Nat → List LintSite) (h : ∀ a ∈ l, FileUniform (G a)) :
    FileUniform fun i => l.flatMap fun a => G a i := by
  intro i
  simp only
  rw [List.map_flatMap]
  exact flatMap_congr_mem _ _ _ fun a ha => h a ha i

theorem FileUniform.append {G H : Nat → List LintSite} (hG : FileUniform G) (hH : FileUniform H) :
    FileUniform fun i => G i ++ H i := by
  intro i
  simp only
  rw [List.map_append, ← hG i, ← hH i]

theorem FileUniform.const_map {α} (l : List α) (s : Nat → LintSite) (hs : ∀ i, s i = (s 0).setFile i) :
    FileUniform fun i => l.map fun _ => s i := by
  intro i
  simp only [List.map_map]
  apply List.map_congr_left
  intro _ _
  exact hs i

theorem FileUniform.nil : FileUniform fun _ => [] := fun _ => rfl

theorem docSite_setFile (k : String) (i : Nat) (c : Commented) : (docSite k 0 c).setFile i = docSite k i c := by
  simp only [docSite, LintSite.setFile]

theorem depSite_setFile (i : Nat) (m : MemberRef) (path : String) : (depSite 0 m path).setFile i = depSite i m path := by
  simp only [depSite, LintSite.setFile]

theorem malformedSites_uniform (c : Commented) : FileUniform fun i => malformedSites i c := by
  intro i
  unfold malformedSites
  split
  · simp only [List.map_cons, List.map_nil, docSite_setFile]
  · rfl

theorem brokenLinkSites_uniform (t : Table) (c : Commented) : FileUniform fun i => brokenLinkSites t i c := by
  intro i
  unfold brokenLinkSites
  simp only
  split
  · rfl
  · simp only [List.map_map, Function.comp_def, docSite_setFile]

theorem incorrectTagSites_uniform (c : Commented) : FileUniform fun i => incorrectTagSites i c := by
  intro i
  unfold incorrectTagSites
  simp only
  split
  · rfl
  · cases c.rets with
    | none =>
      simp only
      split <;> simp only [List.map_append, List.map_map, Function.comp_def, docSite_setFile, List.map_nil]
    | some rets =>
      simp only
      split <;> simp only [List.map_append, List.map_map, Function.comp_def, docSite_setFile]

theorem memberRefSites_uniform (t : Table) (ms : String) (l : List MemberRef) : FileUniform fun i => memberRefSites t i ms l := by
  intro i
  unfold memberRefSites
  simp only [List.map_append, List.map_flatMap, List.map_map, Function.comp_def, depSite_setFile]

theorem defDeprecatedSites_uniform (t : Table) (ms path : String) (d : Def) : FileUniform fun i => defDeprecatedSites t i ms path d := by
  unfold defDeprecatedSites
  exact FileUniform.flatMap _ (fun g i => memberRefSites t i ms g) fun g _ => memberRefSites_uniform t ms g

def fileLintSites (g : Nat → String → String → Def → List LintSite) (f : SFile) (i : Nat) : List LintSite :=
  f.defs.zipIdx.flatMap fun (d, j) => g i (fileModScope f) ("d" ++ toString j) d

theorem perDef_eq (P : Program) (g : Nat → String → String → Def → List LintSite) :
    perDef P g = P.zipIdx.flatMap fun fi => fileLintSites g fi.1 fi.2 := rfl

theorem fileSites_uniform (g : Nat → String → String → Def → List LintSite)
    (hg : ∀ ms path d, FileUniform fun i => g i ms path d) (f : SFile) : FileUniform (fileLintSites g f) :=
  FileUniform.flatMap f.defs.zipIdx (fun dj i => g i (fileModScope f) ("d" ++ toString dj.2) dj.1) fun _ _ => hg _ _ _

def fileLintBlock (g : Nat → String → String → Def → List LintSite) (f : SFile) : List (Option SFile × LintSite) :=
  (fileLintSites g f 0).map fun s => (some f, s.setFile 0)

theorem perDef_located (P : Program) (g : Nat → String → String → Def → List LintSite)
    (hg : ∀ ms path d, FileUniform fun i => g i ms path d) :
    (perDef P g).map (LintSite.located P) = P.flatMap (fileLintBlock g) := by
  rw [perDef_eq, List.map_flatMap, ← zipIdx_flatMap_fst P 0 (fileLintBlock g)]
  apply flatMap_congr_mem
  intro fi hfi
  obtain ⟨f, i⟩ := fi
  have hget : P[i]? = some f := List.mem_zipIdx_iff_getElem?.mp hfi
  simp only
  unfold fileLintBlock
  rw [fileSites_uniform g hg f i, List.map_map]
  apply List.map_congr_left
  intro s _
  simp only [Function.comp, LintSite.located, LintSite.setFile, hget]

theorem lintSites_located (P : Program) :
    (lintSites P).map (LintSite.located P) =
      P.flatMap (fileLintBlock fun i ms path d => (defCommentedParseOrder ms path d).flatMap (malformedSites i)) ++
      P.flatMap (fileLintBlock fun i ms path d => defDeprecatedSites (buildTable P) i ms path d) ++
      P.flatMap (fileLintBlock fun i ms path d => (defCommentedAstOrder ms path d).flatMap (brokenLinkSites (buildTable P) i)) ++
      P.flatMap (fileLintBlock fun i ms path d => (defCommentedVisitOrder ms path d).flatMap (incorrectTagSites i)) := by
  unfold lintSites
  simp only [List.map_append]
  rw [perDef_located P _ (fun ms path d => FileUniform.flatMap _ (fun c i => malformedSites i c) fun c _ => malformedSites_uniform c),
    perDef_located P _ (fun ms path d => defDeprecatedSites_uniform (buildTable P) ms path d),
    perDef_located P _ (fun ms path d => FileUniform.flatMap _ (fun c i => brokenLinkSites (buildTable P) i c) fun c _ =>
      brokenLinkSites_uniform (buildTable P) c),
    perDef_located P _ (fun ms path d => FileUniform.flatMap _ (fun c i => incorrectTagSites i c) fun c _ => incorrectTagSites_uniform c)]

theorem lintSites_located_perm (P P' : Program) (hp : P.Perm P') (hu : UniqueKeys P) :
    ((lintSites P).map (LintSite.located P)).Perm ((lintSites P').map (LintSite.located P')) := by
  rw [lintSites_located P, lintSites_located P', defDeprecatedSites_fun _ _ (buildTable_sim P P' hp hu),
    brokenLinkSites_fun _ _ (buildTable_sim P P' hp hu)]
  exact (((hp.flatMap_right _).append (hp.flatMap_right _)).append (hp.flatMap_right _)).append (hp.flatMap_right _)

theorem fileModScope_eq_modPath (f : SFile) : fileModScope f = f.modPath := rfl

theorem defAllowEntries_keys (ms : String) (d : Def) : (defAllowEntries ms d).map (·.1) = Table.keys (defEntries 0 ms d) := by
  cases d <;>
    simp [defAllowEntries, defEntries, memberAllows, fieldEntries, opEntries, paramEntries, enumeratorEntries, Table.keys,
      List.map_flatMap, Function.comp_def]

theorem declAllow_keys (f : SFile) : (f.defs.flatMap (defAllowEntries (fileModScope f))).map (·.1) = f.declKeys := by
  unfold SFile.declKeys declTable Table.keys
  rw [List.map_flatMap, List.map_flatMap, fileModScope_eq_modPath]
  exact flatMap_congr_mem _ _ _ fun d _ => defAllowEntries_keys _ d

theorem fileAllowEntries_keys (f : SFile) : (fileAllowEntries f).map (·.1) = f.allKeys := by
  unfold fileAllowEntries SFile.allKeys
  rw [fileEntries_eq, List.map_append, declAllow_keys]
  unfold Table.keys
  rw [List.map_append]
  congr 1
  unfold modEntries
  cases f.module <;> rfl

theorem fileAllowEntries_module (f : SFile) (x : String × Option (List (List String))) (hx : x ∈ fileAllowEntries f)
    (hk : x.1 ∉ f.declKeys) : x = (x.1, none) := by
  unfold fileAllowEntries at hx
  rcases List.mem_append.mp hx with h | h
  · exact absurd (by rw [← declAllow_keys]; exact List.mem_map.mpr ⟨x, h, rfl⟩) hk
  · cases hm : f.module with
    | none => rw [hm] at h; cases h
    | some m => rw [hm] at h; simp only [List.mem_singleton] at h; rw [h]

theorem fileAllowEntries_find (scope : String) (f : SFile) (x : String × Option (List (List String)))
    (hx : (fileAllowEntries f).reverse.find? (fun e => e.1 == scope) = some x) :
    scope ∈ f.allKeys ∧ (scope ∉ f.declKeys → some x = some (scope, none)) := by
  have kx : x.1 = scope := by simpa using List.find?_some hx
  have mx : x ∈ fileAllowEntries f := List.mem_reverse.mp (List.mem_of_find?_eq_some hx)
  subst kx
  exact ⟨by rw [← fileAllowEntries_keys]; exact List.mem_map.mpr ⟨x, mx, rfl⟩, fun h => congrArg some (fileAllowEntries_module f x mx h)⟩

theorem scopeAllowsOf_perm (P P' : Program) (hp : P.Perm P') (hu : UniqueKeys P) : scopeAllowsOf P = scopeAllowsOf P' := by
  funext scope
  unfold scopeAllowsOf allowTable
  have happ : ∀ a b : AllowTable, (a ++ b).reverse.find? (fun e => e.1 == scope) =
      (b.reverse.find? (fun e => e.1 == scope)).or (a.reverse.find? (fun e => e.1 == scope)) := by
    intro a b; simp only [List.reverse_append, List.find?_append]
  rw [happ, happ, lastWins_files (fun l : AllowTable => l.reverse.find? (fun e => e.1 == scope)) rfl happ fileAllowEntries scope _
    (fileAllowEntries_find scope) hp hu]

/-- the level `into_updated` leaves a lint with -/
def emittedLevel (cli : List String) (P : Program) (s : LintSite) : Level := (updateOne (envOf cli P) s.diag).level

/-- the same, computed from the located site: the `allow` attributes of the file come from the file itself -/
def locatedLevel (cli : List String) (sa : String → Option (List (List String))) (x : Option SFile × LintSite) : Level :=
  updateLevel ⟨cli, fun _ => match x.1 with | some f => allowArgs f.fileAttrs | none => [], sa⟩ x.2.diag

theorem emittedLevel_eq (cli : List String) (P : Program) (s : LintSite) :
    emittedLevel cli P s = locatedLevel cli (scopeAllowsOf P) (s.located P) := by
  unfold emittedLevel locatedLevel updateOne
  simp only [LintSite.diag, Diag.lint, Bool.false_eq_true, if_false, updateLevel, envOf, fileAllowsOf, LintSite.located, LintSite.setFile]
  rfl

theorem lintLevels_perm (cli : List String) (P P' : Program) (hp : P.Perm P') (hu : UniqueKeys P) :
    ((lintSites P).map fun s => (s.located P, emittedLevel cli P s)).Perm
      ((lintSites P').map fun s => (s.located P', emittedLevel cli P' s)) := by
  have h := (lintSites_located_perm P P' hp hu).map fun x => (x, locatedLevel cli (scopeAllowsOf P') x)
  simp only [List.map_map, Function.comp_def] at h
  simp only [emittedLevel_eq, scopeAllowsOf_perm P P' hp hu]
  exact h

end Slicec
