/-
  C19, what `finish` hands on: `str::trim` is idempotent, so it is in normal form (`Normal`), and the normal forms are exactly
  the values `finish` leaves as they are (`finish_of_normal`).
-/
import SlicecVerif.Lemmas.PluginSpec
import SlicecVerif.Lemmas.Basic

namespace Slicec.PluginSpec

/-- what `plugin_parser` hands on -/
def Normal (r : List Char × List Arg) : Prop :=
  r.1 ≠ [] ∧ trim r.1 = r.1 ∧ ∀ a ∈ r.2, a.1 ≠ [] ∧ trimArg a = a

theorem trimStart_idem (l : List Char) : trimStart (trimStart l) = trimStart l := dropWhile_of_stops (stops_dropWhile _ l)

theorem trimEnd_idem (l : List Char) : trimEnd (trimEnd l) = trimEnd l := by
  simp [trimEnd, dropWhile_of_stops (stops_dropWhile _ _)]

theorem trimEnd_cons_of_not_ws (c : Char) (cs : List Char) (hc : isWs c = false) :
    trimEnd (c :: cs) = c :: trimEnd cs := by
  simp [trimEnd, (span_append isWs _ [c] (.inr (by simp [stops, hc]))).2]

theorem trimStart_trimEnd_trimStart (l : List Char) : trimStart (trimEnd (trimStart l)) = trimEnd (trimStart l) := by
  cases h : trimStart l with
  | nil => simp [trimEnd, trimStart]
  | cons c cs =>
    have hc : isWs c = false := dropWhile_head_not h
    rw [trimEnd_cons_of_not_ws c cs hc]
    simp [trimStart, hc]

theorem trim_idem (l : List Char) : trim (trim l) = trim l := by
  unfold trim
  rw [trimStart_trimEnd_trimStart, trimEnd_idem]

theorem trimArg_idem (a : Arg) : trimArg (trimArg a) = trimArg a := by
  simp [trimArg, trim_idem]

theorem finish_ok_normal (raw r : List Char × List Arg) (h : finish raw = .ok r) : Normal r := by
  rw [finish_eq] at h
  by_cases h1 : trim raw.1 = []
  · rw [if_pos h1] at h; cases h
  · rw [if_neg h1] at h
    by_cases h2 : ∃ a ∈ raw.2.map trimArg, a.1 = []
    · rw [if_pos h2] at h; cases h
    · rw [if_neg h2] at h
      injection h with h
      subst h
      refine ⟨h1, trim_idem _, ?_⟩
      intro a ha
      refine ⟨fun he => h2 ⟨a, ha, he⟩, ?_⟩
      obtain ⟨b, _, rfl⟩ := List.mem_map.1 ha
      exact trimArg_idem b

theorem pluginParser_ok_normal (s : List Char) (r : List Char × List Arg) (h : pluginParser s = .ok r) :
    Normal r := by
  unfold pluginParser at h
  cases hs : scan (.path []) s with
  | error e => rw [hs] at h; cases h
  | ok st => rw [hs] at h; exact finish_ok_normal _ _ h

theorem finish_of_normal (r : List Char × List Arg) (hn : Normal r) : finish r = .ok r := by
  obtain ⟨hne, htp, hargs⟩ := hn
  have hm : r.2.map trimArg = r.2 := (List.map_congr_left (g := id) fun a ha => (hargs a ha).2).trans (List.map_id _)
  rw [finish_eq, htp, hm, if_neg hne, if_neg fun ⟨a, ha, h⟩ => (hargs a ha).1 h]

theorem parse_render_normal (p : List Char) (as : List Arg) (hn : Normal (p, as))
    (hb : ∀ c ∈ (components p as).dropLast, endsBs c = false) :
    pluginParser (render p as) = .ok (p, as) := by
  simpa [render, finish_of_normal _ hn] using
    parse_written false false p as (fun a ha => (hn.2.2 a ha).1) (compsOk_of_dropLast _ hb)

end Slicec.PluginSpec
