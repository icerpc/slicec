/-
  The programs of the non-vacuity examples of Props/C20.lean: one file in which an alias of an anonymous type is used several
  times, once nested inside the anonymous type of another alias; then two files, the alias written in the other one. What
  `resolveNamed` answers is found by evaluation (`with_unfolding_all`, since `scopeLoop` is defined by well-founded
  recursion, which plain `rfl` does not unfold).
-/
import SlicecVerif.Lemmas.VisitComplete

namespace Slicec.Visit

open Slicec

def tr (ty : TyExpr) (opt : Bool := false) : TRef := .mk [] ty opt

/-- `module M  typealias T = Sequence<bool>  typealias U = Dictionary<int32, T>  struct S { a: T, b: U, c: Sequence<T> }` -/
def exFile2 : SFile :=
  { fileAttrs := [], module := some ⟨[], "M"⟩,
    defs := [ .alias [] [] "T" (tr (.seq (tr (.prim .bool)))),
              .alias [] [] "U" (tr (.dict (tr (.prim .int32)) (tr (.named "T")))),
              .struct [] [] false "S" [⟨[], [], none, "a", tr (.named "T")⟩, ⟨[], [], none, "b", tr (.named "U")⟩,
                                       ⟨[], [], none, "c", tr (.seq (tr (.named "T")))⟩] ] }

def exTab : Table := buildTable [exFile2]

theorem ex_numAliases : numAliases exTab = 2 := by
  decide +kernel

theorem ex_res_T : resolveNamed exTab .type "T" "M" = .ok (.expr (.seq (tr (.prim .bool))) "M", []) := by
  with_unfolding_all rfl

theorem ex_res_U : resolveNamed exTab .type "U" "M" = .ok (.expr (.dict (tr (.prim .int32)) (tr (.named "T"))) "M", []) := by
  with_unfolding_all rfl

theorem ex_refs : refAt exFile2 [.d 2, .f 0, .t] = some (.named "T") ∧ refAt exFile2 [.d 2, .f 2, .t, .te] = some (.named "T") ∧
    refAt exFile2 [.d 2, .f 1, .t] = some (.named "U") ∧ refAt exFile2 [.d 1, .t, .tv] = some (.named "T") ∧
    refAt exFile2 [.d 2, .f 0] = none ∧ refAt exFile2 [.d 2, .f 0, .t, .te] = none :=
  ⟨rfl, rfl, rfl, rfl, rfl, rfl⟩

theorem ex_inT : InTy exTab 2 "M" (.seq (tr (.prim .bool))) [.te] ∧ ¬ InTy exTab 2 "M" (.seq (tr (.prim .bool))) [.te, .te] ∧
    ¬ InTy exTab 2 "M" (.seq (tr (.prim .bool))) [.tk] := by
  simp [InTy_step, TyExpr.child, tr, InTy_nil]

theorem ex_inU : InTy exTab 2 "M" (.dict (tr (.prim .int32)) (tr (.named "T"))) [.tv, .te] := by
  rw [InTy_step _ _ _ _ _ _ (by simp)]
  refine ⟨.named "T", by simp [TyExpr.child, tr], ?_⟩
  exact (InTy_named _ _ _ _ _ (by simp)).mpr ⟨1, _, _, _, rfl, ex_res_T, by simp [InTy_step, TyExpr.child, tr, InTy_nil]⟩

/-- file 0: `module N  typealias T0 = Sequence<bool>` -/
def exFileA : SFile := { fileAttrs := [], module := some ⟨[], "N"⟩, defs := [ .alias [] [] "T0" (tr (.seq (tr (.prim .bool)))) ] }

/-- file 1: `module M  struct S { a: N::T0 }` -/
def exFileB : SFile :=
  { fileAttrs := [], module := some ⟨[], "M"⟩, defs := [ .struct [] [] false "S" [⟨[], [], none, "a", tr (.named "N::T0")⟩] ] }

def exTab2 : Table := buildTable [exFileA, exFileB]

theorem ex2_numAliases : numAliases exTab2 = 1 := by
  decide +kernel

theorem ex2_res : resolveNamed exTab2 .type "N::T0" "M" = .ok (.expr (.seq (tr (.prim .bool))) "N", []) := by
  with_unfolding_all rfl

theorem ex2_exprFile : exprFile exTab2 "N::T0" "M" = 0 := by
  decide +kernel

end Slicec.Visit
