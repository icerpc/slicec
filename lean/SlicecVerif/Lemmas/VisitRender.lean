/-
  Lemmas for C20, rendering: the string a structured path is rendered to (`pathStr`, what the harness compares)
  determines the path, and the rendered event list (`eventsStr`) determines the events.
-/
import SlicecVerif.Lemmas.Visit
import SlicecVerif.Lemmas.Basic

namespace Slicec.Visit

open Slicec

theorem sep_split (sep : Char) {x x' l l' : List Char} (hx : sep ∉ x) (hx' : sep ∉ x') (hl : stops (· != sep) l = true)
    (hl' : stops (· != sep) l' = true) (h : x ++ l = x' ++ l') : x = x' ∧ l = l' := by
  have scan : ∀ {x : List Char}, sep ∉ x → x.all (· != sep) = true := fun hx =>
    List.all_eq_true.mpr fun _ hc => bne_iff_ne.mpr fun e => hx (e ▸ hc)
  have a := span_all_append (scan hx) hl
  have b := span_all_append (scan hx') hl'
  rw [h] at a
  exact ⟨a.1.symm.trans b.1, a.2.symm.trans b.2⟩

theorem intercalate_ne_nil (sep : Char) (x : List Char) (r : List (List Char)) (hx : x ≠ []) : [sep].intercalate (x :: r) ≠ [] := by
  cases r <;> simp [hx]

theorem intercalate_inj (sep : Char) : ∀ (xs ys : List (List Char)),
    (∀ x ∈ xs, x ≠ [] ∧ sep ∉ x) → (∀ y ∈ ys, y ≠ [] ∧ sep ∉ y) → [sep].intercalate xs = [sep].intercalate ys → xs = ys
  | [], [], _, _, _ => rfl
  | [], y :: ys, _, hy, h => absurd h.symm (intercalate_ne_nil sep y ys (hy y List.mem_cons_self).1)
  | x :: xs, [], hx, _, h => absurd h (intercalate_ne_nil sep x xs (hx x List.mem_cons_self).1)
  | x :: xs, y :: ys, hx, hy, h => by
    rw [← List.splitOn_intercalate sep (fun l hl => (hx l hl).2) (List.cons_ne_nil x xs), h,
      List.splitOn_intercalate sep (fun l hl => (hy l hl).2) (List.cons_ne_nil y ys)]

theorem intercalate_chars (sep : Char) (P : Char → Prop) (hsep : P sep) (xs : List (List Char))
    (h : ∀ x ∈ xs, ∀ c ∈ x, P c) : ∀ c ∈ [sep].intercalate xs, P c :=
  fun c hc => (mem_intercalate hc).elim (fun hs => List.mem_singleton.mp hs ▸ hsep) fun ⟨x, hx, hcx⟩ => h x hx c hcx

def Seg.chars (s : Seg) : List Char := (Seg.str s).toList

theorem digits_ne_nil (i : Nat) : Nat.toDigits 10 i ≠ [] := Nat.toDigits_ne_nil

theorem digits_isDigit (i : Nat) (c : Char) (h : c ∈ Nat.toDigits 10 i) : c.isDigit = true :=
  Nat.isDigit_of_mem_toDigits (by decide) (by decide) h

theorem Seg.chars_eq (s : Seg) : s.chars =
    match s with
    | .file => ['f', 'i', 'l', 'e'] | .mod => ['m', 'o', 'd']
    | .d i => 'd' :: Nat.toDigits 10 i | .f i => 'f' :: Nat.toDigits 10 i | .o i => 'o' :: Nat.toDigits 10 i
    | .p i => 'p' :: Nat.toDigits 10 i | .r i => 'r' :: Nat.toDigits 10 i | .e i => 'e' :: Nat.toDigits 10 i
    | .t => ['t'] | .te => ['e'] | .tk => ['k'] | .tv => ['v'] | .ts => ['s'] | .tf => ['f'] := by
  cases s <;> simp [Seg.chars, Seg.str, Nat.toList_repr]

theorem Seg.chars_ne_nil (s : Seg) : s.chars ≠ [] := by
  rw [Seg.chars_eq]; cases s <;> simp

theorem Seg.chars_alnum (s : Seg) : ∀ c ∈ s.chars, c.isAlphanum = true := by
  have digits : ∀ i, ∀ c ∈ Nat.toDigits 10 i, c.isAlphanum = true := fun i c hc => by
    rw [Char.isAlphanum, digits_isDigit i c hc, Bool.or_true]
  rw [Seg.chars_eq]
  cases s
  case file | mod | t | te | tk | tv | ts | tf => decide
  all_goals exact List.forall_mem_cons.mpr ⟨by decide, digits _⟩

theorem Seg.chars_no_dot (s : Seg) : '.' ∉ s.chars :=
  fun h => absurd (s.chars_alnum _ h) (by decide)

/-- only a left inverse of `Seg.chars` (`ofChars_chars`), to make that injective; on other input the answer is arbitrary -/
def Seg.ofChars : List Char → Seg
  | [] => .file
  | [c] => if c = 't' then .t else if c = 'e' then .te else if c = 'k' then .tk else if c = 'v' then .tv
      else if c = 's' then .ts else .tf
  | c :: ds =>
    if ds.all Char.isDigit then
      (if c = 'd' then Seg.d else if c = 'f' then Seg.f else if c = 'o' then Seg.o else if c = 'p' then Seg.p
        else if c = 'r' then Seg.r else Seg.e) (Nat.ofDigitChars 10 ds 0)
    else if c = 'f' then .file else .mod

theorem Seg.ofChars_idx (c : Char) (i : Nat) : Seg.ofChars (c :: Nat.toDigits 10 i) =
    (if c = 'd' then Seg.d else if c = 'f' then Seg.f else if c = 'o' then Seg.o else if c = 'p' then Seg.p
        else if c = 'r' then Seg.r else Seg.e) i := by
  have hall : (Nat.toDigits 10 i).all Char.isDigit = true := List.all_eq_true.2 (fun c hc => digits_isDigit i c hc)
  cases h : Nat.toDigits 10 i with
  | nil => exact absurd h (digits_ne_nil i)
  | cons x r =>
    rw [h] at hall
    rw [Seg.ofChars, if_pos hall, ← h, Nat.ofDigitChars_ten_toDigits]
    intro h'; cases h'

theorem Seg.ofChars_chars (s : Seg) : Seg.ofChars s.chars = s := by
  rw [Seg.chars_eq]
  cases s <;> first | rfl | (rw [Seg.ofChars_idx]; rfl)

theorem Seg.chars_inj (a b : Seg) (h : a.chars = b.chars) : a = b := by
  rw [← Seg.ofChars_chars a, h, Seg.ofChars_chars]

theorem pathStr_toList (p : Path) : (pathStr p).toList = ['.'].intercalate (p.map Seg.chars) := by
  unfold pathStr
  rw [String.toList_intercalate, List.map_map]
  have : ".".toList = ['.'] := by decide
  rw [this]
  rfl

theorem pathStr_inj (p q : Path) (h : pathStr p = pathStr q) : p = q := by
  have h' := congrArg String.toList h
  rw [pathStr_toList, pathStr_toList] at h'
  have hp : ∀ (p : Path), ∀ x ∈ p.map Seg.chars, x ≠ [] ∧ '.' ∉ x := by
    intro p x hx
    obtain ⟨s, _, rfl⟩ := List.mem_map.mp hx
    exact ⟨Seg.chars_ne_nil s, Seg.chars_no_dot s⟩
  have := intercalate_inj '.' _ _ (hp p) (hp q) h'
  exact (List.map_inj_right Seg.chars_inj).mp this

theorem pathStr_chars (p : Path) : ∀ c ∈ (pathStr p).toList, c.isAlphanum = true ∨ c = '.' := by
  rw [pathStr_toList]
  refine intercalate_chars '.' _ (Or.inr rfl) _ ?_
  intro x hx c hc
  obtain ⟨s, _, rfl⟩ := List.mem_map.mp hx
  exact Or.inl (Seg.chars_alnum s c hc)

theorem kinds_chars : ∀ k ∈ kinds, k.toList ≠ [] ∧ ∀ c ∈ k.toList, c.isAlphanum = true := by
  decide +kernel

def suffixChars (e : PEvent) : List Char :=
  if e.kind == "typeref" then (if e.foreign then "@other".toList else "@own".toList) else []

theorem eventStr_toList (e : PEvent) :
    (Event.str e.render).toList = e.kind.toList ++ ':' :: ((pathStr e.path).toList ++ suffixChars e) := by
  unfold Event.str PEvent.render suffixChars
  simp only [String.toList_append]
  have : ":".toList = [':'] := by decide
  rw [this]
  cases hk : (e.kind == "typeref") <;> cases hf : e.foreign <;> simp

theorem suffixChars_stops (e : PEvent) : stops (· != '@') (suffixChars e) = true := by
  unfold suffixChars
  split
  · split <;> decide +kernel
  · rfl

theorem suffixChars_chars (e : PEvent) : ∀ c ∈ suffixChars e, c.isAlphanum = true ∨ c = '@' := by
  unfold suffixChars
  split
  · split <;> decide +kernel
  · simp

/-- the string is cut at its first `:` (kinds are alphanumeric) and what follows at its first `@` (paths are alphanumeric
    or `.`); the flag is read off the suffix -/
theorem eventStr_inj (a b : PEvent) (ha : a.OK) (hb : b.OK) (h : Event.str a.render = Event.str b.render) : a = b := by
  have h' := congrArg String.toList h
  rw [eventStr_toList, eventStr_toList] at h'
  have hka := kinds_chars _ ha.1
  have hkb := kinds_chars _ hb.1
  have nocolon : ∀ (k : String), (∀ c ∈ k.toList, c.isAlphanum = true) → ':' ∉ k.toList := by
    intro k hk hm
    have := hk _ hm
    revert this; decide
  obtain ⟨hk, hrest⟩ := sep_split ':' (nocolon _ hka.2) (nocolon _ hkb.2) rfl rfl h'
  have hkind : a.kind = b.kind := String.toList_inj.mp hk
  simp only [List.cons.injEq, true_and] at hrest
  have noat : ∀ (p : Path), '@' ∉ (pathStr p).toList := by
    intro p hm
    have := pathStr_chars p _ hm
    revert this; decide
  obtain ⟨hp, hs⟩ := sep_split '@' (noat _) (noat _) (suffixChars_stops a) (suffixChars_stops b) hrest
  have hpath : a.path = b.path := pathStr_inj _ _ (String.toList_inj.mp hp)
  have hfor : a.foreign = b.foreign := by
    by_cases ht : a.kind = "typeref"
    · have ht' : b.kind = "typeref" := hkind ▸ ht
      unfold suffixChars at hs
      simp only [ht, ht', beq_self_eq_true, if_true] at hs
      cases hfa : a.foreign <;> cases hfb : b.foreign <;> simp [hfa, hfb] at hs ⊢ <;> exact absurd hs (by decide)
    · rw [ha.2 ht, hb.2 (hkind ▸ ht)]
  cases a; cases b
  simp only at hkind hpath hfor
  rw [hkind, hpath, hfor]

theorem eventStr_chars (e : PEvent) (he : e.OK) :
    (Event.str e.render).toList ≠ [] ∧ ',' ∉ (Event.str e.render).toList ∧ '|' ∉ (Event.str e.render).toList := by
  rw [eventStr_toList]
  have hk := (kinds_chars _ he.1).2
  have key : ∀ c ∈ e.kind.toList ++ ':' :: ((pathStr e.path).toList ++ suffixChars e),
      c.isAlphanum = true ∨ c = ':' ∨ c = '.' ∨ c = '@' := by
    intro c hc
    simp only [List.mem_append, List.mem_cons] at hc
    rcases hc with hc | rfl | hc | hc
    · exact Or.inl (hk c hc)
    · exact Or.inr (Or.inl rfl)
    · exact (pathStr_chars _ c hc).imp_right (fun h => Or.inr (Or.inl h))
    · exact (suffixChars_chars _ c hc).imp_right (fun h => Or.inr (Or.inr h))
  refine ⟨by simp, ?_, ?_⟩ <;>
  · intro hm
    have := key _ hm
    revert this; decide

theorem map_transfer {α α' β γ} (g : α → β) (g' : α' → β) (h : α → γ) (h' : α' → γ) : ∀ (xs : List α) (ys : List α'),
    (∀ a ∈ xs, ∀ b ∈ ys, g a = g' b → h a = h' b) → xs.map g = ys.map g' → xs.map h = ys.map h'
  | [], [], _, _ => rfl
  | [], y :: ys, _, e => by simp at e
  | x :: xs, [], _, e => by simp at e
  | x :: xs, y :: ys, hg, e => by
    simp only [List.map_cons, List.cons.injEq] at e ⊢
    exact ⟨hg x List.mem_cons_self y List.mem_cons_self e.1,
      map_transfer g g' h h' xs ys (fun a ha b hb => hg a (List.mem_cons_of_mem _ ha) b (List.mem_cons_of_mem _ hb)) e.2⟩

theorem eventsStr_toList (A : List PEvent) :
    (eventsStr (A.map PEvent.render)).toList = [','].intercalate (A.map fun e => (Event.str e.render).toList) := by
  unfold eventsStr
  rw [String.toList_intercalate, List.map_map, List.map_map]
  have : ",".toList = [','] := by decide
  rw [this]
  rfl

theorem eventsStr_inj (A B : List PEvent) (hA : ∀ e ∈ A, e.OK) (hB : ∀ e ∈ B, e.OK)
    (h : eventsStr (A.map PEvent.render) = eventsStr (B.map PEvent.render)) : A = B := by
  have h' := congrArg String.toList h
  rw [eventsStr_toList, eventsStr_toList] at h'
  have hp : ∀ (L : List PEvent), (∀ e ∈ L, e.OK) → ∀ x ∈ L.map (fun e => (Event.str e.render).toList), x ≠ [] ∧ ',' ∉ x := by
    intro L hL x hx
    obtain ⟨e, he, rfl⟩ := List.mem_map.mp hx
    exact ⟨(eventStr_chars e (hL e he)).1, (eventStr_chars e (hL e he)).2.1⟩
  have := intercalate_inj ',' _ _ (hp A hA) (hp B hB) h'
  simpa using map_transfer _ _ id id A B (fun a ha b hb hab => eventStr_inj a b (hA a ha) (hB b hb) (String.toList_inj.mp hab)) this

theorem eventsStr_visit_chars (t : Table) (self : Nat) (f : SFile) :
    (eventsStr (visit t self f)).toList ≠ [] ∧ '|' ∉ (eventsStr (visit t self f)).toList := by
  unfold visit
  rw [eventsStr_toList]
  constructor
  · -- the first event is the file itself
    obtain ⟨rest, hrest⟩ : ∃ rest, visitP t self f = ⟨"file", [.file], false⟩ :: rest := by
      unfold visitP fileF
      simp only [flat, List.nil_append, List.cons_append]
      exact ⟨_, rfl⟩
    rw [hrest, List.map_cons]
    exact intercalate_ne_nil ',' _ _ (by decide)
  · intro hm
    refine intercalate_chars ',' (· ≠ '|') (by decide) _ ?_ _ hm rfl
    intro x hx c hc h
    obtain ⟨e, he, rfl⟩ := List.mem_map.mp hx
    exact (eventStr_chars e (visitP_OK t self f e he)).2.2 (h ▸ hc)

theorem visitDump_inj (p p' : Program) (h : visitDump p = visitDump p') :
    (p.zipIdx.map fun (f, i) => visitP (buildTable p) i f) = (p'.zipIdx.map fun (f, i) => visitP (buildTable p') i f) := by
  have h' := congrArg String.toList h
  unfold visitDump at h'
  simp only [String.toList_append, String.toList_intercalate, List.map_map] at h'
  have h'' := List.append_cancel_right h'
  have hb : "|".toList = ['|'] := by decide
  rw [hb] at h''
  have hp : ∀ (q : Program), ∀ x ∈ q.zipIdx.map (String.toList ∘ fun (x : SFile × Nat) => eventsStr (visit (buildTable q) x.2 x.1)),
      x ≠ [] ∧ '|' ∉ x := by
    intro q x hx
    obtain ⟨⟨f, i⟩, _, rfl⟩ := List.mem_map.mp hx
    exact eventsStr_visit_chars _ i f
  have := intercalate_inj '|' _ _ (hp p) (hp p') h''
  refine map_transfer _ _ _ _ _ _ ?_ this
  rintro ⟨f, i⟩ _ ⟨f', i'⟩ _ hab
  simp only [Function.comp] at hab
  have := String.toList_inj.mp hab
  unfold visit at this
  exact eventsStr_inj _ _ (visitP_OK _ _ _) (visitP_OK _ _ _) this

end Slicec.Visit
