/-
  The codec model (C10): the variable-width integers against their wire-format specification, and the round trip
  `decode_encode` by induction on the type. The round trip says that `decode t` reads the encoding exactly (`Reads`); what
  any decoder reads exactly is a prefix code (`Reads.prefix_free`).
-/
import SlicecVerif.Model.Codec

namespace Slicec

theorem toLE_length (k x : Nat) : (toLE k x).length = k := by
  induction k generalizing x with
  | zero => rfl
  | succ k ih => simp [toLE, ih]

theorem u8_ofNat_toNat (n : Nat) : (UInt8.ofNat n).toNat = n % 256 := UInt8.toNat_ofNat'

theorem fromLE_toLE (k x : Nat) : fromLE (toLE k x) = x % 256 ^ k := by
  induction k generalizing x with
  | zero => simp [toLE, fromLE, Nat.mod_one]
  | succ k ih =>
    simp only [toLE, fromLE, ih, u8_ofNat_toNat]
    rw [Nat.pow_succ, Nat.mul_comm (256 ^ k) 256, Nat.mod_mul]
    omega

theorem fromLE_lt (bs : Bytes) : fromLE bs < 256 ^ bs.length := by
  induction bs with
  | nil => simp [fromLE]
  | cons b bs ih =>
    simp only [fromLE, List.length_cons, Nat.pow_succ]
    have := b.toNat_lt
    omega

theorem toLE_fromLE (bs : Bytes) : toLE bs.length (fromLE bs) = bs := by
  induction bs with
  | nil => rfl
  | cons b bs ih =>
    simp only [List.length_cons, toLE, fromLE]
    have hb := b.toNat_lt
    have h1 : (b.toNat + 256 * fromLE bs) % 256 = b.toNat := by omega
    have h2 : (b.toNat + 256 * fromLE bs) / 256 = fromLE bs := by omega
    rw [h1, h2, ih]
    simp

theorem toLE_mod (k x : Nat) : toLE k (x % 256 ^ k) = toLE k x := by
  induction k generalizing x with
  | zero => rfl
  | succ k ih =>
    rw [toLE, toLE, Nat.pow_succ, Nat.mod_mod_of_dvd _ (Nat.dvd_mul_left 256 _), Nat.mul_comm,
      Nat.mod_mul_right_div_self, ih]

theorem readN_append (bs rest : Bytes) : readN bs.length (bs ++ rest) = .ok (bs, rest) := by
  simp [readN]

theorem readN_toLE (k x : Nat) (rest : Bytes) : readN k (toLE k x ++ rest) = .ok (toLE k x, rest) := by
  have := readN_append (toLE k x) rest
  rwa [toLE_length] at this

theorem reqBitsU_le_iff (v : BitVec 64) (k : Nat) : reqBitsU v ≤ k ↔ v.toNat < 2 ^ k := by
  unfold reqBitsU
  by_cases hz : v = 0#64
  · subst hz
    simp [Nat.two_pow_pos]
  · have h1 := @BitVec.toNat_lt_two_pow_sub_clz 64 v
    have h2 := @BitVec.two_pow_sub_clz_le_toNat_of_ne_zero 64 v (by decide) hz
    have h3 : v.clz.toNat < 64 := by
      have := (@BitVec.clz_lt_iff_ne_zero 64 v).mpr hz
      simpa [BitVec.lt_def] using this
    constructor
    · intro h
      exact Nat.lt_of_lt_of_le h1 (Nat.pow_le_pow_right (by decide) h)
    · intro h
      have : 2 ^ (64 - 1 - v.clz.toNat) < 2 ^ k := Nat.lt_of_le_of_lt h2 h
      have := (Nat.pow_lt_pow_iff_right (by decide : 1 < 2)).mp this
      omega

theorem reqBitsS_eq (v : BitVec 64) :
    reqBitsS v = reqBitsU (if v.msb then ~~~v else v) + 1 := by
  unfold reqBitsS reqBitsU
  split <;> simp_all

theorem reqBitsS_le_iff (v : BitVec 64) (k : Nat) (hk : 0 < k) :
    reqBitsS v ≤ k ↔ -(2 ^ (k - 1) : Int) ≤ v.toInt ∧ v.toInt < 2 ^ (k - 1) := by
  rw [reqBitsS_eq, Nat.add_one_le_iff, ← Nat.le_sub_one_iff_lt hk, reqBitsU_le_iff]
  have hlt := v.isLt
  have hP : ((2 : Int) ^ (k - 1)) = ((2 ^ (k - 1) : Nat) : Int) := by push_cast; rfl
  rw [hP]
  generalize 2 ^ (k - 1) = P
  rw [BitVec.toInt_eq_msb_cond]
  cases v.msb
  · simp only [Bool.false_eq_true, if_false]
    omega
  · simp only [if_true, BitVec.toNat_not]
    omega

theorem four_mul_or_eq_add (n t : Nat) (ht : t < 4) : (4 * n) ||| t = 4 * n + t := by
  have := Nat.two_pow_add_eq_or_of_lt (i := 2) (b := t) (by omega) n
  simpa using this.symm

theorem pow256_eq_two_pow (w : Nat) : 256 ^ w = 2 ^ (8 * w) := by
  rw [Nat.pow_mul]

theorem four_mul_add_mod_four_mul (n t K : Nat) (ht : t < 4) : (4 * n + t) % (4 * K) = 4 * (n % K) + t := by
  rw [Nat.mod_mul, show (4 * n + t) / 4 = n by omega]
  omega

/-- what `encode_varint`/`encode_varuint` compute on a `w`-byte arm: the shift wraps at 64 bits, the cast to `w` bytes
    truncates, and the two low bits, zero after the shift, take the width code -/
theorem shl2_or_tag (v : BitVec 64) (w t : Nat) (hw : 0 < w) (hw8 : w ≤ 8) (ht : t < 4) :
    (v <<< 2).toNat % 256 ^ w ||| t = (4 * v.toNat + t) % 256 ^ w := by
  obtain ⟨K, hK⟩ : 4 ∣ 256 ^ w := by
    obtain ⟨k, rfl⟩ := Nat.exists_eq_succ_of_ne_zero (Nat.ne_of_gt hw)
    exact ⟨64 * 256 ^ k, by rw [Nat.pow_succ]; omega⟩
  have h64 : 256 ^ w ∣ 2 ^ 64 := Nat.pow_dvd_pow 256 hw8
  rw [hK] at h64 ⊢
  rw [BitVec.toNat_shiftLeft, Nat.shiftLeft_eq, Nat.mod_mod_of_dvd _ h64, Nat.mul_comm v.toNat,
    show 2 ^ 2 = 4 from rfl, Nat.mul_mod_mul_left, four_mul_or_eq_add _ _ ht, four_mul_add_mod_four_mul _ _ _ ht]

theorem ofSigned_sub_mul (bits x k : Nat) : ofSigned bits ((x : Int) - k * 2 ^ bits) = x % 2 ^ bits := by
  unfold ofSigned
  rw [Int.sub_mul_emod_self_right]
  exact Int.toNat_natCast (x % 2 ^ bits)

/-- the signed reading of the same 64 bits differs from the unsigned one by a multiple of `2^64`, which no width sees -/
theorem ofSigned_toInt (v : BitVec 64) (w t : Nat) (hw : w = 1 ∨ w = 2 ∨ w = 4 ∨ w = 8) :
    ofSigned (8 * w) (4 * v.toInt + t) = (4 * v.toNat + t) % 256 ^ w := by
  rw [pow256_eq_two_pow, ← ofSigned_sub_mul (8 * w) _ (if 2 * v.toNat < 2 ^ 64 then 0 else 4 * 2 ^ (64 - 8 * w)),
    BitVec.toInt_eq_toNat_cond]
  congr 1
  split
  · omega
  · rcases hw with rfl | rfl | rfl | rfl <;> omega

theorem find?_cons_ite {α} (p : α → Bool) (a : α) (l : List α) :
    (a :: l).find? p = if p a then some a else l.find? p := by
  rw [List.find?_cons]; cases p a <;> rfl

theorem find?_least {p : Nat → Bool} {l : List Nat} {w : Nat} (hs : l.Pairwise (· ≤ ·)) (h : l.find? p = some w) :
    w ∈ l ∧ p w = true ∧ ∀ w' ∈ l, p w' = true → w ≤ w' := by
  obtain ⟨hp, as, bs, rfl, has⟩ := List.find?_eq_some_iff_append.mp h
  refine ⟨by simp, hp, fun w' hw' hpw => ?_⟩
  rcases List.mem_append.mp hw' with ha | hb
  · simpa [hpw] using has w' ha
  · rcases List.mem_cons.mp hb with rfl | hb
    · exact Nat.le_refl _
    · exact List.rel_of_pairwise_cons (List.pairwise_append.mp hs).2.1 hb

/-- `specWidthU v` and `specWidthS v` unfold to such chains -/
theorem chain4_eq_find? {P : Nat → Prop} [DecidablePred P] :
    (if P 1 then some 1 else if P 2 then some 2 else if P 4 then some 4 else if P 8 then some 8 else none) =
      [1, 2, 4, 8].find? fun w => decide (P w) := by
  simp only [find?_cons_ite, List.find?_nil, decide_eq_true_eq]

theorem least4 {P : Nat → Prop} [DecidablePred P] {w : Nat}
    (h : (if P 1 then some 1 else if P 2 then some 2 else if P 4 then some 4 else if P 8 then some 8 else none) = some w) :
    (w = 1 ∨ w = 2 ∨ w = 4 ∨ w = 8) ∧ P w ∧ ∀ w', (w' = 1 ∨ w' = 2 ∨ w' = 4 ∨ w' = 8) → P w' → w ≤ w' := by
  rw [chain4_eq_find?] at h
  obtain ⟨hm, hw, hmin⟩ := find?_least (by decide) h
  simp only [List.mem_cons, List.not_mem_nil, or_false] at hm hmin
  exact ⟨hm, of_decide_eq_true hw, fun w' hw' hP => hmin w' hw' (decide_eq_true hP)⟩

theorem least4_none {P : Nat → Prop} [DecidablePred P] :
    (if P 1 then some 1 else if P 2 then some 2 else if P 4 then some 4 else if P 8 then some 8 else none) = none ↔
      ¬ P 1 ∧ ¬ P 2 ∧ ¬ P 4 ∧ ¬ P 8 := by
  rw [chain4_eq_find?, List.find?_eq_none]
  simp only [List.forall_mem_cons, decide_eq_true_eq, List.not_mem_nil, false_imp_iff, implies_true, and_true]

theorem specWidthU_none (v : Nat) : specWidthU v = none ↔ 2 ^ 62 ≤ v :=
  (least4_none (P := fun w => v < 2 ^ (8 * w - 2))).trans (by omega)

theorem specWidthS_none (v : Int) : specWidthS v = none ↔ (v < -(2 ^ 61) ∨ 2 ^ 61 ≤ v) :=
  (least4_none (P := fun w => -(2 ^ (8 * w - 3)) ≤ v ∧ v < 2 ^ (8 * w - 3))).trans (by omega)

/-- each arm's lower bound is the previous arm's upper bound plus one, so once the earlier arms have failed only the
    upper bound is tested. The arms are written out: `findArm_widthU/S` rewrite `Gen.varuintArms`/`Gen.varintArms` to this
    list, which is where a regenerated table that differs stops the build. -/
theorem findArm_std (rb : Nat) :
    findArm [⟨0, 6, 1, 0⟩, ⟨7, 14, 2, 1⟩, ⟨15, 30, 4, 2⟩, ⟨31, 62, 8, 3⟩] rb =
      if rb ≤ 6 then some ⟨0, 6, 1, 0⟩ else if rb ≤ 14 then some ⟨7, 14, 2, 1⟩
      else if rb ≤ 30 then some ⟨15, 30, 4, 2⟩ else if rb ≤ 62 then some ⟨31, 62, 8, 3⟩ else none := by
  simp only [findArm, find?_cons_ite, List.find?_nil, Bool.and_eq_true, decide_eq_true_eq]
  exact ite_congr (propext (by omega)) (fun _ => rfl) fun _ => ite_congr (propext (by omega)) (fun _ => rfl) fun _ =>
    ite_congr (propext (by omega)) (fun _ => rfl) fun _ => ite_congr (propext (by omega)) (fun _ => rfl) fun _ => rfl

theorem stdArm_mem (a : Gen.Arm) (h : a ∈ [(⟨0, 6, 1, 0⟩ : Gen.Arm), ⟨7, 14, 2, 1⟩, ⟨15, 30, 4, 2⟩, ⟨31, 62, 8, 3⟩]) :
    (a.width = 1 ∨ a.width = 2 ∨ a.width = 4 ∨ a.width = 8) ∧ a.tag = widthCode a.width ∧ a.tag < 4 := by
  simp only [List.mem_cons, List.not_mem_nil, or_false] at h
  rcases h with rfl | rfl | rfl | rfl <;> decide

theorem findArm_widthU (v : BitVec 64) :
    (findArm Gen.varuintArms (reqBitsU v)).map (·.width) = specWidthU v.toNat := by
  rw [Gen.varuintArms, findArm_std, specWidthU]
  simp only [reqBitsU_le_iff, apply_ite (Option.map _), Option.map_some, Option.map_none]

theorem findArm_widthS (v : BitVec 64) :
    (findArm Gen.varintArms (reqBitsS v)).map (·.width) = specWidthS v.toInt := by
  rw [Gen.varintArms, findArm_std, specWidthS]
  simp only [reqBitsS_le_iff v 6 (by decide), reqBitsS_le_iff v 14 (by decide), reqBitsS_le_iff v 30 (by decide),
    reqBitsS_le_iff v 62 (by decide), apply_ite (Option.map _), Option.map_some, Option.map_none, Nat.reduceSub]

theorem encVaruint_eq_spec (v : BitVec 64) : encVaruint v = specVaruint v.toNat := by
  unfold encVaruint specVaruint
  rw [← findArm_widthU]
  cases h : findArm Gen.varuintArms (reqBitsU v) with
  | none => rfl
  | some a =>
    obtain ⟨hw, ht, ht4⟩ := stdArm_mem a (List.mem_of_find?_eq_some h)
    simp only [Option.map_some, Gen.encodeShift]
    rw [shl2_or_tag v _ _ (by omega) (by omega) ht4, toLE_mod, ht]

theorem encVarint_eq_spec (v : BitVec 64) : encVarint v = specVarint v.toInt := by
  unfold encVarint specVarint
  rw [← findArm_widthS]
  cases h : findArm Gen.varintArms (reqBitsS v) with
  | none => rfl
  | some a =>
    obtain ⟨hw, ht, ht4⟩ := stdArm_mem a (List.mem_of_find?_eq_some h)
    simp only [Option.map_some, Gen.encodeShift]
    rw [shl2_or_tag v _ _ (by omega) (by omega) ht4, ← ht, ofSigned_toInt v _ _ hw]

theorem ofSigned_eq_ofInt (bits : Nat) (v : Int) : ofSigned bits v = (BitVec.ofInt bits v).toNat := by
  rw [BitVec.toNat_ofInt, Int.natCast_pow]; rfl

theorem toSigned_toNat {bits : Nat} (x : BitVec bits) : toSigned bits x.toNat = x.toInt := by
  rw [toSigned, BitVec.toInt_eq_msb_cond, BitVec.msb_eq_decide]
  by_cases h : 2 ^ (bits - 1) ≤ x.toNat
  · simp [h, Nat.not_lt.mpr h]
  · simp [h, Nat.lt_of_not_le h]

theorem ofSigned_lt (bits : Nat) (x : Int) : ofSigned bits x < 2 ^ bits := by
  rw [ofSigned_eq_ofInt]; exact (BitVec.ofInt bits x).isLt

theorem toSigned_ofSigned (bits : Nat) (x : Int) (hb : 0 < bits)
    (hlo : -(2 ^ (bits - 1) : Int) ≤ x) (hhi : x < (2 ^ (bits - 1) : Int)) :
    toSigned bits (ofSigned bits x) = x := by
  rw [ofSigned_eq_ofInt, toSigned_toNat, BitVec.toInt_ofInt_eq_self hb (by omega) hhi]

theorem two_pow_eq_four_mul (n : Nat) (h : 2 ≤ n) : 2 ^ n = 4 * 2 ^ (n - 2) := by
  obtain ⟨k, rfl⟩ : ∃ k, n = k + 2 := ⟨n - 2, by omega⟩
  rw [Nat.add_sub_cancel, Nat.pow_add]; omega

theorem two_pow_eq_four_mul_int (n : Nat) (h : 2 ≤ n) : (2 : Int) ^ n = 4 * 2 ^ (n - 2) := by
  exact_mod_cast two_pow_eq_four_mul n h

theorem ofSigned_mod4 (w : Nat) (hw : 0 < w) (y : Int) : ofSigned (8 * w) y % 4 = (y % 4).toNat := by
  have hd : (4 : Int) ∣ 2 ^ (8 * w) := ⟨_, two_pow_eq_four_mul_int _ (by omega)⟩
  have h0 := Int.emod_nonneg y (Int.ne_of_gt (Int.pow_pos (by decide) : (0 : Int) < 2 ^ (8 * w)))
  rw [← Int.emod_emod_of_dvd y hd, Int.toNat_emod h0 (by decide)]
  rfl

theorem widthCode_lookup (w : Nat) (hw : w = 1 ∨ w = 2 ∨ w = 4 ∨ w = 8) :
    widthCode w < 4 ∧ lookupWidth Gen.varuintDecode (widthCode w) = some (w, false) ∧
    lookupWidth Gen.varintDecode (widthCode w) = some (w, true) := by
  rcases hw with rfl | rfl | rfl | rfl <;> decide

/-- The shape of every decoder that calls another one. The model spells it out as a nested `match` in each decoder, and Lean compiles each into
    a matcher of its own that `rfl` does not unfold against this one, so every decoder gets an equation
    `d bs = andThen …`, proved along its branches. -/
def andThen {α β} (r : Dec α) (g : α → Bytes → Dec β) : Dec β :=
  match r with
  | .error e => .error e
  | .ok (x, rest) => g x rest

theorem andThen_ok {α β} {r : Dec α} {g : α → Bytes → Dec β} {p : β × Bytes} (h : andThen r g = .ok p) :
    ∃ x rest, r = .ok (x, rest) ∧ g x rest = .ok p := by
  cases r with
  | error e => cases h
  | ok q => exact ⟨q.1, q.2, rfl, h⟩

/-- `decode_varuint` and `decode_varint` are one function of the width table and the final conversion -/
def decVarRaw {α} (tbl : List (Nat × Nat × Bool)) (F : Nat → Nat → α) (bs : Bytes) : Dec α :=
  match bs with
  | [] => .error (.eob 1 0)
  | b :: _ =>
    match lookupWidth tbl (b.toNat % (Gen.decodeMask + 1)) with
    | none => .error .outOfRange
    | some (w, _) => andThen (readN w bs) fun raw rest => .ok (F w (fromLE raw), rest)

theorem decVaruintRaw_eq (bs : Bytes) :
    decVaruintRaw bs = decVarRaw Gen.varuintDecode (fun _ x => x / 2 ^ Gen.decodeShift) bs := by
  fun_cases decVaruintRaw bs <;> simp only [decVarRaw, andThen, *]

theorem decVarintRaw_eq (bs : Bytes) :
    decVarintRaw bs = decVarRaw Gen.varintDecode (fun w x => toSigned (8 * w) x / 2 ^ Gen.decodeShift) bs := by
  fun_cases decVarintRaw bs <;> simp only [decVarRaw, andThen, *]

theorem decVarRaw_word {α} (tbl : List (Nat × Nat × Bool)) (F : Nat → Nat → α) (w X : Nat) (rest : Bytes) (s : Bool)
    (hw : 0 < w) (hl : lookupWidth tbl (X % 4) = some (w, s)) :
    decVarRaw tbl F (toLE w X ++ rest) = .ok (F w (X % 256 ^ w), rest) := by
  obtain ⟨k, rfl⟩ : ∃ k, w = k + 1 := ⟨w - 1, by omega⟩
  have hb : (UInt8.ofNat (X % 256)).toNat % 4 = X % 4 := by rw [u8_ofNat_toNat]; omega
  have hr := readN_toLE (k + 1) X rest
  have hf := fromLE_toLE (k + 1) X
  rw [toLE, List.cons_append] at hr
  rw [toLE] at hf
  rw [toLE, List.cons_append, decVarRaw]
  simp only [Gen.decodeMask, hb, hl, hr, andThen, hf]

theorem specVaruint_dec (v : Nat) (bs rest : Bytes) (h : specVaruint v = some bs) :
    decVaruintRaw (bs ++ rest) = .ok (v, rest) := by
  obtain ⟨w, hw, rfl⟩ := Option.map_eq_some_iff.mp h
  obtain ⟨hw4, hlt, _⟩ := least4 (P := fun w => v < 2 ^ (8 * w - 2)) hw
  obtain ⟨hc, hl, _⟩ := widthCode_lookup w hw4
  have hp : 256 ^ w = 4 * 2 ^ (8 * w - 2) := by rw [pow256_eq_two_pow, two_pow_eq_four_mul _ (by omega)]
  rw [decVaruintRaw_eq, decVarRaw_word _ _ w _ rest false (by omega)
    (by rwa [show (4 * v + widthCode w) % 4 = widthCode w by omega]), Nat.mod_eq_of_lt (by omega)]
  congr 2
  show (4 * v + widthCode w) / 2 ^ 2 = v
  omega

theorem specVarint_dec (v : Int) (bs rest : Bytes) (h : specVarint v = some bs) :
    decVarintRaw (bs ++ rest) = .ok (v, rest) := by
  obtain ⟨w, hw, rfl⟩ := Option.map_eq_some_iff.mp h
  obtain ⟨hw4, hr, _⟩ := least4 (P := fun w => -(2 ^ (8 * w - 3)) ≤ v ∧ v < 2 ^ (8 * w - 3)) hw
  obtain ⟨hc, _, hl⟩ := widthCode_lookup w hw4
  have hpos : 0 < w := by omega
  have hm : ofSigned (8 * w) (4 * v + widthCode w) % 4 = widthCode w := by
    rw [ofSigned_mod4 w hpos]; omega
  have hp : (2 : Int) ^ (8 * w - 1) = 4 * 2 ^ (8 * w - 3) := two_pow_eq_four_mul_int _ (by omega)
  rw [decVarintRaw_eq, decVarRaw_word _ _ w _ rest true hpos (by rwa [hm]),
    Nat.mod_eq_of_lt (by rw [pow256_eq_two_pow]; exact ofSigned_lt _ _)]
  congr 2
  show toSigned (8 * w) (ofSigned (8 * w) (4 * v + widthCode w)) / 2 ^ 2 = v
  rw [toSigned_ofSigned _ _ (by omega) (by omega) (by omega)]
  omega

theorem ofInt_toNat_nonneg (v : Int) (h0 : 0 ≤ v) (h1 : v < 2 ^ 64) :
    (BitVec.ofInt 64 v).toNat = v.toNat := by
  rw [BitVec.toNat_ofInt, Int.emod_eq_of_lt h0 (by omega)]

theorem encVaruintI_dec (hi v : Int) (bs rest : Bytes) (hhi : hi ≤ 2 ^ 64)
    (h : encVaruintI hi v = some bs) : decVaruintRawI (bs ++ rest) = .ok (v, rest) := by
  obtain ⟨hr, h⟩ := Option.ite_none_right_eq_some.mp h
  rw [encVaruint_eq_spec, ofInt_toNat_nonneg v hr.1 (by omega)] at h
  rw [decVaruintRawI, specVaruint_dec _ _ _ h]
  exact congrArg (fun x => Except.ok (x, rest)) (Int.toNat_of_nonneg hr.1)

theorem encVarintI_dec (lo hi v : Int) (bs rest : Bytes) (hlo : -(2 ^ 63) ≤ lo) (hhi : hi ≤ 2 ^ 63)
    (h : encVarintI lo hi v = some bs) : decVarintRaw (bs ++ rest) = .ok (v, rest) := by
  obtain ⟨hr, h⟩ := Option.ite_none_right_eq_some.mp h
  rw [encVarint_eq_spec, BitVec.toInt_ofInt_eq_self (by decide) (by omega) (by omega)] at h
  exact specVarint_dec _ _ _ h

theorem encSize_dec (n : Nat) (a rest : Bytes) (h : encSize n = some a) :
    decVaruintRaw (a ++ rest) = .ok (n, rest) := by
  obtain ⟨hr, h⟩ := Option.ite_none_right_eq_some.mp h
  rw [encVaruint_eq_spec, BitVec.toNat_ofNat, Nat.mod_eq_of_lt hr] at h
  exact specVaruint_dec _ _ _ h

theorem withSize_some (n : Nat) (body : Option Bytes) (bs : Bytes) (h : withSize n body = some bs) :
    ∃ a b, encSize n = some a ∧ body = some b ∧ bs = a ++ b := by
  unfold withSize at h
  split at h
  · exact ⟨_, _, ‹_›, rfl, (Option.some.inj h).symm⟩
  · cases h

theorem encList_cons_some {α} {enc : α → Option Bytes} {x : α} {xs : List α} {bs : Bytes} (h : encList enc (x :: xs) = some bs) :
    ∃ a b, enc x = some a ∧ encList enc xs = some b ∧ bs = a ++ b := by
  unfold encList at h
  split at h
  · exact ⟨_, _, ‹_›, ‹_›, (Option.some.inj h).symm⟩
  · cases h

theorem encList_dec {α} (enc : α → Option Bytes) (dec : Bytes → Dec α) (xs : List α)
    (hrt : ∀ x ∈ xs, ∀ bs rest, enc x = some bs → dec (bs ++ rest) = .ok (x, rest))
    (bs rest : Bytes) (h : encList enc xs = some bs) :
    decList dec xs.length (bs ++ rest) = .ok (xs, rest) := by
  induction xs generalizing bs with
  | nil => cases h; rfl
  | cons x xs ih =>
    obtain ⟨a, b, ha, hb, rfl⟩ := encList_cons_some h
    simp only [List.length_cons, decList, List.append_assoc]
    rw [hrt x (by simp) a (b ++ rest) ha]
    simp only
    rw [ih (fun y hy => hrt y (by simp [hy])) b hb]

theorem encPair_dec {α β} (ek : α → Option Bytes) (ev : β → Option Bytes)
    (dk : Bytes → Dec α) (dv : Bytes → Dec β) (p : α × β)
    (hk : ∀ bs rest, ek p.1 = some bs → dk (bs ++ rest) = .ok (p.1, rest))
    (hv : ∀ bs rest, ev p.2 = some bs → dv (bs ++ rest) = .ok (p.2, rest))
    (bs rest : Bytes) (h : encPair ek ev p = some bs) :
    decPair dk dv (bs ++ rest) = .ok (p, rest) := by
  unfold encPair at h
  split at h
  · rename_i a b ha hb
    cases h
    simp only [decPair, List.append_assoc]
    rw [hk a (b ++ rest) ha]
    simp only
    rw [hv b rest hb]
  · cases h

theorem encEntries_dec {α β} [DecidableEq α] (ek : α → Option Bytes) (ev : β → Option Bytes)
    (dk : Bytes → Dec α) (dv : Bytes → Dec β) (es : List (α × β))
    (hrt : ∀ p ∈ es, ∀ bs rest, encPair ek ev p = some bs → decPair dk dv (bs ++ rest) = .ok (p, rest))
    (seen : List α) (hnd : (es.map Prod.fst).Nodup) (hdis : ∀ p ∈ es, p.1 ∉ seen)
    (bs rest : Bytes) (h : encList (encPair ek ev) es = some bs) :
    decEntries dk dv es.length seen (bs ++ rest) = .ok (es, rest) := by
  induction es generalizing bs seen with
  | nil => cases h; rfl
  | cons p es ih =>
    obtain ⟨a, b, ha, hb, rfl⟩ := encList_cons_some h
    simp only [List.length_cons, decEntries, List.append_assoc]
    rw [hrt p (by simp) a (b ++ rest) ha]
    have hp : p.1 ∉ seen := hdis p (by simp)
    simp only [hp, if_false]
    simp only [List.map_cons, List.nodup_cons] at hnd
    rw [ih (fun q hq => hrt q (by simp [hq])) (p.1 :: seen) hnd.2
      (fun q hq hm => (List.mem_cons.mp hm).elim (fun heq => hnd.1 (heq ▸ List.mem_map_of_mem hq))
        (hdis q (List.mem_cons_of_mem _ hq))) b hb]

theorem bool_rt (v : Bool) (bs rest : Bytes) (h : encBool v = some bs) :
    decBool (bs ++ rest) = .ok (v, rest) := by
  cases v <;> simp [encBool] at h <;> subst h <;> simp [decBool]

theorem fixedU_rt (w : Width) (v : Int) (bs rest : Bytes) (h : encFixedU w.n v = some bs) :
    decFixedU w.n (bs ++ rest) = .ok (v, rest) := by
  obtain ⟨hr, h⟩ := Option.ite_none_right_eq_some.mp h
  cases h
  have hlt : v.toNat < 256 ^ w.n := by
    rw [pow256_eq_two_pow, Int.toNat_lt hr.1, Int.natCast_pow]; exact hr.2
  simp only [decFixedU, readN_toLE, fromLE_toLE]
  rw [Nat.mod_eq_of_lt hlt, Int.toNat_of_nonneg hr.1]

theorem fixedS_rt (w : Width) (v : Int) (bs rest : Bytes) (h : encFixedS w.n v = some bs) :
    decFixedS w.n (bs ++ rest) = .ok (v, rest) := by
  obtain ⟨hr, h⟩ := Option.ite_none_right_eq_some.mp h
  cases h
  simp only [decFixedS, readN_toLE, fromLE_toLE]
  rw [pow256_eq_two_pow, Nat.mod_eq_of_lt (ofSigned_lt _ _), toSigned_ofSigned _ _ (by cases w <;> decide) hr.1 hr.2]

theorem bits_rt (w : Nat) (v : Nat) (bs rest : Bytes) (h : encBits w v = some bs) :
    decBits w (bs ++ rest) = .ok (v, rest) := by
  obtain ⟨hr, h⟩ := Option.ite_none_right_eq_some.mp h
  cases h
  simp only [decBits, readN_toLE, fromLE_toLE]
  rw [Nat.mod_eq_of_lt (by rw [pow256_eq_two_pow]; exact hr)]

theorem narrow_ok (lo hi : Int) (r : Dec Int) (v : Int) (rest : Bytes) (h : narrow lo hi r = .ok (v, rest)) :
    r = .ok (v, rest) ∧ lo ≤ v ∧ v ≤ hi := by
  revert h
  fun_cases narrow lo hi r <;> intro h <;> cases h
  case case2 hr => exact ⟨rfl, hr⟩

theorem varint32_rt (v : Int) (bs rest : Bytes) (h : encVarintI (-(2 ^ 31)) (2 ^ 31) v = some bs) :
    narrow (-(2 ^ 31)) (2 ^ 31 - 1) (decVarintRaw (bs ++ rest)) = .ok (v, rest) := by
  have hr : -(2 ^ 31) ≤ v ∧ v < 2 ^ 31 := (Option.ite_none_right_eq_some.mp h).1
  rw [encVarintI_dec _ _ _ _ _ (by omega) (by omega) h]
  exact if_pos (by omega)

theorem varuint32_rt (v : Int) (bs rest : Bytes) (h : encVaruintI (2 ^ 32) v = some bs) :
    narrow 0 (2 ^ 32 - 1) (decVaruintRawI (bs ++ rest)) = .ok (v, rest) := by
  have hr : 0 ≤ v ∧ v < 2 ^ 32 := (Option.ite_none_right_eq_some.mp h).1
  rw [encVaruintI_dec _ _ _ _ (by omega) h]
  exact if_pos (by omega)

theorem str_rt (v : Bytes) (bs rest : Bytes) (h : encStr v = some bs) :
    decStr (bs ++ rest) = .ok (v, rest) := by
  obtain ⟨hv, h⟩ := Option.ite_none_right_eq_some.mp h
  obtain ⟨a, b, ha, hb, rfl⟩ := withSize_some _ _ _ h
  cases hb
  simp only [decStr, List.append_assoc, encSize_dec _ _ _ ha, readN_append, hv, if_true]

theorem decode_seq (t : Ty) (bs : Bytes) :
    decode (.seq t) bs = andThen (decVaruintRaw bs) (decList (decode t)) := by
  rw [decode]; unfold andThen; rcases decVaruintRaw bs with e | ⟨n, r⟩ <;> rfl

theorem decode_dictB (k v : Ty) (bs : Bytes) :
    decode (.dictB k v) bs = andThen (decVaruintRaw bs) fun n => decEntries (decode k) (decode v) n [] := by
  rw [decode]; unfold andThen; rcases decVaruintRaw bs with e | ⟨n, r⟩ <;> rfl

theorem decode_dictH (k v : Ty) (bs : Bytes) :
    decode (.dictH k v) bs = andThen (decVaruintRaw bs) fun n => decEntries (decode k) (decode v) n [] := by
  rw [decode]; unfold andThen; rcases decVaruintRaw bs with e | ⟨n, r⟩ <;> rfl

theorem seq_rt {α} {p : α → Prop} (enc : α → Option Bytes) (dec : Bytes → Dec α)
    (hrt : ∀ x bs rest, p x → enc x = some bs → dec (bs ++ rest) = .ok (x, rest))
    (xs : List α) (bs rest : Bytes) (hwf : WFList p xs) (h : withSize xs.length (encList enc xs) = some bs) :
    andThen (decVaruintRaw (bs ++ rest)) (decList dec) = .ok (xs, rest) := by
  obtain ⟨a, b, ha, hb, rfl⟩ := withSize_some _ _ _ h
  rw [List.append_assoc, encSize_dec _ _ _ ha, andThen]
  exact encList_dec _ _ _ (fun x hx bs' rest' => hrt x bs' rest' (hwf x hx)) b rest hb

theorem dict_rt {α β} [DecidableEq α] {pk : α → Prop} {pv : β → Prop} (ek : α → Option Bytes) (ev : β → Option Bytes)
    (dk : Bytes → Dec α) (dv : Bytes → Dec β)
    (hk : ∀ x bs rest, pk x → ek x = some bs → dk (bs ++ rest) = .ok (x, rest))
    (hv : ∀ y bs rest, pv y → ev y = some bs → dv (bs ++ rest) = .ok (y, rest))
    (es : List (α × β)) (bs rest : Bytes) (hwf : WFEntries pk pv es)
    (h : withSize es.length (encList (encPair ek ev) es) = some bs) :
    andThen (decVaruintRaw (bs ++ rest)) (fun n => decEntries dk dv n []) = .ok (es, rest) := by
  obtain ⟨a, b, ha, hb, rfl⟩ := withSize_some _ _ _ h
  rw [List.append_assoc, encSize_dec _ _ _ ha, andThen]
  exact encEntries_dec _ _ _ _ _
    (fun p hp => encPair_dec _ _ _ _ p (fun bs' rest' => hk _ bs' rest' (hwf.2 p hp).1)
      fun bs' rest' => hv _ bs' rest' (hwf.2 p hp).2)
    [] hwf.1 (fun _ _ => List.not_mem_nil) b rest hb

theorem decode_encode (t : Ty) : ∀ (v : Val t) (bs rest : Bytes), WF t v → encode t v = some bs →
    decode t (bs ++ rest) = .ok (v, rest) := by
  induction t with
  | bool => exact fun v bs rest _ => bool_rt v bs rest
  | uint w => exact fun v bs rest _ => fixedU_rt w v bs rest
  | sint w => exact fun v bs rest _ => fixedS_rt w v bs rest
  | f32 => exact fun v bs rest _ => bits_rt 4 v bs rest
  | f64 => exact fun v bs rest _ => bits_rt 8 v bs rest
  | varint32 => exact fun v bs rest _ => varint32_rt v bs rest
  | varuint32 => exact fun v bs rest _ => varuint32_rt v bs rest
  | varint62 => exact fun v bs rest _ => encVarintI_dec _ _ v bs rest (by omega) (by omega)
  | varuint62 => exact fun v bs rest _ => encVaruintI_dec _ v bs rest (by omega)
  | size => exact fun v bs rest _ => encVaruintI_dec _ v bs rest (by omega)
  | str => exact fun v bs rest _ => str_rt v bs rest
  | seq t ih => exact fun v bs rest hwf h => (decode_seq t _).trans (seq_rt (encode t) (decode t) ih v bs rest hwf h)
  | dictB k v ihk ihv =>
    exact fun es bs rest hwf h => (decode_dictB k v _).trans (dict_rt _ _ _ _ ihk ihv es bs rest hwf h)
  | dictH k v ihk ihv =>
    exact fun es bs rest hwf h => (decode_dictH k v _).trans (dict_rt _ _ _ _ ihk ihv es bs rest hwf h)

def Reads {α} (dec : Bytes → Dec α) (pre : Bytes) (v : α) : Prop := ∀ rest, dec (pre ++ rest) = .ok (v, rest)

theorem Reads.prefix_free {α} {dec : Bytes → Dec α} {a b s t : Bytes} {x y : α} (ha : Reads dec a x) (hb : Reads dec b y)
    (e : a ++ s = b ++ t) : x = y ∧ a = b ∧ s = t := by
  have h := ha s
  rw [e, hb t] at h
  cases h
  exact ⟨rfl, List.append_cancel_right e, rfl⟩

end Slicec
