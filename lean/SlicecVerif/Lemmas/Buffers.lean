/-
  The output targets (C12): the frame lemmas of `splice`, the case principles by which what the primitive operations
  preserve, every step of a history preserves, and `pairwise_set` for the reservation list when a write into a reservation
  replaces one of its elements.
-/
import SlicecVerif.Model.Buffers

namespace Slicec

theorem length_take_append {buf bs : Bytes} {i : Nat} (h : i + bs.length ≤ buf.length) :
    (buf.take i ++ bs).length = i + bs.length := by
  rw [List.length_append, List.length_take_of_le (Nat.le_of_add_right_le h)]

theorem splice_length (buf : Bytes) (i : Nat) (bs : Bytes) (h : i + bs.length ≤ buf.length) :
    (splice buf i bs).length = buf.length := by
  rw [splice, List.length_append, length_take_append h, List.length_drop]
  omega

theorem splice_get_before (buf : Bytes) (i : Nat) (bs : Bytes) (j : Nat) (hj : j < i) (h : i + bs.length ≤ buf.length) :
    (splice buf i bs)[j]? = buf[j]? := by
  unfold splice
  have h1 := List.length_take_of_le (Nat.le_of_add_right_le h)
  rw [List.append_assoc, List.getElem?_append_left (by omega), List.getElem?_take_of_lt hj]

theorem splice_get_after (buf : Bytes) (i : Nat) (bs : Bytes) (j : Nat) (hj : i + bs.length ≤ j) (h : i + bs.length ≤ buf.length) :
    (splice buf i bs)[j]? = buf[j]? := by
  unfold splice
  have h1 := length_take_append h
  rw [List.getElem?_append_right (by omega), h1, List.getElem?_drop]
  congr 1; omega

theorem splice_get_inside (buf : Bytes) (i : Nat) (bs : Bytes) (j : Nat) (hj : j < bs.length) (h : i + bs.length ≤ buf.length) :
    (splice buf i bs)[i + j]? = bs[j]? := by
  unfold splice
  have h1 := List.length_take_of_le (Nat.le_of_add_right_le h)
  rw [List.append_assoc, List.getElem?_append_right (by omega), h1, List.getElem?_append_left (by omega)]
  congr 1; omega

theorem splice_take_le (buf : Bytes) (i : Nat) (bs : Bytes) (n : Nat) (hn : n ≤ i) (h : i + bs.length ≤ buf.length) :
    (splice buf i bs).take n = buf.take n := by
  unfold splice
  rw [List.append_assoc, List.take_append_of_le_length (by rw [List.length_take]; omega), List.take_take,
    Nat.min_eq_left hn]

theorem splice_drop_ge (buf : Bytes) (i : Nat) (bs : Bytes) (n : Nat) (hn : i + bs.length ≤ n) (h : i + bs.length ≤ buf.length) :
    (splice buf i bs).drop n = buf.drop n := by
  apply List.ext_getElem?
  intro j
  simp only [List.getElem?_drop]
  exact splice_get_after buf i bs (n + j) (by omega) h

theorem splice_take_end (buf : Bytes) (i : Nat) (bs : Bytes) (h : i + bs.length ≤ buf.length) :
    (splice buf i bs).take (i + bs.length) = buf.take i ++ bs := by
  unfold splice
  have h1 := length_take_append h
  rw [List.take_append_of_le_length (by omega), List.take_of_length_le (by omega)]

theorem splice_take (buf : Bytes) (i : Nat) (bs : Bytes) (n : Nat) (h : i + bs.length ≤ n) (hn : n ≤ buf.length) :
    (splice buf i bs).take n = splice (buf.take n) i bs := by
  unfold splice
  have h1 := length_take_append (Nat.le_trans h hn)
  rw [List.take_append, h1, List.take_of_length_le (by omega), List.take_take, List.drop_take,
    Nat.min_eq_left (by omega)]

theorem splice_frame (buf : Bytes) (i : Nat) (bs : Bytes) (h : i + bs.length ≤ buf.length) :
    (splice buf i bs).length = buf.length ∧
    (∀ j, j < i ∨ i + bs.length ≤ j → (splice buf i bs)[j]? = buf[j]?) ∧
    (∀ j, j < bs.length → (splice buf i bs)[i + j]? = bs[j]?) :=
  ⟨splice_length _ _ _ h,
    fun _ hj => hj.elim (fun hj => splice_get_before _ _ _ _ hj h) (fun hj => splice_get_after _ _ _ _ hj h),
    fun _ hj => splice_get_inside _ _ _ _ hj h⟩

theorem write_ok (s t : SliceOut) (bs : Bytes) (h : s.write bs = .ok t) :
    bs.length ≤ s.buf.length - s.pos ∧ t = ⟨splice s.buf s.pos bs, s.pos + bs.length⟩ := by
  revert h
  fun_cases SliceOut.write s bs <;> intro h <;> cases h
  case case2 c => exact ⟨Nat.le_of_not_lt c, rfl⟩

theorem reserve_ok (s t : SliceOut) (k : Nat) (r : Res) (h : s.reserve k = .ok (t, r)) :
    k ≤ s.buf.length - s.pos ∧ t = ⟨s.buf, s.pos + k⟩ ∧ r = ⟨s.pos, s.pos + k⟩ := by
  revert h
  fun_cases SliceOut.reserve s k <;> intro h <;> cases h
  case case2 c => exact ⟨Nat.le_of_not_lt c, rfl, rfl⟩

theorem writeRes_ok (s t : SliceOut) (r r' : Res) (bs : Bytes) (h : s.writeRes r bs = .ok (t, r')) :
    r.start + bs.length ≤ r.stop ∧ r.stop ≤ s.buf.length ∧
    t = ⟨splice s.buf r.start bs, s.pos⟩ ∧ r' = ⟨r.start + bs.length, r.stop⟩ := by
  revert h
  fun_cases SliceOut.writeRes s r bs <;> intro h <;> cases h
  exact ⟨by omega, by omega, rfl, rfl⟩

theorem vec_writeRes_ok (s t : VecOut) (r r' : Res) (bs : Bytes) (h : s.writeRes r bs = .ok (t, r')) :
    r.start + bs.length ≤ r.stop ∧ r.stop ≤ s.buf.length ∧
    t = ⟨splice s.buf r.start bs⟩ ∧ r' = ⟨r.start + bs.length, r.stop⟩ := by
  revert h
  fun_cases VecOut.writeRes s r bs <;> intro h <;> cases h
  exact ⟨by omega, by omega, rfl, rfl⟩

theorem SliceSt.step_cases (Q : SliceSt × Obs → Prop) (st : SliceSt) (op : OutOp) (h0 : ∀ o, Q (st, o))
    (hw : ∀ bs t, st.tgt.write bs = .ok t → Q (⟨t, st.res⟩, .ok))
    (hr : ∀ k t r, st.tgt.reserve k = .ok (t, r) → Q (⟨t, st.res ++ [r]⟩, .okRes r.start r.stop))
    (hres : ∀ r bs t r' res, st.tgt.writeRes r bs = .ok (t, r') → Q (⟨t, res⟩, .okRes r'.start r'.stop)) :
    Q (st.step op) := by
  -- of the nine branches of `step`, 1, 3, 6 and 8 are the successes: append, reservation, issued and foreign reserved write
  fun_cases SliceSt.step st op
  case case1 h => exact hw _ _ h
  case case3 h => exact hr _ _ _ h
  case case6 h | case8 h => exact hres _ _ _ _ _ h
  all_goals exact h0 _

theorem VecSt.step_tgt (Q : VecOut → Prop) (st : VecSt) (op : OutOp) (h0 : Q st.tgt) (hw : ∀ bs, Q (st.tgt.write bs))
    (hr : ∀ k, Q (st.tgt.reserve k).1) (hres : ∀ r bs t r', st.tgt.writeRes r bs = .ok (t, r') → Q t) :
    Q (st.step op).1.tgt := by
  fun_cases VecSt.step st op
  case case1 => exact hw _
  case case2 k t r h => exact show Q (t, r).1 from h ▸ hr k
  case case4 h | case6 h => exact hres _ _ _ _ h
  all_goals exact h0

theorem pairwise_set {α} (R : α → α → Prop) (l : List α) (i : Nat) (x y : α) (hl : l[i]? = some x)
    (hp : l.Pairwise R) (h1 : ∀ z, R z x → R z y) (h2 : ∀ z, R x z → R y z) : (l.set i y).Pairwise R := by
  induction l generalizing i with
  | nil => simp
  | cons a l ih =>
    cases i with
    | zero =>
      simp at hl; subst hl
      simp only [List.set_cons_zero, List.pairwise_cons] at hp ⊢
      exact ⟨fun z hz => h2 z (hp.1 z hz), hp.2⟩
    | succ i =>
      simp only [List.getElem?_cons_succ] at hl
      simp only [List.set_cons_succ, List.pairwise_cons] at hp ⊢
      refine ⟨?_, ih i hl hp.2⟩
      intro z hz
      rcases List.mem_or_eq_of_mem_set hz with hz | rfl
      · exact hp.1 z hz
      · exact h1 a (hp.1 x (List.mem_of_getElem? hl))

end Slicec
