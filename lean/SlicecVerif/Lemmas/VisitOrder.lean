/-
  Lemmas for C20, order: `pathLt` computes the document order `Path.lt` (`pathLt_iff`), the order is total, and a strictly
  increasing list is determined by its members.
-/
import SlicecVerif.Lemmas.Visit

namespace Slicec.Visit

open Slicec

def segLt (a b : Seg) : Bool := a.cls < b.cls || (a.cls == b.cls && a.idx < b.idx)

def pathLt : Path → Path → Bool
  | [], [] => false
  | [], _ :: _ => true
  | _ :: _, [] => false
  | a :: p, b :: q => segLt a b || (a == b && pathLt p q)

theorem segLt_iff (a b : Seg) : segLt a b = true ↔ Seg.lt a b := by
  simp [segLt, Seg.lt]

theorem pathLt_iff : ∀ (a b : Path), pathLt a b = true ↔ Path.lt a b
  | [], [] => by simp [pathLt]
  | [], _ :: _ => by simp [pathLt]
  | _ :: _, [] => by simp [pathLt]
  | a :: p, b :: q => by
    simp only [pathLt, Bool.or_eq_true, Bool.and_eq_true, beq_iff_eq, segLt_iff, pathLt_iff p q, List.cons_lex_cons_iff]

/-- a left inverse of `s ↦ (s.cls, s.idx)`: that map is injective, which makes `Seg.lt` total -/
def Seg.ofKey : Nat → Nat → Seg
  | 0, _ => .file | 1, _ => .mod | 2, i => .d i | 3, i => .f i | 4, i => .o i | 5, i => .p i | 6, i => .r i | 7, i => .e i
  | 8, _ => .t | 9, _ => .te | 10, _ => .tk | 11, _ => .tv | 12, _ => .ts | _, _ => .tf

theorem Seg.ofKey_key (s : Seg) : Seg.ofKey s.cls s.idx = s := by
  cases s <;> rfl

theorem Seg.lt_total (a b : Seg) : Seg.lt a b ∨ a = b ∨ Seg.lt b a := by
  have inj : a.cls = b.cls → a.idx = b.idx → a = b := fun h h' => by rw [← a.ofKey_key, ← b.ofKey_key, h, h']
  rcases Nat.lt_trichotomy a.cls b.cls with h | h | h
  · exact Or.inl (Or.inl h)
  · rcases Nat.lt_trichotomy a.idx b.idx with h' | h' | h'
    · exact Or.inl (Or.inr ⟨h, h'⟩)
    · exact Or.inr (Or.inl (inj h h'))
    · exact Or.inr (Or.inr (Or.inr ⟨h.symm, h'⟩))
  · exact Or.inr (Or.inr (Or.inl h))

theorem lex_total (a b : Path) : Path.lt a b ∨ a = b ∨ Path.lt b a :=
  Decidable.byCases Or.inl fun h => Or.inr <| Decidable.byCases (fun h' => Or.inr h') fun h' => Or.inl <|
    List.lex_trichotomous (fun x y hxy hyx => ((Seg.lt_total x y).resolve_left hxy).resolve_right hyx) h' h

theorem sorted_ext (L M : List Path) (hL : L.Pairwise Path.lt) (hM : M.Pairwise Path.lt) (h : ∀ p, p ∈ L ↔ p ∈ M) : L = M :=
  have nodup : ∀ {N : List Path}, N.Pairwise Path.lt → N.Nodup := fun hN =>
    List.Pairwise.imp (S := (· ≠ ·)) (fun hab e => lex_irrefl _ (e ▸ hab)) hN
  List.Perm.eq_of_pairwise (fun _ _ _ _ hab hba => (lex_asymm hab hba).elim) hL hM
    ((List.perm_ext_iff_of_nodup (nodup hL) (nodup hM)).mpr h)

end Slicec.Visit
