/-
  The emitter model (C14). JSON: `readBody` undoes `escChars` (by the three shapes of `escChar`), no character of an
  object is below U+0020, and the reader of the model reads an emitted object back field by field. Human format: the
  loop is `seqRes` over the blocks; every character written is a fixed one or comes from an input (`CharsFromR`, closed
  under `bind`); a snippet is drawn for every 1-based ordered span.
-/
import SlicecVerif.Model.Emit

namespace Slicec.Emit

open Slicec

theorem hex4_low : ∀ n, n < 32 → hex4 '0' '0' (hexDigit (n / 16)) (hexDigit (n % 16)) = some (Char.ofNat n) := by
  decide

theorem optmap_id {α β} (o : Option (α × β)) : o.map (fun p => (p.1, p.2)) = o := by
  cases o <;> simp

theorem escChar_shape (c : Char) :
    (∃ e, escChar c = ['\\', e] ∧ e ≠ 'u' ∧ unescSimple e = some c ∧ 32 ≤ e.toNat) ∨
    (c.toNat < 32 ∧ escChar c = ['\\', 'u', '0', '0', hexDigit (c.toNat / 16), hexDigit (c.toNat % 16)]) ∨
    (c ≠ '"' ∧ c ≠ '\\' ∧ ¬ c.toNat < 32 ∧ escChar c = [c]) := by
  -- the branches of `escChar`: seven named escapes, then (8) another control character, (9) any other character
  fun_cases escChar c
  case case8 h => exact .inr (.inl ⟨h, rfl⟩)
  case case9 h1 h2 _ _ _ _ _ h8 => exact .inr (.inr ⟨h1, h2, h8, rfl⟩)
  all_goals subst c; exact .inl ⟨_, rfl, by decide, rfl, by decide⟩

theorem readBody_simple (e ch : Char) (tail : List Char) (he : e ≠ 'u') (h : unescSimple e = some ch) :
    readBody ('\\' :: e :: tail) = (readBody tail).map fun p => (ch :: p.1, p.2) := by
  rw [readBody.eq_def]
  simp only [if_neg (show ¬ '\\' = '"' by decide), if_true, if_neg he, h]

theorem readBody_u (a b c d ch : Char) (tail : List Char) (h : hex4 a b c d = some ch) :
    readBody ('\\' :: 'u' :: a :: b :: c :: d :: tail) = (readBody tail).map fun p => (ch :: p.1, p.2) := by
  rw [readBody.eq_def]
  simp only [if_neg (show ¬ '\\' = '"' by decide), if_true, h]

theorem readBody_plain (c : Char) (tail : List Char) (h1 : c ≠ '"') (h2 : c ≠ '\\') (h3 : ¬ c.toNat < 32) :
    readBody (c :: tail) = (readBody tail).map fun p => (c :: p.1, p.2) := by
  rw [readBody.eq_def]
  simp only [if_neg h1, if_neg h2, if_neg h3]

theorem readBody_escChar (c : Char) (tail : List Char) :
    readBody (escChar c ++ tail) = (readBody tail).map fun p => (c :: p.1, p.2) := by
  rcases escChar_shape c with ⟨e, he, hu, hun, _⟩ | ⟨hlt, he⟩ | ⟨h1, h2, h3, he⟩
  · rw [he]; exact readBody_simple e c tail hu hun
  · have hx := hex4_low c.toNat hlt
    rw [Char.ofNat_toNat] at hx
    rw [he]; exact readBody_u _ _ _ _ c tail hx
  · rw [he]; exact readBody_plain c tail h1 h2 h3

theorem escChars_cons (c : Char) (cs : List Char) : escChars (c :: cs) = escChar c ++ escChars cs :=
  List.flatMap_cons

theorem readBody_escChars (cs rest : List Char) :
    readBody (escChars cs ++ '"' :: rest) = some (cs, rest) := by
  induction cs with
  | nil => rw [readBody.eq_def]; simp [escChars]
  | cons c cs ih =>
    rw [escChars_cons, List.append_assoc, readBody_escChar, ih]
    rfl

def NoCtl (l : List Char) : Prop := ∀ x ∈ l, 32 ≤ x.toNat

@[simp] theorem NoCtl_nil : NoCtl [] := fun _ h => nomatch h
@[simp] theorem NoCtl_cons (c : Char) (l : List Char) : NoCtl (c :: l) ↔ 32 ≤ c.toNat ∧ NoCtl l := List.forall_mem_cons
@[simp] theorem NoCtl_append (a b : List Char) : NoCtl (a ++ b) ↔ NoCtl a ∧ NoCtl b := List.forall_mem_append

theorem hexDigit_pr : ∀ n, n < 16 → 32 ≤ (hexDigit n).toNat := by decide

theorem NoCtl_escChar (c : Char) : NoCtl (escChar c) := by
  rcases escChar_shape c with ⟨e, he, _, _, hp⟩ | ⟨hlt, he⟩ | ⟨_, _, h3, he⟩
  · rw [he, NoCtl_cons, NoCtl_cons]
    exact ⟨by decide, hp, NoCtl_nil⟩
  · simp only [he, NoCtl_cons]
    exact ⟨by decide, by decide, by decide, by decide, hexDigit_pr _ (by omega), hexDigit_pr _ (by omega), NoCtl_nil⟩
  · rw [he, NoCtl_cons]
    exact ⟨by omega, NoCtl_nil⟩

theorem NoCtl_escChars (cs : List Char) : NoCtl (escChars cs) := by
  induction cs with
  | nil => simp [escChars]
  | cons c cs ih => rw [escChars_cons, NoCtl_append]; exact ⟨NoCtl_escChar c, ih⟩

theorem NoCtl_jsonStr (s : String) : NoCtl (jsonStr s) := by
  simp [jsonStr, NoCtl_escChars]

theorem digit_isDigit : ∀ k, k < 10 → isDigit (digitChar k) = true := by decide

theorem decChars_mem (n : Nat) : ∀ x ∈ decChars n, ∃ k, k < 10 ∧ x = digitChar k := by
  fun_induction decChars n with
  | case1 n h => exact fun x hx => ⟨n, h, List.mem_singleton.mp hx⟩
  | case2 n h ih =>
    intro x hx
    rcases List.mem_append.mp hx with hx | hx
    · exact ih x hx
    · exact ⟨n % 10, by omega, List.mem_singleton.mp hx⟩

theorem decChars_digits (n : Nat) : ∀ x ∈ decChars n, isDigit x = true := fun x hx =>
  let ⟨k, hk, e⟩ := decChars_mem n x hx
  e ▸ digit_isDigit k hk

theorem isDigit_pr (c : Char) (h : isDigit c = true) : 32 ≤ c.toNat := by
  simp [isDigit] at h; omega

theorem NoCtl_decChars (n : Nat) : NoCtl (decChars n) := fun x hx => isDigit_pr x (decChars_digits n x hx)

theorem digitChar_eq : ∀ k, k < 10 → digitChar k = Nat.digitChar k := by decide

theorem decChars_eq (n : Nat) : decChars n = Nat.toDigits 10 n := by
  fun_induction decChars n with
  | case1 n h => rw [Nat.toDigits_of_lt_base h, digitChar_eq n h]
  | case2 n h ih => rw [Nat.toDigits_of_base_le (by decide) (by omega), ih, digitChar_eq _ (by omega)]

theorem decChars_ne_nil (n : Nat) : decChars n ≠ [] := decChars_eq n ▸ Nat.toDigits_ne_nil

instance (l : List Char) : Decidable (NoCtl l) := inferInstanceAs (Decidable (∀ x ∈ l, 32 ≤ x.toNat))

theorem NoCtl_key {ks : List String} (h : ∀ k ∈ ks, NoCtl k.toList) (i : Nat) : NoCtl (key (ks.getD i "")) := by
  have hk : NoCtl (ks.getD i "").toList := by
    rw [List.getD_eq_getElem?_getD]
    cases hi : ks[i]? with
    | none => exact NoCtl_nil
    | some k => exact h k (List.mem_of_getElem? hi)
  rw [key, NoCtl_cons, NoCtl_append]
  exact ⟨by decide, hk, by decide⟩

theorem locKeys_ok : ∀ k ∈ Gen.locKeys, NoCtl k.toList := by decide +kernel
theorem spanKeys_ok : ∀ k ∈ Gen.spanKeys, NoCtl k.toList := by decide +kernel
theorem noteKeys_ok : ∀ k ∈ Gen.noteKeys, NoCtl k.toList := by decide +kernel
theorem diagKeys_ok : ∀ k ∈ Gen.diagKeys, NoCtl k.toList := by decide +kernel

theorem NoCtl_jsonLoc (l : Loc) : NoCtl (jsonLoc l) := by
  simp only [jsonLoc, NoCtl_append, NoCtl_key locKeys_ok, NoCtl_decChars, and_true]
  decide

theorem NoCtl_jsonSpan (s : Span) : NoCtl (jsonSpan s) := by
  simp only [jsonSpan, NoCtl_append, NoCtl_key spanKeys_ok, NoCtl_jsonLoc, NoCtl_jsonStr, and_true]
  decide

theorem NoCtl_jsonOptSpan (s : Option Span) : NoCtl (jsonOptSpan s) := by
  cases s <;> simp [jsonOptSpan, NoCtl_jsonSpan]

theorem NoCtl_jsonNote (n : Note) : NoCtl (jsonNote n) := by
  simp only [jsonNote, NoCtl_append, NoCtl_key noteKeys_ok, NoCtl_jsonStr, NoCtl_jsonOptSpan, and_true]
  decide

theorem NoCtl_jsonNotesBody (ns : List Note) : NoCtl (jsonNotesBody ns) := by
  fun_induction jsonNotesBody ns with
  | case1 => exact NoCtl_nil
  | case2 n => exact NoCtl_jsonNote n
  | case3 n ns _ ih => simp [NoCtl_jsonNote, ih]

theorem NoCtl_jsonObj (d : Diag) : NoCtl (jsonObj d) := by
  simp only [jsonObj, NoCtl_append, NoCtl_key diagKeys_ok, NoCtl_jsonStr, NoCtl_jsonOptSpan, NoCtl_jsonNotesBody, and_true]
  decide

def seqRes : List Res → Res
  | [] => .ok []
  | r :: rs => r.bind fun b => (seqRes rs).bind fun t => .ok (b ++ t)

theorem notAllowed_iff (d : Diag) : notAllowed d = true ↔ d.level ≠ .allowed := by
  simp [notAllowed]

theorem emitJsonChars_eq (ds : List Diag) :
    emitJsonChars ds = ((ds.filter notAllowed).map jsonLine).flatten := by
  induction ds with
  | nil => simp [emitJsonChars]
  | cons d ds ih =>
    cases h : d.level <;> simp [emitJsonChars, h, notAllowed, ih]

theorem emitHumanChars_eq (files : List SrcFile) (ds : List Diag) :
    emitHumanChars files ds = seqRes ((ds.filter notAllowed).map (humanBlock files)) := by
  induction ds with
  | nil => simp [emitHumanChars, seqRes]
  | cons d ds ih =>
    cases h : d.level <;> simp [emitHumanChars, h, notAllowed, ih, seqRes]

theorem filter_notAllowed_idem (ds : List Diag) : (ds.filter notAllowed).filter notAllowed = ds.filter notAllowed := by
  simp [List.filter_filter]

theorem bind_ok {ε α β} (x : Outcome ε α) (f : α → Outcome ε β) (b : β) (h : x.bind f = .ok b) :
    ∃ a, x = .ok a ∧ f a = .ok b := by
  cases x with
  | ok a => exact ⟨a, rfl, h⟩
  | _ => cases h

theorem seqRes_ok (rs : List Res) (out : List Char) (h : seqRes rs = .ok out) :
    ∃ blocks : List (List Char), rs = blocks.map Outcome.ok ∧ out = blocks.flatten := by
  induction rs generalizing out with
  | nil => cases h; exact ⟨[], rfl, rfl⟩
  | cons r rs ih =>
    obtain ⟨b, rfl, h⟩ := bind_ok _ _ _ h
    obtain ⟨t, ht, h⟩ := bind_ok (seqRes rs) _ _ h
    obtain ⟨bl, rfl, rfl⟩ := ih t ht
    exact ⟨b :: bl, rfl, (Outcome.ok.inj h).symm⟩

theorem totals_eq (ds : List Diag) :
    totals ds = ((ds.filter fun d => d.level == .warning).length, (ds.filter fun d => d.level == .error).length) := by
  induction ds with
  | nil => simp [totals]
  | cons d ds ih =>
    cases h : d.level <;> simp [totals, h, ih]

theorem totals_filter (ds : List Diag) : totals (ds.filter notAllowed) = totals ds := by
  induction ds with
  | nil => simp
  | cons d ds ih =>
    cases h : d.level <;> simp [notAllowed, totals, h, ih]

theorem totals_sum (ds : List Diag) : (totals ds).1 + (totals ds).2 = (ds.filter notAllowed).length := by
  induction ds with
  | nil => simp [totals]
  | cons d ds ih =>
    cases h : d.level <;> simp [notAllowed, totals, h] <;> omega

theorem expect_append (lit rest : List Char) : expect lit (lit ++ rest) = some ((), rest) := by
  simp [expect, List.isPrefixOf_iff_prefix]

theorem expect_one (c : Char) (rest : List Char) : expect [c] (c :: rest) = some ((), rest) :=
  expect_append [c] rest

theorem readKey_key (k : String) (rest : List Char) : readKey k (key k ++ rest) = some ((), rest) :=
  expect_append _ rest

theorem readStr_jsonStr (s : String) (rest : List Char) : readStr (jsonStr s ++ rest) = some (s, rest) := by
  simp [readStr, jsonStr, readBody_escChars, String.ofList_toList]

theorem readNatAux_digits (ds rest : List Char) (acc : Nat) (h : ∀ x ∈ ds, isDigit x = true) :
    readNatAux acc (ds ++ rest) = readNatAux (Nat.ofDigitChars 10 ds acc) rest := by
  induction ds generalizing acc with
  | nil => rfl
  | cons c cs ih =>
    have hc : isDigit c = true := h c (by simp)
    simp only [List.cons_append, readNatAux, hc, if_true]
    rw [ih _ (fun x hx => h x (by simp [hx])), Nat.ofDigitChars_cons, Nat.mul_comm 10]
    rfl

theorem readNat_dec (n : Nat) (c : Char) (rest : List Char) (hc : isDigit c = false) :
    readNat (decChars n ++ c :: rest) = some (n, c :: rest) := by
  have hd := decChars_digits n
  cases hds : decChars n with
  | nil => exact absurd hds (decChars_ne_nil n)
  | cons x xs =>
    have hx : isDigit x = true := hd x (by simp [hds])
    simp only [readNat, List.cons_append, hx, if_true]
    rw [← List.cons_append, ← hds, readNatAux_digits _ _ _ hd, decChars_eq, Nat.ofDigitChars_ten_toDigits]
    simp [readNatAux, hc]

theorem readLoc_jsonLoc (l : Loc) (rest : List Char) : readLoc (jsonLoc l ++ rest) = some (l, rest) := by
  simp only [jsonLoc, Gen.locKeys, List.getD_cons_zero, List.getD_cons_succ, List.append_assoc, List.cons_append,
    List.nil_append, readLoc]
  simp [expect_one, readKey_key, readNat_dec _ ',' _ (by decide), readNat_dec _ '}' _ (by decide)]

theorem readSpan_jsonSpan (s : Span) (rest : List Char) : readSpan (jsonSpan s ++ rest) = some (s, rest) := by
  simp only [jsonSpan, Gen.spanKeys, List.getD_cons_zero, List.getD_cons_succ, List.append_assoc, List.cons_append,
    List.nil_append, readSpan]
  simp [expect_one, readKey_key, readLoc_jsonLoc, readStr_jsonStr]

theorem readOptSpan_json (s : Option Span) (rest : List Char) :
    readOptSpan (jsonOptSpan s ++ rest) = some (s, rest) := by
  cases s with
  | none => simp [jsonOptSpan, readOptSpan]
  | some sp =>
    have h := readSpan_jsonSpan sp rest
    obtain ⟨t, ht⟩ : ∃ t, jsonSpan sp ++ rest = '{' :: t :=
      ⟨_, by simp only [jsonSpan, List.append_assoc, List.cons_append, List.nil_append]; rfl⟩
    simp only [jsonOptSpan, readOptSpan]
    rw [ht] at h ⊢
    simp [h]

theorem readNote_jsonNote (n : Note) (rest : List Char) : readNote (jsonNote n ++ rest) = some (n, rest) := by
  simp only [jsonNote, Gen.noteKeys, List.getD_cons_zero, List.getD_cons_succ, List.append_assoc, List.cons_append,
    List.nil_append, readNote]
  simp [expect_one, readKey_key, readOptSpan_json, readStr_jsonStr]

/-- any fuel from the length of the input on will do, which is what `readNotes` gives -/
theorem readNotesTail_body (n : Note) (ns : List Note) (rest : List Char) (fuel : Nat)
    (hf : (jsonNotesBody (n :: ns) ++ ']' :: rest).length ≤ fuel) :
    readNotesTail fuel (jsonNotesBody (n :: ns) ++ ']' :: rest) = some (n :: ns, rest) := by
  induction ns generalizing n fuel with
  | nil =>
    cases fuel with
    | zero => simp at hf
    | succ f => simp [readNotesTail, jsonNotesBody, readNote_jsonNote]
  | cons m ms ih =>
    cases fuel with
    | zero => simp at hf
    | succ f =>
      simp only [readNotesTail, jsonNotesBody, List.append_assoc, List.cons_append, List.nil_append] at hf ⊢
      simp [readNote_jsonNote, ih m f (by simp at hf ⊢; omega)]

theorem readNotes_json (ns : List Note) (rest : List Char) :
    readNotes (['['] ++ jsonNotesBody ns ++ [']'] ++ rest) = some (ns, rest) := by
  cases ns with
  | nil => simp [jsonNotesBody, readNotes]
  | cons n ns =>
    obtain ⟨t, ht⟩ : ∃ t, jsonNotesBody (n :: ns) = '{' :: t := by
      cases ns <;> exact ⟨_, by simp [jsonNotesBody, jsonNote]; rfl⟩
    have h := readNotesTail_body n ns rest _ (Nat.le_refl _)
    simp only [List.append_assoc, List.cons_append, List.nil_append, readNotes]
    rw [ht] at h ⊢
    simpa using h

theorem readDiagChars_jsonObj (d : Diag) (rest : List Char) :
    readDiagChars (jsonObj d ++ rest) = some (⟨d.message, severity d.level, d.span, d.notes, d.code⟩, rest) := by
  have hn := fun r => readNotes_json d.notes r
  simp only [List.append_assoc, List.cons_append, List.nil_append] at hn
  simp only [jsonObj, Gen.diagKeys, List.getD_cons_zero, List.getD_cons_succ, List.append_assoc, List.cons_append,
    List.nil_append, readDiagChars]
  simp [expect_one, readKey_key, readOptSpan_json, readStr_jsonStr, hn]

/-- the characters the emitter itself contributes (colours off): punctuation, digits, the format literals -/
def fixedAlphabet : List Char :=
  " -/\\|[]:>\n0123456789".toList ++ (Gen.errorPrefix ++ Gen.warningPrefix ++ Gen.notePrefix).toList ++
    Gen.arrow.toList ++ Gen.pointer.toList ++ Gen.expandedTab.toList

def CharsFrom (I l : List Char) : Prop := ∀ c ∈ l, c ∈ fixedAlphabet ∨ c ∈ I

namespace CharsFrom

theorem nil {I : List Char} : CharsFrom I [] := fun _ h => nomatch h

theorem append {I a b : List Char} (ha : CharsFrom I a) (hb : CharsFrom I b) : CharsFrom I (a ++ b) :=
  fun c hc => (List.mem_append.mp hc).elim (ha c) (hb c)

theorem fixed {I l : List Char} (h : ∀ c ∈ l, c ∈ fixedAlphabet) : CharsFrom I l := fun c hc => Or.inl (h c hc)
theorem input {I l : List Char} (h : ∀ c ∈ l, c ∈ I) : CharsFrom I l := fun c hc => Or.inr (h c hc)

end CharsFrom

/-- By parts, so that a character of a format literal is fixed whatever the literal is. Only the punctuation literal is
    evaluated, against `punctChars` (`punct_fixed`): string operations on a literal are slow in the kernel. -/
theorem mem_fixedAlphabet {c : Char} : c ∈ fixedAlphabet ↔
    c ∈ " -/\\|[]:>\n0123456789".toList ∨
    c ∈ Gen.errorPrefix.toList ∨ c ∈ Gen.warningPrefix.toList ∨ c ∈ Gen.notePrefix.toList ∨
    c ∈ Gen.arrow.toList ∨ c ∈ Gen.pointer.toList ∨ c ∈ Gen.expandedTab.toList := by
  unfold fixedAlphabet
  rw [String.toList_append, String.toList_append]
  simp only [List.mem_append, or_assoc]

def punctChars : List Char :=
  [' ', '-', '/', '\\', '|', '[', ']', ':', '>', '\n', '0', '1', '2', '3', '4', '5', '6', '7', '8', '9']

theorem punct_fixed : ∀ c ∈ punctChars, c ∈ " -/\\|[]:>\n0123456789".toList := by decide +kernel

namespace CharsFrom

theorem punct {I l : List Char} (h : ∀ c ∈ l, c ∈ punctChars) : CharsFrom I l :=
  .fixed fun c hc => mem_fixedAlphabet.mpr (.inl (punct_fixed c (h c hc)))

theorem replicate {I : List Char} (n : Nat) {c : Char} (h : c ∈ punctChars) : CharsFrom I (List.replicate n c) :=
  .punct fun _ hx => by rw [(List.mem_replicate.mp hx).2]; exact h

theorem arrow {I : List Char} : CharsFrom I Gen.arrow.toList :=
  .fixed fun _ h => mem_fixedAlphabet.mpr (.inr (.inr (.inr (.inr (.inl h)))))

theorem pointer {I : List Char} : CharsFrom I Gen.pointer.toList :=
  .fixed fun _ h => mem_fixedAlphabet.mpr (.inr (.inr (.inr (.inr (.inr (.inl h))))))

theorem tab {I : List Char} : CharsFrom I Gen.expandedTab.toList :=
  .fixed fun _ h => mem_fixedAlphabet.mpr (.inr (.inr (.inr (.inr (.inr (.inr h))))))

theorem note {I : List Char} : CharsFrom I Gen.notePrefix.toList :=
  .fixed fun _ h => mem_fixedAlphabet.mpr (.inr (.inr (.inr (.inl h))))

theorem level {I : List Char} : ∀ l : Level, CharsFrom I (humanPrefix l).toList
  | .error => .fixed fun _ h => mem_fixedAlphabet.mpr (.inr (.inl h))
  | .warning => .fixed fun _ h => mem_fixedAlphabet.mpr (.inr (.inr (.inl h)))
  | .allowed => .fixed fun _ h => nomatch h

end CharsFrom

def CharsFromR (I : List Char) (r : Res) : Prop := ∀ out, r = .ok out → CharsFrom I out

namespace CharsFromR

theorem ok {I l : List Char} (h : CharsFrom I l) : CharsFromR I (.ok l) := fun _ e => by cases e; exact h

theorem panic {I : List Char} {s : String} : CharsFromR I (.panic s) := fun _ e => nomatch e

theorem bind {I : List Char} {x : Res} {f : List Char → Res} (hx : CharsFromR I x)
    (hf : ∀ a, CharsFrom I a → CharsFromR I (f a)) : CharsFromR I (x.bind f) := by
  intro out h
  obtain ⟨a, ha, hfa⟩ := bind_ok _ _ _ h
  exact hf a (hx a ha) out hfa

theorem ite {I : List Char} {c : Prop} [Decidable c] {a b : Res} (ha : CharsFromR I a) (hb : CharsFromR I b) :
    CharsFromR I (if c then a else b) := by
  split
  · exact ha
  · exact hb

end CharsFromR

theorem digit_punct : ∀ k, k < 10 → digitChar k ∈ punctChars := by decide +kernel

theorem CharsFrom_dec {I : List Char} (n : Nat) : CharsFrom I (decChars n) := by
  apply CharsFrom.punct
  intro c hc
  obtain ⟨k, hk, rfl⟩ := decChars_mem n c hc
  exact digit_punct k hk

theorem CharsFrom_gutter {I : List Char} (plen : Nat) {num : List Char} (h : CharsFrom I num) : CharsFrom I (gutter plen num) :=
  (h.append (.replicate _ (by decide))).append (.punct (by decide))

theorem CharsFrom_expandTabs {I line : List Char} (h : ∀ c ∈ line, c ∈ I) : CharsFrom I (expandTabs line) := by
  intro c hc
  obtain ⟨a, ha, hca⟩ := List.mem_flatMap.mp hc
  unfold expandTab at hca
  split at hca
  · exact CharsFrom.tab c hca
  · rw [List.mem_singleton.mp hca]; exact Or.inr (h _ ha)

theorem CharsFromR_highlight (I line : List Char) (hs he : Nat) : CharsFromR I (getHighlight line hs he) := by
  unfold getHighlight
  exact .ite (.ok ((CharsFrom.replicate _ (by decide)).append .pointer)) (.ite (.ok (.replicate _ (by decide)))
    (.ok ((CharsFrom.replicate _ (by decide)).append (.replicate _ (by decide)))))

theorem linesAux_mem (t acc : List Char) : ∀ l ∈ linesAux t acc, ∀ c ∈ l, c ∈ t ∨ c ∈ acc := by
  fun_induction linesAux t acc with
  | case1 => nofun
  | case2 acc =>
    intro l hl c hc
    rw [List.mem_singleton.mp hl] at hc; exact .inr (List.mem_reverse.mp hc)
  | case3 rest acc ih =>
    intro l hl c hc
    rcases List.mem_cons.mp hl with rfl | hl
    · right
      split at hc
      · exact List.mem_cons_of_mem _ (List.mem_reverse.mp hc)
      · exact List.mem_reverse.mp hc
    · exact (ih l hl c hc).elim (fun h => .inl (List.mem_cons_of_mem _ h)) (fun h => nomatch h)
  | case4 x rest acc _ ih =>
    intro l hl c hc
    rcases ih l hl c hc with h | h
    · exact .inl (List.mem_cons_of_mem _ h)
    · exact (List.mem_cons.mp h).elim (fun e => .inl (e ▸ List.mem_cons_self)) .inr

theorem lines_mem (t : List Char) : ∀ l ∈ lines t, ∀ c ∈ l, c ∈ t := by
  intro l hl c hc
  rcases linesAux_mem t [] l hl c hc with h | h
  · exact h
  · simp at h

theorem CharsFromR_snippetLines (I : List Char) (plen : Nat) (s e : Loc) (ls : List (List Char))
    (hI : ∀ l ∈ ls, ∀ c ∈ l, c ∈ I) : ∀ i, CharsFromR I (snippetLines plen s e i ls) := by
  induction ls with
  | nil => intro i; rw [snippetLines]; exact .ok .nil
  | cons line rest ih =>
    intro i
    have hrest := ih fun l hl => hI l (List.mem_cons_of_mem _ hl)
    have hline : CharsFrom I (expandTabs line) := CharsFrom_expandTabs (hI line List.mem_cons_self)
    rw [snippetLines]
    exact .ite .panic (.ite (.ite .panic (.ite .panic
      (.bind (CharsFromR_highlight I _ _ _) fun h hh => .bind (hrest _) fun r hr => .ok
        ((CharsFrom_gutter plen (CharsFrom_dec _)).append (.punct (by decide)) |>.append hline |>.append (.punct (by decide))
          |>.append (CharsFrom_gutter plen .nil) |>.append hh |>.append (.punct (by decide)) |>.append hr))))
      (hrest _))

theorem CharsFromR_getSnippet (I text : List Char) (s e : Loc) (hI : ∀ c ∈ text, c ∈ I) :
    CharsFromR I (getSnippet text s e) := by
  unfold getSnippet
  exact .ite .panic (.bind (CharsFromR_snippetLines I _ s e _ (fun l hl c hc => hI c (lines_mem text l hl c hc)) 0)
    fun body hb => .ok
      ((CharsFrom_gutter _ .nil).append (.punct (by decide)) |>.append hb |>.append (CharsFrom_gutter _ .nil)))

theorem CharsFromR_emitSnippet (I : List Char) (files : List SrcFile) (sp : Span)
    (hF : ∀ f ∈ files, ∀ c ∈ f.text.toList, c ∈ I) (hS : ∀ c ∈ sp.file.toList, c ∈ I) :
    CharsFromR I (emitSnippet files sp) := by
  unfold emitSnippet
  cases hf : files.find? (fun f => f.path == sp.file) with
  | none => exact .panic
  | some f =>
    exact .bind (CharsFromR_getSnippet I _ _ _ (hF f (List.mem_of_find?_eq_some hf))) fun sn hsn => .ok
      ((CharsFrom.punct (by decide)).append .arrow |>.append (.punct (by decide)) |>.append (.input hS)
        |>.append (.punct (by decide)) |>.append (CharsFrom_dec _) |>.append (.punct (by decide)) |>.append (CharsFrom_dec _)
        |>.append (.punct (by decide)) |>.append hsn |>.append (.punct (by decide)))

/-- the characters of a span that reach the output: its file name -/
def spanChars : Option Span → List Char
  | none => []
  | some s => s.file.toList

theorem CharsFromR_emitOptSnippet (I : List Char) (files : List SrcFile) (sp : Option Span)
    (hF : ∀ f ∈ files, ∀ c ∈ f.text.toList, c ∈ I) (hS : ∀ c ∈ spanChars sp, c ∈ I) :
    CharsFromR I (emitOptSnippet files sp) := by
  cases sp with
  | none => exact .ok .nil
  | some s => exact CharsFromR_emitSnippet I files s hF hS

def noteChars (n : Note) : List Char := n.message.toList ++ spanChars n.span

theorem CharsFromR_emitNotes (I : List Char) (files : List SrcFile) (ns : List Note)
    (hF : ∀ f ∈ files, ∀ c ∈ f.text.toList, c ∈ I) (hN : ∀ n ∈ ns, ∀ c ∈ noteChars n, c ∈ I) :
    CharsFromR I (emitNotes files ns) := by
  induction ns with
  | nil => exact .ok .nil
  | cons n rest ih =>
    obtain ⟨hmsg, hspan⟩ := List.forall_mem_append.mp (hN n List.mem_cons_self)
    rw [emitNotes]
    exact .bind (CharsFromR_emitOptSnippet I files _ hF hspan) fun sn hsn =>
      .bind (ih fun m hm => hN m (List.mem_cons_of_mem _ hm)) fun r hr => .ok
        (CharsFrom.note.append (.punct (by decide)) |>.append (.input hmsg) |>.append (.punct (by decide))
          |>.append hsn |>.append hr)

def diagChars (d : Diag) : List Char :=
  d.code.toList ++ d.message.toList ++ spanChars d.span ++ d.notes.flatMap noteChars

theorem CharsFromR_humanBlock (I : List Char) (files : List SrcFile) (d : Diag)
    (hF : ∀ f ∈ files, ∀ c ∈ f.text.toList, c ∈ I) (hD : ∀ c ∈ diagChars d, c ∈ I) :
    CharsFromR I (humanBlock files d) := by
  rw [diagChars] at hD
  simp only [List.forall_mem_append] at hD
  obtain ⟨⟨⟨hcode, hmsg⟩, hspan⟩, hnotes⟩ := hD
  unfold humanBlock
  exact .bind (CharsFromR_emitOptSnippet I files _ hF hspan) fun sn hsn =>
    .bind (CharsFromR_emitNotes I files _ hF fun n hn c hc => hnotes c (List.mem_flatMap.mpr ⟨n, hn, hc⟩)) fun ns hns => .ok
      ((CharsFrom.level _).append (.punct (by decide)) |>.append (.input hcode) |>.append (.punct (by decide)) |>.append (.input hmsg)
        |>.append (.punct (by decide)) |>.append hsn |>.append hns)

/-- everything the human emitter can copy into its output: source texts and the diagnostics' strings -/
def inputChars (files : List SrcFile) (ds : List Diag) : List Char :=
  files.flatMap (fun f => f.text.toList) ++ ds.flatMap diagChars

theorem CharsFromR_emitHumanChars (files : List SrcFile) (ds : List Diag) (I : List Char)
    (hF : ∀ f ∈ files, ∀ c ∈ f.text.toList, c ∈ I) (hD : ∀ d ∈ ds, ∀ c ∈ diagChars d, c ∈ I) :
    CharsFromR I (emitHumanChars files ds) := by
  intro out h c hc
  -- the output is the blocks of some of the diagnostics, one behind the other
  rw [emitHumanChars_eq] at h
  obtain ⟨bl, hb, rfl⟩ := seqRes_ok _ _ h
  obtain ⟨b, hbm, hcb⟩ := List.mem_flatten.mp hc
  obtain ⟨d, hd, hdb⟩ := List.mem_map.mp (hb ▸ List.mem_map_of_mem hbm : Outcome.ok b ∈ _)
  exact CharsFromR_humanBlock I files d hF (hD d (List.mem_filter.mp hd).1) b hdb c hcb

theorem emitHuman_ok (files : List SrcFile) (ds : List Diag) (out : String) (h : emitHuman files ds = .ok out) :
    ∃ cs, emitHumanChars files ds = .ok cs ∧ out = String.ofList cs := by
  revert h
  fun_cases emitHuman files ds <;> intro h <;> cases h
  exact ⟨_, ‹_›, rfl⟩

theorem getHighlight_ok (line : List Char) (hs he : Nat) : ∃ out, getHighlight line hs he = .ok out := by
  fun_cases getHighlight line hs he <;> exact ⟨_, rfl⟩

/-- The last clause says that on the first line of a span over several lines `highlight_end - highlight_start` needs no
    saturation; it measures the line *as `lines()` keeps it* (without the `\r` of a `\r\n`). `getSnippet_ok` needs the
    first four clauses only: `get_highlight` subtracts with saturation. -/
def SpanOk (text : List Char) (s e : Loc) : Prop :=
  1 ≤ s.row ∧ 1 ≤ s.col ∧ 1 ≤ e.col ∧ locLe s e = true ∧
  (s.row < e.row → ∀ line, (lines text)[s.row - 1]? = some line → s.col - 1 ≤ line.length)

theorem snippetLines_ok (plen : Nat) (s e : Loc) (hr : 1 ≤ s.row) (hc : 1 ≤ s.col) (hec : 1 ≤ e.col)
    (ls : List (List Char)) (i : Nat) : ∃ out, snippetLines plen s e i ls = .ok out := by
  fun_induction snippetLines plen s e i ls with
  | case1 => exact ⟨_, rfl⟩
  | case2 | case3 | case4 => omega  -- the three panics: a row or column that is 0
  | case5 _ line _ _ _ _ _ hs _ he ih =>
    obtain ⟨r, hrr⟩ := ih
    obtain ⟨h, hh⟩ := getHighlight_ok line hs he
    rw [hh, hrr]
    exact ⟨_, rfl⟩
  | case6 _ _ _ _ _ ih => exact ih

theorem getSnippet_ok (text : List Char) (s e : Loc) (hr : 1 ≤ s.row) (hc : 1 ≤ s.col) (hec : 1 ≤ e.col)
    (hle : locLe s e = true) : ∃ out, getSnippet text s e = .ok out := by
  unfold getSnippet
  simp only [hle, Bool.not_true, Bool.false_eq_true, if_false]
  obtain ⟨body, hb⟩ := snippetLines_ok ((decChars e.row).length + 1) s e hr hc hec (lines text) 0
  rw [hb]
  exact ⟨_, rfl⟩

theorem expandTabs_length (l : List Char) : (expandTabs l).length = widthOf l := by
  rw [expandTabs, List.length_flatMap, widthOf]
  congr 1
  refine List.map_congr_left fun c _ => ?_
  rw [expandTab, cw]
  split <;> simp [String.length_toList]

/-- where a regenerated `EXPANDED_TAB` of another width stops the build (`widthOf_eq` itself holds for any literal that is
    not empty) -/
theorem tabLen : Gen.expandedTab.length = 4 := by decide

theorem widthOf_eq (l : List Char) : widthOf l = l.length + (l.filter (· = '\t')).length * (Gen.expandedTab.length - 1) := by
  induction l with
  | nil => simp [widthOf]
  | cons c cs ih =>
    simp only [widthOf, List.map_cons, List.sum_cons] at ih ⊢
    rw [ih]
    by_cases hc : c = '\t'
    · simp [cw, hc, tabLen]; omega
    · simp [cw, hc, tabLen]; omega

end Slicec.Emit
