/-
  The simp set `tokens_with`: how `tokensWith` reads the printer's constant items and an identifier item, with the three
  list lemmas that reassociate the result. The rules are in Lemmas/SliceParserItems.lean.
-/
import Lean.Meta.Tactic.Simp.RegisterCommand

register_simp_attr tokens_with
