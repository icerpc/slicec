/-
  The one place where acceptance (`validate P = []`) is opened, through C04's `accept_iff` (acceptance = `WellFormed`):
  what C08's bridge and C15 use of an accepted program.
-/
import SlicecVerif.Lemmas.AliasGraph
import SlicecVerif.Props.C04

namespace Slicec

theorem accepted_wellFormed (P : Program) (h : validate P = []) : WellFormed P := (C04.accept_iff P).mp h

theorem validate_nil_resolve (P : Program) (h : validate P = []) : Validate.resolveCodes P = [] :=
  (accepted_wellFormed P h).2 Validate.resolveRule (.tail _ (.head _)) P (.head _)

/-- the parser's "module declaration is required" (parsers/mod.rs) -/
theorem accepted_moduleRequired (P : Program) (h : validate P = []) (f : SFile) (hf : f ∈ P)
    (hm : f.module = none) : f.defs = [] := by
  cases hd : f.defs with
  | nil => rfl
  | cons d ds => simpa [hm, hd] using ((accepted_wellFormed P h).1 f hf).2.2.2

theorem accepted_refsOK (P : Program) (h : validate P = []) (f : SFile) (hf : f ∈ P) (d : Def) (hd : d ∈ f.defs) :
    RefsOK (buildTable P) f.modPath ((Validate.defVisitedTRefs d).flatMap Validate.subRefsT) :=
  SitesResolve.of_codes (validate_nil_resolve P h) f hf d hd

theorem accepted_basesOK (P : Program) (h : validate P = []) (f : SFile) (hf : f ∈ P) (doc : List String) (attrs : List Attr)
    (name : String) (bases : List TRef) (ops : List Op) (hd : Def.iface doc attrs name bases ops ∈ f.defs) :
    ∀ b ∈ bases, ∀ id, b.ty = .named id → ∃ v, resolveNamed (buildTable P) .interface id f.modPath = .ok v :=
  fun _ hb id hid => basesCodes_nil_ok _ _
    (List.append_eq_nil_iff.mp (defResolveCodes_nil P (validate_nil_resolve P h) f hf _ hd)).2
    ⟨.interface, id, f.modPath⟩ (mem_namedSites _ _ hb hid)

theorem accepted_defKeys_nodup (P : Program) (h : validate P = []) : ((Validate.allDefs P).map Validate.defKey).Nodup :=
  ((accepted_wellFormed P h).2 Validate.namesRule (.tail _ (.tail _ (.tail _ (.head _)))) _ (.head _)).1

theorem accepted_aliasKeys_nodup (P : Program) (h : validate P = []) : ((Cyc.aliasDefs P).map (·.1)).Nodup :=
  KeysDistinct.of_defKeys (accepted_defKeys_nodup P h)

end Slicec
