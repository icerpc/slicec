/-
  Layouts and the Slice lexer model (C02). `Wrote` says what a layout may write for one item, `Lays` that a text is a
  layout of an item list. The lexer's half: along any such text the reading of what is written so far stays in step with
  `ckRun` / `tokensWith` (`RInv`), so the text lexes to the tokens the items denote (`lex_lays`). The printer's half: what
  `render` (Model/Print.lean) writes, in every style and for every seed, is such a text (`foldl_lays`). `lex_render` is the
  two together. `commaExt_tokensWith`: whatever is chosen at the optional commas only adds `Comma` tokens.
-/
import SlicecVerif.Lemmas.SliceLexer
import SlicecVerif.Lemmas.Layout

namespace Slicec.SLex

open Slicec

def txt (st : LState) : List Char := (textOf st).toList

theorem txt_push (st st' : LState) (s : String) (h : st'.out = s :: st.out) : txt st' = txt st ++ s.toList := by
  simp [txt, textOf_push st s st' h, String.toList_append]

theorem txt_emitTok (st : LState) (s : String) (d : Bool) : txt (emitTok st s d) = txt st ++ s.toList :=
  txt_push st _ s rfl

theorem collect_map_tok (ts : List SliceTok) : collect (ts.map .tok) = .ok ts := by
  induction ts with
  | nil => rfl
  | cons t ts ih => simp [collect, ih]

theorem map_tok_toksOf (items : List LexItem) (h : noErr items = true) : (toksOf items).map .tok = items := by
  induction items with
  | nil => rfl
  | cons i r ih =>
    cases i with
    | tok t =>
      have : noErr r = true := by simpa [noErr, LexItem.isErr] using h
      simp [toksOf, ih this]
    | err e => simp [noErr, LexItem.isErr] at h

/-- `last` is a disjunction because `ck` follows the items, not the layout: it assumes the least separation any layout
    writes, and the text of the layout at hand may end better separated (`.closed`). -/
structure RInv (st : LState) (ck : CkSt) (toks : List SliceTok) : Prop where
  items : (lexRun false (txt st)).items = toks.map .tok
  attr : (lexRun false (txt st)).attr = ck.attr
  last : (lexRun false (txt st)).last = ck.last ∨ (lexRun false (txt st)).last = .closed
  noerr : ck.last ≠ .err
  doc : st.afterDoc = false → (lexRun false (txt st)).last ≠ .line

theorem RInv.init {st : LState} (h : txt st = []) : RInv st ⟨false, .closed⟩ [] := by
  refine ⟨?_, ?_, ?_, by decide, ?_⟩ <;> rw [h] <;> simp

theorem RInv.last_ne_err {st ck toks} (h : RInv st ck toks) : (lexRun false (txt st)).last ≠ .err := by
  rcases h.last with e | e
  · rw [e]; exact h.noerr
  · rw [e]; decide

theorem RInv.compat_of_ck {st ck toks} (h : RInv st ck toks) (g : List Char) (hc : compat ck.last g = true) :
    compat (lexRun false (txt st)).last g = true := by
  rcases h.last with e | e
  · rw [e]; exact hc
  · rw [e]; exact compat_closed g

theorem RInv.append {st ck toks} (h : RInv st ck toks) (st' : LState) (g : List Char) (htxt : txt st' = txt st ++ g)
    (hc : compat (lexRun false (txt st)).last g = true) :
    lexRun false (txt st') =
      ⟨toks.map .tok ++ (lexRun ck.attr g).items, (lexRun ck.attr g).attr,
       if g.isEmpty then (lexRun false (txt st)).last else (lexRun ck.attr g).last⟩ := by
  rw [htxt, lexRun_append false (txt st) g hc, h.items, h.attr]

theorem RInv.step {st ck toks} (h : RInv st ck toks) (st' : LState) (g : List Char) (htxt : txt st' = txt st ++ g)
    (hg : g ≠ []) (hc : compat ck.last g = true) {items : List LexItem} {a' : Bool} {e' : EndClass}
    (hrun : lexRun ck.attr g = ⟨items, a', e'⟩) (hok : noErr items = true) (herr : e' ≠ .err)
    (hdoc : st'.afterDoc = false → e' ≠ .line) : RInv st' ⟨a', e'⟩ (toks ++ toksOf items) := by
  have happ := h.append st' g htxt (h.compat_of_ck _ hc)
  have hemp : g.isEmpty = false := by cases g with | nil => exact absurd rfl hg | cons c r => rfl
  rw [hrun, hemp] at happ
  simp only [Bool.false_eq_true, if_false] at happ
  refine ⟨?_, ?_, ?_, herr, ?_⟩
  · rw [happ]; simp [map_tok_toksOf _ hok]
  · rw [happ]
  · rw [happ]; exact Or.inl rfl
  · intro hd; rw [happ]; exact hdoc hd

theorem RInv.of_closed {st a e toks} (h : RInv st ⟨a, .closed⟩ toks) (he : e ≠ .err) : RInv st ⟨a, e⟩ toks :=
  ⟨h.items, h.attr, Or.inr (h.last.elim id id), he, h.doc⟩

theorem ckItem_ident {ck ck1 : CkSt} {s : String} (h : ckItem ck (.ident s) = some ck1) :
    isIdentText s.toList = true ∧ compat ck.last s.toList = true ∧ compat ck.last ['\\'] = true ∧ ck1 = ⟨ck.attr, .word⟩ := by
  simp only [ckItem] at h
  split at h
  · rename_i hcond
    simp only [Bool.and_eq_true] at hcond
    exact ⟨hcond.1.1, hcond.1.2, hcond.2, (Option.some.inj h).symm⟩
  · cases h

theorem ckItem_optComma {ck ck1 : CkSt} (h : ckItem ck .optComma = some ck1) : compat ck.last [','] = true ∧ ck1 = ck := by
  simp only [ckItem] at h
  split at h
  · rename_i hcomp
    exact ⟨hcomp, (Option.some.inj h).symm⟩
  · cases h

/-! `Wrote` is the whole contract between the items and a layout: the lexer side (`RInv.wrote`) reads of the printer's state
  only the text written and `afterDoc`, and knows nothing of its generator, its catalogue of separators or its list of words
  to escape; the printer side (`renderItem_wrote`) knows nothing of the lexer beyond `GapOk` and that its list covers the
  lexer's keywords. -/

/-- a separator as a layout may write it: after a doc line (`d`) it starts with the line break that ends the doc comment -/
def GapText (d : Bool) (g : List Char) : Prop := GapOk g ∧ (d = true → ∃ g', g = '\n' :: g')

/-- `Wrote d it w d'`: `w` is a text a layout may write for the item `it`; `d` / `d'` say whether the last spelling
    written before / after it is a doc line. -/
def Wrote (d : Bool) : Item → List Char → Bool → Prop
  | .tok s, w, d' => w = s.toList ∧ d' = false
  | .docLine s, w, d' => w = ("///" ++ s).toList ∧ d' = true
  | .ident s, w, d' =>
    (∃ esc : Bool, (esc = false → checkKeyword s.toList = .ident s.toList) ∧ w = (if esc then "\\" ++ s else s).toList) ∧
      d' = false
  | .optComma, w, d' => (w = [] ∧ d' = d) ∨ (w = [','] ∧ d' = false)
  | .nl _, w, d' => GapText d w ∧ w ≠ [] ∧ d' = d
  | .sp, w, d' => GapText d w ∧ w ≠ [] ∧ d' = d
  | .glue, w, d' => GapText d w ∧ d' = d
  | .op _, w, d' => w = [] ∧ d' = d
  | .cl _, w, d' => w = [] ∧ d' = d

def choice : Item → List Char → List Bool
  | .optComma, w => [!w.isEmpty]
  | _, _ => []

theorem RInv.congr {st st' ck toks} (h : RInv st ck toks) (ht : txt st' = txt st) (hd : st'.afterDoc = st.afterDoc) :
    RInv st' ck toks := by
  refine ⟨?_, ?_, ?_, h.noerr, ?_⟩
  · rw [ht]; exact h.items
  · rw [ht]; exact h.attr
  · rw [ht]; exact h.last
  · rw [ht, hd]; exact h.doc

/-- an open line comment is closed by the line break that a separator starts with after a doc line, and a doc line is
    the only spelling the check lets end in one -/
theorem RInv.compat_gap {st ck toks} (h : RInv st ck toks) {g : List Char} (hg : GapText st.afterDoc g) :
    compat (lexRun false (txt st)).last g = true := by
  by_cases hl : (lexRun false (txt st)).last = .line
  · have hd : st.afterDoc = true := by
      cases hq : st.afterDoc with
      | true => rfl
      | false => exact absurd hl (h.doc hq)
    obtain ⟨g', rfl⟩ := hg.2 hd
    rw [hl]; rfl
  · exact compat_of_gapHeadOk _ g hg.1.head hl h.last_ne_err

theorem RInv.gap {st st' ck toks} (h : RInv st ck toks) {g : List Char} (htxt : txt st' = txt st ++ g)
    (hd : st'.afterDoc = st.afterDoc) (hg : GapText st.afterDoc g) :
    RInv st' ck toks ∧ (g ≠ [] → RInv st' ⟨ck.attr, .closed⟩ toks) := by
  cases g with
  | nil => exact ⟨h.congr (htxt.trans (List.append_nil _)) hd, fun hne => absurd rfl hne⟩
  | cons c g =>
    have happ := h.append st' (c :: g) htxt (h.compat_gap hg)
    rw [hg.1.run] at happ
    simp only [List.append_nil, List.isEmpty_cons, Bool.false_eq_true, if_false] at happ
    have R : RInv st' ⟨ck.attr, .closed⟩ toks :=
      ⟨by rw [happ], by rw [happ], Or.inr (by rw [happ]), by simp, fun _ => by rw [happ]; simp⟩
    exact ⟨R.of_closed h.noerr, fun _ => R⟩

theorem RInv.wrote {st st' : LState} {ck ck1 : CkSt} {toks : List SliceTok} {it : Item} {w : List Char}
    (h : RInv st ck toks) (hit : ckItem ck it = some ck1) (htxt : txt st' = txt st ++ w)
    (hw : Wrote st.afterDoc it w st'.afterDoc) :
    compat (lexRun false (txt st)).last w = true ∧
    ∃ ts : List SliceTok, RInv st' ck1 (toks ++ ts) ∧
      ∀ cs r, tokensWith ck.attr (choice it w ++ cs) (it :: r) = ts ++ tokensWith ck1.attr cs r := by
  have same : ∀ {ck2}, RInv st' ck2 toks → RInv st' ck2 (toks ++ []) := fun h2 => (List.append_nil toks).symm ▸ h2
  cases it with
  | tok s =>
    obtain ⟨rfl, hd⟩ := hw
    obtain ⟨hne, hcomp, hnoerr, herr, hline, rfl⟩ := ckText_eq_some.mp hit
    exact ⟨h.compat_of_ck _ hcomp, _, h.step _ _ htxt hne hcomp rfl hnoerr herr (fun _ => hline rfl), fun cs r => rfl⟩
  | docLine s =>
    obtain ⟨rfl, hd⟩ := hw
    obtain ⟨hne, hcomp, hnoerr, herr, _, rfl⟩ := ckText_eq_some.mp hit
    exact ⟨h.compat_of_ck _ hcomp, _, h.step _ _ htxt hne hcomp rfl hnoerr herr (fun e => by rw [hd] at e; cases e),
      fun cs r => rfl⟩
  | ident s =>
    obtain ⟨⟨esc, hesc, rfl⟩, _⟩ := hw
    obtain ⟨hid, hc1, hc2, rfl⟩ := ckItem_ident hit
    -- a layout may write the backslash where none is needed, so what precedes must merge neither with the word nor
    -- with `\`: the two conditions `ckItem` asks of `.ident`
    have hc := compat_identSpelling ck.last s esc hc1 hc2
    have hrun := lexRun_identSpelling ck.attr s esc hesc hid
    exact ⟨h.compat_of_ck _ hc, _,
      h.step _ _ htxt (fun e => by rw [e] at hrun; cases hrun) hc hrun rfl (by decide) (fun _ => by decide), fun cs r => rfl⟩
  | optComma =>
    obtain ⟨hcomp, rfl⟩ := ckItem_optComma hit
    rcases hw with ⟨rfl, hd⟩ | ⟨rfl, hd⟩
    · exact ⟨compat_nil _, [], same (h.congr (htxt.trans (List.append_nil _)) hd), fun cs r => rfl⟩
    · exact ⟨h.compat_of_ck _ hcomp, [.comma],
        (h.step _ [','] htxt (List.cons_ne_nil _ _) hcomp (lexRun_comma ck1.attr) rfl (by decide)
          (fun _ => by decide)).of_closed h.noerr, fun cs r => rfl⟩
  | nl n | sp =>
    cases hit
    obtain ⟨hg, hne, hd⟩ := hw
    exact ⟨h.compat_gap hg, [], same ((h.gap htxt hd hg).2 hne), fun cs r => rfl⟩
  | glue =>
    cases hit
    obtain ⟨hg, hd⟩ := hw
    exact ⟨h.compat_gap hg, [], same (h.gap htxt hd hg).1, fun cs r => rfl⟩
  | op p | cl p =>
    cases hit
    obtain ⟨rfl, hd⟩ := hw
    exact ⟨compat_nil _, [], same (h.congr (htxt.trans (List.append_nil _)) hd), fun cs r => rfl⟩

theorem compat_newline (e : EndClass) (h : e ≠ .err) : compat e ['\n'] = true := by
  cases e with
  | err => exact absurd rfl h
  | _ => decide

/-- the text ends the way `render` ends it: with a line break after a doc line -/
theorem RInv.finish {st ck toks} (h : RInv st ck toks) :
    lexSlice (txt st ++ if st.afterDoc then ['\n'] else []) = .ok toks := by
  unfold lexSlice
  cases hd : st.afterDoc with
  | false => rw [if_neg Bool.false_ne_true, List.append_nil, h.items, collect_map_tok]
  | true =>
    rw [if_pos rfl, lexRun_append false _ _ (compat_newline _ h.last_ne_err), lexRun_newline, h.items, List.append_nil,
      collect_map_tok]

/-- `Lays d items cs t`: `t` is a layout of the items, written after a doc line (`d`) or not, that makes the choices
    `cs` at the optional commas -/
inductive Lays : Bool → List Item → List Bool → List Char → Prop
  | nil {d : Bool} : Lays d [] [] (if d then ['\n'] else [])
  | cons {d d' : Bool} {it : Item} {w : List Char} {r : List Item} {cs : List Bool} {t : List Char} :
      Wrote d it w d' → Lays d' r cs t → Lays d (it :: r) (choice it w ++ cs) (w ++ t)

theorem Lays.fold {d : Bool} {items : List Item} {cs : List Bool} {t : List Char} (hl : Lays d items cs t) :
    ∀ (st : LState) (ck ck' : CkSt) (toks : List SliceTok), st.afterDoc = d → RInv st ck toks → ckRun ck items = some ck' →
    lexSlice (txt st ++ t) = .ok (toks ++ tokensWith ck.attr cs items) := by
  induction hl with
  | nil =>
    intro st ck ck' toks hd h hck
    subst hd
    rw [tokensWith, List.append_nil]
    exact h.finish
  | @cons d d' it w r cs t hw _ ih =>
    intro st ck ck' toks hd h hck
    subst hd
    simp only [ckRun] at hck
    cases hit : ckItem ck it with
    | none => rw [hit] at hck; cases hck
    | some ck1 =>
      rw [hit] at hck
      let st' : LState := { st with out := String.ofList w :: st.out, afterDoc := d' }
      have htxt : txt st' = txt st ++ w := by rw [txt_push st st' _ rfl, String.toList_ofList]
      obtain ⟨_, ts, h1, htw⟩ := h.wrote (st' := st') hit htxt hw
      rw [htw cs r, ← List.append_assoc toks, ← ih st' ck1 ck' _ rfl h1 hck, htxt, List.append_assoc]

/-- **Layout theorem, any layout** (C02). Every layout of an item list that passes the separation check — any separators
    that read as nothing, any choice of optional commas and of backslashes that leaves no keyword of the lexer bare —
    lexes without error to the tokens the items denote, with a `Comma` exactly where an optional comma was written. -/
theorem lex_lays {items : List Item} {cs : List Bool} {t : List Char} (h : itemsOk items = true)
    (hl : Lays false items cs t) : lexSlice t = .ok (tokensWith false cs items) := by
  obtain ⟨ck', hck⟩ := Option.isSome_iff_exists.mp h
  let st0 : LState := { out := [], loc := ⟨1, 1⟩, lastEnd := ⟨1, 1⟩, pendingOpen := [], opened := [], spans := [],
                        rng := Rng.mk' 0, afterDoc := false }
  have h0 : txt st0 = [] := by simp [txt, textOf, st0]
  have hr := hl.fold st0 _ ck' [] rfl (.init h0) hck
  rwa [h0] at hr

theorem emitGap_wrote (style : Nat) (st : LState) (canon : String) (mand : Bool)
    (hcanon : canon.toList.all (fun c => c == ' ' || c == '\n') = true) (hmand : mand = true → canon.toList ≠ []) :
    ∃ g : List Char, txt (emitGap style st canon mand) = txt st ++ g ∧ GapText st.afterDoc g ∧ (mand = true → g ≠ []) ∧
      (emitGap style st canon mand).afterDoc = st.afterDoc := by
  obtain ⟨t, rng, ht, heq⟩ := emitGap_choice style st canon mand
  -- the text chosen is the canonical blanks, nothing, or a catalogue entry: each reads as nothing, and behind a doc line
  -- none starts with CR, so below the `\n` is put in front of it unless it starts with one
  have ⟨hok, hne, hcr⟩ : GapOk t.toList ∧ (mand = true → t.toList ≠ []) ∧
      (st.afterDoc = true → t.toList.head? ≠ some '\r') := by
    rcases ht with rfl | ⟨hm, hd, rfl⟩ | ⟨g, hg, rfl⟩
    · have hc : ∀ c ∈ t.toList, c = ' ' ∨ c = '\n' := by simpa using hcanon
      refine ⟨gapOk_ws _ (List.all_eq_true.mpr fun c h => by rcases hc c h with rfl | rfl <;> decide), hmand, fun _ e => ?_⟩
      rcases hc _ (List.mem_of_mem_head? e) with h | h <;> cases h
    · exact ⟨gapOk_nil, fun h => (by rw [hm] at h; cases h), fun h => (by rw [hd] at h; cases h)⟩
    · obtain ⟨hrun, hhead, hne⟩ := gapCatalogue_ok g hg
      cases st.afterDoc with
      | false => exact ⟨⟨hrun, hhead⟩, fun _ => hne, fun h => by cases h⟩
      | true =>
        simp only [if_true, String.toList_append, toList_nl]
        exact ⟨gapOk_newline_cons _ ⟨hrun, hhead⟩, fun _ => by simp, fun _ => by simp⟩
  rw [heq]
  refine ⟨_, txt_push st _ _ rfl, ?_⟩
  cases hd : st.afterDoc with
  | false =>
    simp only [Bool.false_and, Bool.false_eq_true, if_false]
    exact ⟨⟨hok, fun h => by cases h⟩, hne, trivial⟩
  | true =>
    have hcr' := hcr hd
    by_cases s1 : t.startsWith "\n" = true
    · simp only [s1, Bool.not_true, Bool.and_false, Bool.false_and, Bool.false_eq_true, if_false]
      obtain ⟨r, hr⟩ := String.startsWith_string_iff.mp s1
      exact ⟨⟨hok, fun _ => ⟨r, by rw [← hr]; rfl⟩⟩, hne, trivial⟩
    · by_cases s2 : t.startsWith "\r\n" = true
      · obtain ⟨r, hr⟩ := String.startsWith_string_iff.mp s2
        exact absurd (by rw [← hr]; rfl) hcr'
      · have s1' : t.startsWith "\n" = false := by simpa using s1
        have s2' : t.startsWith "\r\n" = false := by simpa using s2
        simp only [s1', s2', Bool.not_false, Bool.and_self, if_true, String.toList_append, toList_nl]
        exact ⟨⟨gapOk_newline_cons _ hok, fun _ => ⟨_, rfl⟩⟩, fun _ => by simp, trivial⟩

theorem closeSpan_txt (st : LState) (p : String) : txt (closeSpan st p) = txt st ∧ (closeSpan st p).afterDoc = st.afterDoc := by
  unfold closeSpan
  split <;> exact ⟨rfl, rfl⟩

theorem canon_nl (n : Nat) :
    ("\n" ++ String.ofList (List.replicate (4 * n) ' ')).toList.all (fun c => c == ' ' || c == '\n') = true ∧
    ("\n" ++ String.ofList (List.replicate (4 * n) ' ')).toList ≠ [] := by
  have e := toList_nl
  simp only [String.toList_append, e, String.toList_ofList]
  refine ⟨?_, by simp⟩
  simp

theorem renderItem_wrote (style : Nat) (st : LState) (it : Item) :
    ∃ w, txt (renderItem style st it) = txt st ++ w ∧ Wrote st.afterDoc it w (renderItem style st it).afterDoc ∧
      (style = 0 → ∀ b ∈ choice it w, b = false) := by
  cases it with
  | tok s => exact ⟨_, txt_emitTok st s false, ⟨rfl, rfl⟩, fun _ _ hb => nomatch hb⟩
  | docLine s => exact ⟨_, txt_emitTok st _ true, ⟨rfl, rfl⟩, fun _ _ hb => nomatch hb⟩
  | ident s =>
    obtain ⟨rng, esc, hesc, hren⟩ := renderItem_ident style st s
    rw [hren]
    exact ⟨_, txt_emitTok { st with rng := rng } _ false, ⟨⟨esc, checkKeyword_of_escaped hesc, rfl⟩, rfl⟩,
      fun _ _ hb => nomatch hb⟩
  | optComma =>
    obtain ⟨rng, hren | ⟨hs, hren⟩⟩ := renderItem_optComma style st
    · rw [hren]; exact ⟨[], (List.append_nil _).symm, Or.inl ⟨rfl, rfl⟩, fun _ _ hb => List.mem_singleton.mp hb⟩
    · rw [hren]; exact ⟨_, txt_emitTok { st with rng := rng } "," false, Or.inr ⟨rfl, rfl⟩, fun e => absurd e hs⟩
  | nl n =>
    obtain ⟨g, htxt, hg, hne, hd⟩ := emitGap_wrote style st _ true (canon_nl n).1 (fun _ => (canon_nl n).2)
    exact ⟨g, htxt, ⟨hg, hne rfl, hd⟩, fun _ _ hb => nomatch hb⟩
  | sp =>
    obtain ⟨g, htxt, hg, hne, hd⟩ := emitGap_wrote style st " " true (by decide) (fun _ => by decide)
    exact ⟨g, htxt, ⟨hg, hne rfl, hd⟩, fun _ _ hb => nomatch hb⟩
  | glue =>
    obtain ⟨g, htxt, hg, _, hd⟩ := emitGap_wrote style st "" false (by decide) (fun e => by cases e)
    exact ⟨g, htxt, ⟨hg, hd⟩, fun _ _ hb => nomatch hb⟩
  | op p => exact ⟨[], (List.append_nil _).symm, ⟨rfl, rfl⟩, fun _ _ hb => nomatch hb⟩
  | cl p =>
    exact ⟨[], ((closeSpan_txt st p).1.trans (List.append_nil _).symm), ⟨rfl, (closeSpan_txt st p).2⟩, fun _ _ hb => nomatch hb⟩

theorem foldl_lays (style : Nat) (items : List Item) : ∀ st : LState,
    ∃ cs t, Lays st.afterDoc items cs t ∧ (style = 0 → ∀ b ∈ cs, b = false) ∧
      txt (items.foldl (renderItem style) st) ++ (if (items.foldl (renderItem style) st).afterDoc then ['\n'] else []) = txt st ++ t := by
  induction items with
  | nil => exact fun st => ⟨[], _, .nil, fun _ _ hb => (nomatch hb), rfl⟩
  | cons it r ih =>
    intro st
    obtain ⟨w, htxt, hw, hc⟩ := renderItem_wrote style st it
    obtain ⟨cs, t, hl, hcs, ht⟩ := ih (renderItem style st it)
    exact ⟨_, w ++ t, .cons hw hl, fun e b hb => (List.mem_append.mp hb).elim (hc e b) (hcs e b),
      by rw [List.foldl_cons, ht, htxt, List.append_assoc]⟩

theorem tokensWith_false (items : List Item) : ∀ (a : Bool) (cs : List Bool), (∀ b ∈ cs, b = false) →
    tokensWith a cs items = tokensWith a [] items := by
  induction items with
  | nil => intro a cs _; cases cs <;> rfl
  | cons it r ih =>
    intro a cs h
    cases it with
    | tok s | docLine s | ident s => simp only [tokensWith]; rw [ih _ cs h]
    | optComma =>
      cases cs with
      | nil => rfl
      | cons c cs =>
        simp only [tokensWith, h c List.mem_cons_self, Bool.false_eq_true, if_false, List.nil_append]
        exact ih a cs fun b hb => h b (List.mem_cons_of_mem _ hb)
    | nl _ | sp | glue | op _ | cl _ => simp only [tokensWith]; exact ih a cs h

/-- `st` is the state the fold ends in, however the caller describes it -/
theorem render_toList (style seed : Nat) (items : List Item) {st : LState}
    (hst : st = items.foldl (renderItem style) { out := [], loc := ⟨1, 1⟩, lastEnd := ⟨1, 1⟩, pendingOpen := [],
                                                  opened := [], spans := [], rng := Rng.mk' seed, afterDoc := false }) :
    (render style seed items).1.toList = txt st ++ if st.afterDoc then ['\n'] else [] := by
  subst hst
  simp only [render]
  split
  · exact toList_nl ▸ txt_push _ _ "\n" rfl
  · exact (List.append_nil _).symm

/-- C02's `layout_independence_items`: `lex_lays` for the text `render` writes; `cs` are the choices its layout made at the
    optional commas, none in the canonical one. -/
theorem lex_render (style seed : Nat) (items : List Item) (h : itemsOk items = true) :
    ∃ cs : List Bool, (style = 0 → cs = []) ∧
      lexSlice (render style seed items).1.toList = .ok (tokensWith false cs items) := by
  let st0 : LState := { out := [], loc := ⟨1, 1⟩, lastEnd := ⟨1, 1⟩, pendingOpen := [], opened := [], spans := [],
                        rng := Rng.mk' seed, afterDoc := false }
  obtain ⟨cs, t, hl, hcs, ht⟩ := foldl_lays style items st0
  rw [render_toList style seed items (st := items.foldl (renderItem style) st0) rfl, ht,
    show txt st0 = [] by simp [txt, textOf, st0], List.nil_append, lex_lays h hl]
  -- the statement asks for no choices at all in the canonical layout, not for choices that are all `false`
  by_cases hs : style = 0
  · exact ⟨[], fun _ => rfl, by rw [tokensWith_false items false cs (hcs hs)]⟩
  · exact ⟨cs, fun e => absurd e hs, rfl⟩

theorem CommaExt.refl (l : List SliceTok) : CommaExt l l := by
  induction l with
  | nil => exact .nil
  | cons t l ih => exact .keep t ih

theorem CommaExt.append_left (p : List SliceTok) {l l' : List SliceTok} (h : CommaExt l l') : CommaExt (p ++ l) (p ++ l') := by
  induction p with
  | nil => exact h
  | cons t p ih => exact .keep t ih

theorem commaExt_tokensWith (items : List Item) : ∀ (a : Bool) (cs : List Bool),
    CommaExt (tokensWith a [] items) (tokensWith a cs items) := by
  induction items with
  | nil => intro a cs; cases cs <;> exact .nil
  | cons it r ih =>
    intro a cs
    cases it with
    | tok s | docLine s => simp only [tokensWith]; exact CommaExt.append_left _ (ih _ _)
    | ident s => simp only [tokensWith]; exact .keep _ (ih _ _)
    | optComma =>
      cases cs with
      | nil => simp only [tokensWith]; exact ih _ _
      | cons c cs =>
        simp only [tokensWith]
        cases c with
        | false => simpa using ih a cs
        | true => simpa using CommaExt.ins (ih a cs)
    | nl _ | sp | glue | op _ | cl _ => simp only [tokensWith]; exact ih _ _

theorem dropCommas_of_commaExt {l l' : List SliceTok} (h : CommaExt l l') : dropCommas l' = dropCommas l := by
  induction h with
  | nil => rfl
  | keep t _ ih => simp only [dropCommas, List.filter_cons] at ih ⊢; rw [ih]
  | ins _ ih => simp only [dropCommas, List.filter_cons] at ih ⊢; simpa using ih

end Slicec.SLex
