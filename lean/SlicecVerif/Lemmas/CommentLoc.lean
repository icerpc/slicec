/-
  C09: the located model of the comment lexer (Model/CommentLoc.lean), line by line, on one call of the lexer
  (Lemmas/CommentLocStep.lean). Forgetting the locations gives the lexer model of C16 (`lexCommentLoc_erase`). By
  induction over the line lexer: the tokens tile the line (`Tiled`) and the line ends in the zero-width `Newline` behind
  its last character (`LineShape`). Read off `Tiled`: the tokens of a line stand on its row in order, without overlap
  (`OrderedFrom`). Of the comment: its `Newline`s are those of the leading lines without error (`cleanLines`,
  `lexCommentLoc_newlines`), and what the parser lemmas need of the stream (`lexCommentLoc_nonempty`,
  `lexCommentLoc_nlTail`).
-/
import SlicecVerif.Lemmas.CommentLocStep

namespace Slicec.CLoc

open Slicec

theorem CLine.at_eq (l : CLine) (k : Nat) : l.at k = cadvN l.start k := rfl

theorem lexLineLoc_cons (fuel : Nat) (mode : LMode) (cur : Loc) (c : Char) (cs : Str) :
    lexLineLoc (fuel + 1) mode cur (c :: cs) =
      match stepLoc mode cur (c :: cs) with
      | .eol cur' => lexLineLoc fuel mode cur' []
      | .tok t m rest cur' => (lexLineLoc fuel m cur' rest).cons t
      | .err e => ⟨[], some e⟩ := by
  cases mode <;> rfl

theorem erase_cons (t : LCTok) (o : LLexOut) : (o.cons t).erase = (o.erase).cons t.tok := rfl

theorem lexLineLoc_erase (fuel : Nat) (mode : LMode) (cur : Loc) (cs : Str) :
    (lexLineLoc fuel mode cur cs).erase = lexLine fuel mode cs := by
  induction fuel generalizing mode cur cs with
  | zero => rfl
  | succ fuel ih =>
    cases cs with
    | nil => cases mode <;> rfl
    | cons c cs =>
      rw [lexLineLoc_cons, lexLine_cons, ← stepLoc_erase mode cur]
      cases stepLoc mode cur (c :: cs) with
      | eol cur' => exact ih _ _ _
      | tok t m rest cur' => simp only [LTagStep.erase, erase_cons, ih]
      | err e => rfl

theorem lexOneLineLoc_erase (l : CLine) : (lexOneLineLoc l).erase = lexOneLine l.text := lexLineLoc_erase _ _ _ _

theorem lexCommentLoc_erase (ls : List CLine) : (lexCommentLoc ls).erase = lexComment (ls.map (·.text)) := by
  induction ls with
  | nil => rfl
  | cons l ls ih =>
    simp only [lexCommentLoc, lexComment, List.map_cons, ← lexOneLineLoc_erase l, ← ih]
    cases he : (lexOneLineLoc l).err <;> simp [LLexOut.erase, he]

/-- the tokens (and the final error, if any) of a line tile the text `cs` that starts at cursor `cur`: every element
    begins after a run of whitespace `ws` behind its predecessor and covers exactly the characters `mid` it spells
    (one column per character) -/
def Tiled : Loc → Str → List LCTok → Option LCErr → Prop
  | _, _, [], none => True
  | cur, cs, [], some e => ∃ ws mid post, cs = ws ++ (mid ++ post) ∧ ws.all isWsC = true ∧
      e.start = cadvN cur ws.length ∧ e.stop = cadvN cur (ws.length + mid.length) ∧ cerrSpells e.err mid post
  | cur, cs, t :: ts, e => ∃ ws mid post, cs = ws ++ (mid ++ post) ∧ ws.all isWsC = true ∧
      t.start = cadvN cur ws.length ∧ t.stop = cadvN cur (ws.length + mid.length) ∧ cspells t.tok mid post ∧
      Tiled t.stop post ts e

theorem lexLineLoc_nil (fuel : Nat) (mode : LMode) (cur : Loc) :
    lexLineLoc (fuel + 1) mode cur [] =
      (if mode = .inlineTag then ⟨[], some ⟨cur, .unterminatedInlineTag, cur⟩⟩ else ⟨[⟨cur, .newline, cur⟩], none⟩) := by
  cases mode <;> rfl

theorem tiled_nil (fuel : Nat) (mode : LMode) (cur : Loc) (ws : Str) (h : ws.all isWsC = true) :
    Tiled cur ws (lexLineLoc (fuel + 1) mode (cadvN cur ws.length) []).toks
      (lexLineLoc (fuel + 1) mode (cadvN cur ws.length) []).err := by
  rw [lexLineLoc_nil]
  split
  · exact ⟨ws, [], [], by simp, h, rfl, by simp, ⟨rfl, rfl⟩⟩
  · exact ⟨ws, [], [], by simp, h, rfl, by simp, ⟨rfl, rfl⟩, trivial⟩

/-- the stream ends in a `Newline` if it is not empty: what keeps the parser from running out of tokens -/
def NlTail (toks : List LCTok) : Prop := ∀ t, toks.getLast? = some t → t.tok = .newline

def NoNl (pre : List LCTok) : Prop := ∀ t ∈ pre, t.tok ≠ .newline

theorem NoNl.nil : NoNl [] := fun _ ht => by cases ht

theorem NoNl.cons {t : LCTok} {pre : List LCTok} (ht : t.tok ≠ .newline) (h : NoNl pre) : NoNl (t :: pre) :=
  List.forall_mem_cons.mpr ⟨ht, h⟩

theorem NoNl.append {a b : List LCTok} (ha : NoNl a) (hb : NoNl b) : NoNl (a ++ b) :=
  List.forall_mem_append.mpr ⟨ha, hb⟩

theorem NlTail.suffix {rest toks : List LCTok} (h : rest <:+ toks) (hn : NlTail toks) : NlTail rest := by
  obtain ⟨pre, rfl⟩ := h
  intro t ht
  cases rest with
  | nil => cases ht
  | cons a r => exact hn t (by rw [List.getLast?_append, ht]; rfl)

theorem nl_contra {pre : List LCTok} (hne : pre ≠ []) (hno : NoNl pre) (hn : NlTail pre) : False :=
  hno _ (List.getLast_mem hne) (hn _ (List.getLast?_eq_some_getLast hne))

def nlAt (l : Loc) : LCTok := ⟨l, .newline, l⟩

def LineShape (endLoc : Loc) (o : LLexOut) : Prop :=
  match o.err with
  | none => ∃ init, o.toks = init ++ [nlAt endLoc] ∧ NoNl init
  | some _ => NoNl o.toks

theorem LineShape.cons {endLoc : Loc} {o : LLexOut} (t : LCTok) (ht : t.tok ≠ .newline) (h : LineShape endLoc o) :
    LineShape endLoc (o.cons t) := by
  obtain ⟨toks, _ | e⟩ := o
  · obtain ⟨init, rfl, h2⟩ := h
    exact ⟨t :: init, rfl, h2.cons ht⟩
  · exact NoNl.cons ht h

theorem lineShape_nil (fuel : Nat) (mode : LMode) (cur : Loc) : LineShape cur (lexLineLoc (fuel + 1) mode cur []) := by
  rw [lexLineLoc_nil]
  split
  · exact NoNl.nil
  · exact ⟨[], rfl, NoNl.nil⟩

/-- with more fuel than characters (`lexOneLineLoc` provides two more) the counter does not cut the line short -/
theorem lexLineLoc_spec (fuel : Nat) (mode : LMode) (cur : Loc) (cs : Str) :
    Tiled cur cs (lexLineLoc fuel mode cur cs).toks (lexLineLoc fuel mode cur cs).err ∧
    (cs.length < fuel → LineShape (cadvN cur cs.length) (lexLineLoc fuel mode cur cs)) := by
  induction fuel generalizing mode cur cs with
  | zero => exact ⟨trivial, fun hf => absurd hf (Nat.not_lt_zero _)⟩
  | succ fuel ih =>
    cases cs with
    | nil => exact ⟨tiled_nil fuel mode cur [] rfl, fun _ => lineShape_nil fuel mode cur⟩
    | cons c cs =>
      rw [lexLineLoc_cons]
      have hs := stepLoc_spec mode cur c cs
      generalize stepLoc mode cur (c :: cs) = r at hs ⊢
      cases r with
      | eol cur' =>
        obtain ⟨ha, rfl⟩ := hs
        cases fuel with
        | zero => exact ⟨trivial, fun hf => by simp at hf⟩
        | succ f => exact ⟨tiled_nil f mode cur _ ha, fun _ => lineShape_nil f mode _⟩
      | tok t m rest cur' =>
        obtain ⟨ws, mid, h1, h2, hne, h3, h4, h5, h6⟩ := hs
        refine ⟨⟨ws, mid, rest, h1, h2, h3, h4, h6, h5 ▸ (ih m cur' rest).1⟩, fun hf => ?_⟩
        have hlen : (c :: cs).length = ws.length + mid.length + rest.length := by
          rw [h1, List.length_append, List.length_append, Nat.add_assoc]
        have hmid : 0 < mid.length := List.length_pos_iff.mpr hne
        have hc : cur' = cadvN cur (ws.length + mid.length) := by rw [h5, h4]
        have := (ih m cur' rest).2 (by omega)
        rw [hc, cadvN_cadvN, ← hlen] at this
        -- a `Newline` spells the empty text, this token does not
        exact LineShape.cons _ (fun e => hne (by rw [e] at h6; exact h6.1)) (hc ▸ this)
      | err e => exact ⟨hs, fun _ => NoNl.nil⟩

theorem Tiled.drop {cur : Loc} {cs : Str} (a : List LCTok) {b : List LCTok} {e : Option LCErr} (h : Tiled cur cs (a ++ b) e) :
    ∃ pre post, cs = pre ++ post ∧ Tiled (cadvN cur pre.length) post b e := by
  induction a generalizing cur cs with
  | nil => exact ⟨[], cs, rfl, h⟩
  | cons t a ih =>
    obtain ⟨ws, mid, post, h1, _, _, h4, _, h6⟩ := h
    obtain ⟨pre', post', g1, g2⟩ := ih h6
    refine ⟨ws ++ mid ++ pre', post', by rw [h1, g1]; simp, ?_⟩
    rwa [h4, cadvN_cadvN, ← List.length_append, ← List.length_append] at g2

theorem Tiled.mem {cur : Loc} {cs : Str} {toks : List LCTok} {e : Option LCErr} (h : Tiled cur cs toks e) {t : LCTok} (ht : t ∈ toks) :
    ∃ pre mid post, cs = pre ++ (mid ++ post) ∧ t.start = cadvN cur pre.length ∧
      t.stop = cadvN cur (pre.length + mid.length) ∧ cspells t.tok mid post := by
  obtain ⟨a, b, rfl⟩ := List.append_of_mem ht
  obtain ⟨pre, _, rfl, ws, mid, post, rfl, _, h3, h4, h5, _⟩ := h.drop a
  exact ⟨pre ++ ws, mid, post, by simp, by rw [h3, cadvN_cadvN, List.length_append],
    by rw [h4, cadvN_cadvN, List.length_append, Nat.add_assoc], h5⟩

theorem Tiled.err_mem {cur : Loc} {cs : Str} {toks : List LCTok} {e : LCErr} (h : Tiled cur cs toks (some e)) :
    ∃ pre mid post, cs = pre ++ (mid ++ post) ∧ e.start = cadvN cur pre.length ∧
      e.stop = cadvN cur (pre.length + mid.length) ∧ cerrSpells e.err mid post := by
  rw [← List.append_nil toks] at h
  obtain ⟨pre, _, rfl, ws, mid, post, rfl, _, h3, h4, h5⟩ := h.drop toks
  exact ⟨pre ++ ws, mid, post, by simp, by rw [h3, cadvN_cadvN, List.length_append],
    by rw [h4, cadvN_cadvN, List.length_append, Nat.add_assoc], h5⟩

/-- on one row, in order, without overlap -/
def OrderedFrom (cur : Loc) : List LCTok → Option LCErr → Prop
  | [], none => True
  | [], some e => e.start.row = cur.row ∧ e.stop.row = cur.row ∧ cur.col ≤ e.start.col ∧ e.start.col ≤ e.stop.col
  | t :: ts, e => t.start.row = cur.row ∧ t.stop.row = cur.row ∧ cur.col ≤ t.start.col ∧ t.start.col ≤ t.stop.col ∧
      OrderedFrom t.stop ts e

theorem Tiled.ordered {cur : Loc} {cs : Str} {toks : List LCTok} {e : Option LCErr} (h : Tiled cur cs toks e) :
    OrderedFrom cur toks e := by
  induction toks generalizing cur cs with
  | nil =>
    cases e with
    | none => exact trivial
    | some e =>
      obtain ⟨ws, mid, post, _, _, h3, h4, _⟩ := h
      refine ⟨by rw [h3]; rfl, by rw [h4]; rfl, by rw [h3]; simp [cadvN], by rw [h3, h4]; simp [cadvN]⟩
  | cons t ts ih =>
    obtain ⟨ws, mid, post, _, _, h3, h4, _, h6⟩ := h
    refine ⟨by rw [h3]; rfl, by rw [h4]; rfl, by rw [h3]; simp [cadvN], by rw [h3, h4]; simp [cadvN], ih h6⟩

theorem OrderedFrom.mono {cur cur' : Loc} {toks : List LCTok} {e : Option LCErr} (h : OrderedFrom cur toks e)
    (hr : cur'.row = cur.row) (hc : cur'.col ≤ cur.col) : OrderedFrom cur' toks e := by
  cases toks with
  | nil =>
    cases e with
    | none => exact trivial
    | some e => obtain ⟨a, b, c, d⟩ := h; exact ⟨a.trans hr.symm, b.trans hr.symm, Nat.le_trans hc c, d⟩
  | cons t ts => obtain ⟨a, b, c, d, f⟩ := h; exact ⟨a.trans hr.symm, b.trans hr.symm, Nat.le_trans hc c, d, f⟩

theorem OrderedFrom.all {cur : Loc} {toks : List LCTok} {e : Option LCErr} (h : OrderedFrom cur toks e) :
    ∀ t ∈ toks, t.start.row = cur.row ∧ t.stop.row = cur.row ∧ cur.col ≤ t.start.col ∧ t.start.col ≤ t.stop.col := by
  induction toks generalizing cur with
  | nil => intro t ht; cases ht
  | cons t0 ts ih =>
    obtain ⟨a, b, c, d, f⟩ := h
    exact List.forall_mem_cons.mpr ⟨⟨a, b, c, d⟩, ih (f.mono b.symm (Nat.le_trans c d))⟩

theorem OrderedFrom.pairwise {cur : Loc} {toks : List LCTok} {e : Option LCErr} (h : OrderedFrom cur toks e) :
    toks.Pairwise (fun a b => a.stop.row = b.start.row ∧ a.stop.col ≤ b.start.col) := by
  induction toks generalizing cur with
  | nil => exact List.Pairwise.nil
  | cons t0 ts ih =>
    obtain ⟨_, _, _, _, f⟩ := h
    refine List.Pairwise.cons ?_ (ih f)
    intro b hb
    obtain ⟨a', _, c', _⟩ := f.all b hb
    exact ⟨a'.symm, c'⟩

theorem OrderedFrom.err_from {cur : Loc} {toks : List LCTok} {e : LCErr} (h : OrderedFrom cur toks (some e)) :
    e.start.row = cur.row ∧ cur.col ≤ e.start.col := by
  induction toks generalizing cur with
  | nil => exact ⟨h.1, h.2.2.1⟩
  | cons x xs ih =>
    obtain ⟨_, b, c, d, f⟩ := h
    exact ih (f.mono b.symm (Nat.le_trans c d))

theorem OrderedFrom.err_after {cur : Loc} {toks : List LCTok} {e : LCErr} (h : OrderedFrom cur toks (some e)) :
    ∀ t ∈ toks, t.stop.row = e.start.row ∧ t.stop.col ≤ e.start.col := by
  induction toks generalizing cur with
  | nil => intro t ht; cases ht
  | cons x xs ih =>
    obtain ⟨_, _, _, _, f⟩ := h
    exact List.forall_mem_cons.mpr ⟨⟨f.err_from.1.symm, f.err_from.2⟩, ih f⟩

theorem lexOneLineLoc_tiled (l : CLine) : Tiled l.start l.text (lexOneLineLoc l).toks (lexOneLineLoc l).err :=
  (lexLineLoc_spec _ _ _ _).1

theorem lexOneLineLoc_shape (l : CLine) : LineShape l.endLoc (lexOneLineLoc l) :=
  (lexLineLoc_spec _ _ _ _).2 (by omega)

theorem lexCommentLoc_tok_line (ls : List CLine) (t : LCTok) (ht : t ∈ (lexCommentLoc ls).toks) :
    ∃ l ∈ ls, t ∈ (lexOneLineLoc l).toks := by
  fun_induction lexCommentLoc ls with
  | case1 => cases ht
  | case2 l ls o e he => exact ⟨l, by simp, ht⟩
  | case3 l ls o he r ih =>
    rcases List.mem_append.mp ht with h | h
    · exact ⟨l, by simp, h⟩
    · obtain ⟨l', h1, h2⟩ := ih h; exact ⟨l', by simp [h1], h2⟩

theorem lexCommentLoc_err_line (ls : List CLine) (e : LCErr) (he : (lexCommentLoc ls).err = some e) :
    ∃ l ∈ ls, (lexOneLineLoc l).err = some e := by
  fun_induction lexCommentLoc ls with
  | case1 => cases he
  | case2 l ls o e' h => exact ⟨l, by simp, he⟩
  | case3 l ls o h r ih => obtain ⟨l', h1, h2⟩ := ih he; exact ⟨l', by simp [h1], h2⟩

def isNl (t : LCTok) : Bool := t.tok == .newline

/-- the number of leading lines that lex without error: the lines whose tokens the stream holds in full -/
def cleanLines : List CLine → Nat
  | [] => 0
  | l :: ls => match (lexOneLineLoc l).err with | some _ => 0 | none => cleanLines ls + 1

theorem filter_isNl_of_shape {endLoc : Loc} {o : LLexOut} (h : LineShape endLoc o) :
    o.toks.filter isNl = (match o.err with | none => [nlAt endLoc] | some _ => []) := by
  have nil {l : List LCTok} (hl : NoNl l) : l.filter isNl = [] :=
    List.filter_eq_nil_iff.mpr fun t ht => by simp [isNl, hl t ht]
  obtain ⟨toks, _ | e⟩ := o
  · obtain ⟨init, rfl, h2⟩ := h
    rw [List.filter_append, nil h2]
    rfl
  · exact nil h

theorem lexCommentLoc_newlines (ls : List CLine) :
    (lexCommentLoc ls).toks.filter isNl = (ls.take (cleanLines ls)).map (fun l => nlAt l.endLoc) := by
  induction ls with
  | nil => rfl
  | cons l ls ih =>
    have hs := filter_isNl_of_shape (lexOneLineLoc_shape l)
    simp only [lexCommentLoc, cleanLines]
    cases he : (lexOneLineLoc l).err with
    | some e => rw [he] at hs; simp only at hs ⊢; rw [hs]; rfl
    | none =>
      rw [he] at hs
      simp only [List.filter_append, hs, ih, List.take_succ_cons, List.map_cons]
      rfl

theorem lexCommentLoc_err_none_iff (ls : List CLine) : (lexCommentLoc ls).err = none ↔ cleanLines ls = ls.length := by
  induction ls with
  | nil => simp [lexCommentLoc, cleanLines]
  | cons l ls ih =>
    simp only [lexCommentLoc, cleanLines]
    cases he : (lexOneLineLoc l).err with
    | some e => simp [he]
    | none => simp [ih]

/-- a non-empty list of lines with an empty stream has a lexer error: without error there is a `Newline` per line -/
theorem lexCommentLoc_nonempty (l0 : CLine) (ls : List CLine) (h : (lexCommentLoc (l0 :: ls)).toks = []) :
    (lexCommentLoc (l0 :: ls)).err ≠ none := by
  intro he
  have hn := lexCommentLoc_newlines (l0 :: ls)
  rw [h, (lexCommentLoc_err_none_iff _).mp he, List.take_length] at hn
  cases hn

theorem lexCommentLoc_nlTail (ls : List CLine) (h : (lexCommentLoc ls).err = none) : NlTail (lexCommentLoc ls).toks := by
  fun_induction lexCommentLoc ls with
  | case1 => intro t ht; cases ht
  | case2 l ls o e he => rw [he] at h; cases h
  | case3 l ls o he r ih =>
    obtain ⟨init, h1, _⟩ : LineShape l.endLoc ⟨o.toks, none⟩ := he ▸ lexOneLineLoc_shape l
    intro t ht
    rw [List.getLast?_append] at ht
    cases hq : r.toks.getLast? with
    | some q => rw [hq] at ht; cases ht; exact ih h t hq
    | none => rw [hq, h1, List.getLast?_concat] at ht; cases ht; rfl

end Slicec.CLoc
