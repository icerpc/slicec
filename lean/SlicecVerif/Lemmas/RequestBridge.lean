/-
  C08 — the bridge from "the program is accepted by the compiler model" (`validate P = []`, Model/Validate.lean: parse-time
  checks, attribute patching, C03's resolution codes, the containment-cycle gate, the redefinition scan, the validating visitor)
  to the
  guard `AllResolve` (Lemmas/RequestContent.lean) of `named_ids_exist` / `resolved_links_exist` / `content_faithful_decoded`
  (Props/C08.lean). Acceptance does not bound the converter's descent: `elabFuel` is a constant of the model that accepted
  programs can exceed, so the bound is an explicit decidable hypothesis (`DescentWithin`). It follows from C05's alias gate
  (`Cyc.aliasGateErrors`, Model/Cycles.lean — NOT a phase of `validate`) and a syntactic size condition
  (`descentWithin_of_gate`). `C08Demo`: the two-file program of Props/C08.lean is accepted; programs that show each hypothesis
  is needed.
-/
import SlicecVerif.Lemmas.RequestContent
import SlicecVerif.Lemmas.Accepted

namespace Slicec

theorem resolveNamed_interface_node (t : Table) (id scope : String) (v : Target × List Attr)
    (h : resolveNamed t .interface id scope = .ok v) : ∃ n extra, v = (.node n, extra) := by
  obtain ⟨tgt, extra⟩ := v
  cases tgt with
  | node n => exact ⟨n, extra, rfl⟩
  | expr e s =>
    have hk : acceptableExpr .interface e = true := (resolveNamed_ok h).2
    cases e <;> cases hk

theorem tyResolves_succ (t : Table) (scope : String) (fuel : Nat) {e : TyExpr} (hne : ∀ x, e ≠ .named x) :
    tyResolves t scope (fuel + 1) e = e.kids.all (trefResolves t scope fuel) := by
  cases e with
  | named x => exact absurd rfl (hne x)
  | _ => simp only [tyResolves, TyExpr.kids, List.all_cons, List.all_nil, Bool.and_true]

theorem trefResolves_succ (t : Table) (scope : String) (fuel : Nat) (r : TRef) :
    trefResolves t scope (fuel + 1) r = true ↔
      (∀ id, r.ty = .named id → ∃ v, resolveNamed t .type id scope = .ok v) ∧
      ∀ s e, r.flat t scope = some (s, e) → tyResolves t s fuel e = true := by
  obtain ⟨a, ty, o⟩ := r
  cases ty with
  | named id =>
    simp only [trefResolves, TRef.flat, TRef.ty, TyExpr.named.injEq, forall_eq']
    rcases resolveNamed t .type id scope with _ | ⟨_ | _, _⟩ <;> simp
  | _ =>
    simp only [trefResolves]
    exact ⟨fun h => ⟨nofun, fun _ _ hf => by cases hf; exact h⟩, fun h => h.2 _ _ rfl⟩

theorem resolves_of_within (p : Program)
    (hP : ∀ f ∈ p, ∀ d ∈ f.defs, RefsOK (buildTable p) f.modPath ((Validate.defVisitedTRefs d).flatMap Validate.subRefsT)) :
    ∀ fuel : Nat,
    (∀ (scope : String) (r : TRef), RefsOK (buildTable p) scope (Validate.subRefsT r) →
      trefWithin (buildTable p) scope fuel r = true → trefResolves (buildTable p) scope fuel r = true) ∧
    (∀ (scope : String) (e : TyExpr), (∀ x, e ≠ .named x) → RefsOK (buildTable p) scope (Validate.subRefsE e) →
      tyWithin (buildTable p) scope fuel e = true → tyResolves (buildTable p) scope fuel e = true) := by
  intro fuel
  induction fuel with
  | zero => exact ⟨fun _ _ _ => nofun, fun _ _ _ _ => nofun⟩
  | succ fuel ih =>
    obtain ⟨ihT, ihE⟩ := ih
    constructor
    · intro scope r hok hw
      rw [trefWithin_succ] at hw
      rw [trefResolves_succ]
      exact ⟨hok r (mem_subRefsT_self r), fun s e hf => ihE s e (TRef.flat_not_named hf) (SitesResolve.flat hP hok hf) (hw s e hf)⟩
    · intro scope e hne hok hw
      rw [tyWithin_succ, List.all_eq_true] at hw
      rw [tyResolves_succ _ _ _ hne, List.all_eq_true]
      exact fun r hr => ihT scope r (hok.sub (subRefsE_kids e r hr)) (hw r hr)

/-- what the abstract syntax must share with a parsed file beyond what `validate` looks at: a module declaration names a
    module (the grammar demands an identifier), and every base of an interface is written as a name. (A base written as a
    keyword or an anonymous type is reported by the PARSER — `construct_interface`, `report_type_mismatch`, E017 — and
    dropped; the parse-time checks of `validate` do not include that diagnostic, so it has to be asked for here.) -/
def fileShaped (f : SFile) : Bool :=
  (match f.module with | some m => !m.path.isEmpty | none => true) &&
  f.defs.all fun d =>
    match d with
    | .iface _ _ _ bases _ => bases.all fun b => match b.ty with | .named _ => true | _ => false
    | _ => true

def ParserShaped (P : Program) : Bool := P.all fileShaped

/-- on every type reference written in a visited position of a definition the fuel `elabFuel` of the converter model is not
    exhausted: the type with aliases replaced by their targets nests at most 31 anonymous types -/
def DescentWithin (P : Program) : Bool :=
  P.all fun f => f.defs.all fun d => (Validate.defVisitedTRefs d).all (trefWithin (buildTable P) f.modPath elabFuel)

theorem mem_visited_field {d : Def} {fs : List Field} {fl : Field} (h : fs ∈ Validate.defFieldLists d) (hfl : fl ∈ fs) :
    fl.ty ∈ Validate.defVisitedTRefs d :=
  List.mem_append_left _ (List.mem_append_left _ (List.mem_flatMap.mpr ⟨fs, h, List.mem_map_of_mem hfl⟩))

theorem mem_visited_param {d : Def} {ps : List Param} {q : Param} (h : ps ∈ Validate.defParamLists d) (hq : q ∈ ps) :
    q.ty ∈ Validate.defVisitedTRefs d :=
  List.mem_append_left _ (List.mem_append_right _ (List.mem_flatMap.mpr ⟨ps, h, List.mem_map_of_mem hq⟩))

theorem allResolve_of_accepted (fs : List ReqFile) (hacc : validate (programOf fs) = [])
    (hshape : ParserShaped (programOf fs) = true) (hdepth : DescentWithin (programOf fs) = true) : AllResolve fs = true := by
  unfold AllResolve
  rw [List.all_eq_true]
  intro f hf
  obtain ⟨hsm, hsb⟩ := Bool.and_eq_true_iff.mp (List.all_eq_true.mp hshape f hf)
  unfold fileResolves
  cases hm : f.module with
  | none =>
    simp only
    rw [accepted_moduleRequired _ hacc f hf hm]; rfl
  | some m =>
    simp only
    rw [hm] at hsm
    rw [Bool.and_eq_true]
    refine ⟨hsm, ?_⟩
    rw [List.all_eq_true]
    intro d hd
    rw [← modPath_of_module f m hm]
    have hP := accepted_refsOK (programOf fs) hacc
    -- the one step with content: every reference the visitor reaches in `d` converts without fallback.
    -- The `cases d` after it only matches `defResolves`, kind by kind, against `defVisitedTRefs`.
    have hres : ∀ r ∈ Validate.defVisitedTRefs d, trefResolves (buildTable (programOf fs)) f.modPath elabFuel r = true := by
      intro r hr
      have hw := List.all_eq_true.mp (List.all_eq_true.mp (List.all_eq_true.mp hdepth f hf) d hd) r hr
      exact (resolves_of_within (programOf fs) hP elabFuel).1 f.modPath r
        ((hP f hf d hd).sub fun x hx => List.mem_flatMap.mpr ⟨r, hr, hx⟩) hw
    cases d with
    | struct doc attrs compact name fields =>
      simp only [defResolves, fieldsResolve, List.all_eq_true]
      exact fun fl hfl => hres fl.ty (mem_visited_field (.head _) hfl)
    | iface doc attrs name bases ops =>
      simp only [defResolves, Bool.and_eq_true, List.all_eq_true]
      constructor
      · intro b hb
        have hbn := List.all_eq_true.mp ((List.all_eq_true.mp hsb) _ hd) b hb
        unfold baseResolves
        cases hty : b.ty with
        | named id =>
          obtain ⟨v, hv⟩ := accepted_basesOK (programOf fs) hacc f hf doc attrs name bases ops hd b hb id hty
          obtain ⟨n, extra, rfl⟩ := resolveNamed_interface_node _ _ _ _ hv
          simp only [hv]
        | _ => rw [hty] at hbn; cases hbn
      · intro o ho
        simp only [opResolves, paramsResolve, Bool.and_eq_true, List.all_eq_true]
        exact ⟨fun q hq => hres q.ty (mem_visited_param (List.mem_flatMap.mpr ⟨o, ho, .head _⟩) hq),
          fun q hq => hres q.ty (mem_visited_param (List.mem_flatMap.mpr ⟨o, ho, .tail _ (.head _)⟩) hq)⟩
    | «enum» doc attrs compact unchecked name underlying es =>
      simp only [defResolves, Bool.or_eq_true, List.all_eq_true]
      right
      intro e he
      simp only [fieldsResolve, List.all_eq_true]
      exact fun fl hfl => hres fl.ty (mem_visited_field (List.mem_map.mpr ⟨e, he, rfl⟩) hfl)
    | custom doc attrs name => rfl
    | alias doc attrs name ty => exact hres ty (List.mem_append_right _ (.head _))

/-- acceptance alone gives what `resolved_link_entity` needs of the guard: no definition outside a module -/
theorem resolved_link_entity_accepted (fs : List ReqFile) (hacc : validate (programOf fs) = []) (selfKey id : String)
    (n : NodeInfo) (hf : findNodeWithScope (buildTable (programOf fs)) id selfKey = some n)
    (hk : n.kind ≠ .module ∧ n.kind ≠ .parameter ∧ n.kind ≠ .primitive) :
    convLink (buildTable (programOf fs)) selfKey id = sb n.key ∧
    ∃ rf ∈ transmitted fs, EntityOf rf.file n.key n.kind n.ident :=
  resolved_link_entity_of_modules fs (fun rf hrf d hd => by
    cases hm : rf.file.module with
    | none =>
      rw [accepted_moduleRequired _ hacc rf.file (List.mem_map.mpr ⟨rf, hrf, rfl⟩) hm] at hd
      cases hd
    | some m => rfl) selfKey id n hf hk

/-- the list of compiled files the driver builds from a program: file `i` with the path the command line gave it, a source
    file unless `i` is one of the reference files (Drv/C08.lean `reqFiles`, harness/src/proj_c08.rs) -/
def reqFilesOf (pathOf : Nat → String) (refs : List Nat) (P : Program) : List ReqFile :=
  P.zipIdx.map fun (f, i) => { path := pathOf i, isSource := !refs.contains i, file := f }

theorem programOf_reqFilesOf (pathOf : Nat → String) (refs : List Nat) (P : Program) :
    programOf (reqFilesOf pathOf refs P) = P := by
  unfold programOf reqFilesOf
  rw [List.map_map]
  exact List.zipIdx_map_fst 0 P

theorem accepted_gate_within (P : Program) (hacc : validate P = []) (hgate : Cyc.aliasGateErrors P = []) (scope : String)
    (r : TRef) : trefWithin (buildTable P) scope (2 * r.nesting + 2 * anonCount P + 5) r = true := by
  refine within_of_gate P (accepted_aliasKeys_nodup P hacc) hgate scope r _ ?_
  simp only [gateFuel, gGraph_length, gNodes_length]
  omega

/-- purely syntactic (no resolution involved): the bound of `accepted_gate_within` stays within the converter model's `elabFuel` -/
def NestingSmall (P : Program) : Bool :=
  P.all fun f => f.defs.all fun d =>
    (Validate.defVisitedTRefs d).all fun r => decide (2 * r.nesting + 2 * anonCount P + 5 ≤ elabFuel)

theorem descentWithin_of_gate (P : Program) (hacc : validate P = []) (hgate : Cyc.aliasGateErrors P = [])
    (hsmall : NestingSmall P = true) : DescentWithin P = true := by
  simp only [NestingSmall, DescentWithin, List.all_eq_true, decide_eq_true_eq] at hsmall ⊢
  exact fun f hf d hd r hr => (within_mono _ _ _ (hsmall f hf d hd r hr)).1 _ _ (accepted_gate_within P hacc hgate f.modPath r)

end Slicec

namespace Slicec.C08Demo
open Slicec

/-- `String.splitOn` is defined by well-founded recursion on byte positions and does not evaluate in the kernel; `simp` rewrites
    with its equations and decides the tests on the positions -/
theorem split_cs :
    "cs::ns".splitOn "::" = ["cs", "ns"] ∧ "cs::t".splitOn "::" = ["cs", "t"] ∧ "cs::u".splitOn "::" = ["cs", "u"] := by
  simp +decide [String.splitOn, String.splitOnAux]

theorem patch_foreign (d : String) (args : List String) (p q : String) (rest : List String)
    (hrow : Validate.attrRow d = none) (hs : d.splitOn "::" = p :: q :: rest) (hp : (p == Gen.attributePrefix) = false) :
    Validate.patchAttrCheck ⟨d, args⟩ = [] := by
  unfold Validate.patchAttrCheck
  simp only [hrow]
  unfold Validate.directivePrefix
  rw [hs]
  simp only [hp]
  rfl

theorem demo_attrs : Validate.attrPatchRule.codes (programOf files) = [] := by
  show ((programOf files).flatMap Validate.fileAllAttrs).flatMap Validate.patchAttrCheck = []
  have h : (programOf files).flatMap Validate.fileAllAttrs = [⟨"cs::ns", ["X"]⟩, ⟨"cs::t", []⟩, ⟨"cs::u", []⟩] := by decide +kernel
  rw [h]
  simp only [List.flatMap_cons, List.flatMap_nil, List.append_nil]
  rw [patch_foreign "cs::ns" ["X"] "cs" "ns" [] (by decide) split_cs.1 (by decide),
      patch_foreign "cs::t" [] "cs" "t" [] (by decide) split_cs.2.1 (by decide),
      patch_foreign "cs::u" [] "cs" "u" [] (by decide) split_cs.2.2 (by decide)]
  rfl

/-- attribute patching is `demo_attrs` (it splits directives with `String.splitOn`); the other five phases are evaluated by
    the kernel -/
theorem demo_accepted : validate (programOf files) = [] := by
  rw [validate, Validate.firstNonEmpty_nil_iff, Validate.phases, demo_attrs]
  decide +kernel

theorem demo_shaped : ParserShaped (programOf files) = true := by decide

theorem demo_within : DescentWithin (programOf files) = true := by decide +kernel

/-- C05's alias gate is silent on it, and it is small: the descent bound also follows from `descentWithin_of_gate` -/
theorem demo_gate : Cyc.aliasGateErrors (programOf files) = [] := by decide +kernel

theorem demo_small : NestingSmall (programOf files) = true := by decide +kernel

def nestSeq : Nat → TRef
  | 0 => .mk [] (.prim .bool) false
  | n + 1 => .mk [] (.seq (nestSeq n)) false

/-- `module M  struct S { x: Sequence<Sequence<…<bool>…>> }` with 32 nested sequences: a legal Slice program -/
def deepFile : SFile :=
  { fileAttrs := [], module := some ⟨[], "M"⟩, defs := [.struct [] [] false "S" [⟨[], [], none, "x", nestSeq 32⟩]] }
def deep : List ReqFile := [⟨"a.slice", true, deepFile⟩]

/-- the descent of the converter MODEL (`elabFuel = 64` = 2·31 + 2) is exhausted on it: the descent bound is a constant of the
    model, not a consequence of acceptance -/
theorem deep_accepted_not_within :
    validate (programOf deep) = [] ∧ ParserShaped (programOf deep) = true ∧ DescentWithin (programOf deep) = false ∧
    AllResolve deep = false ∧
    trefWithin (buildTable (programOf deep)) "M" elabFuel (nestSeq 31) = true := by
  refine ⟨by decide +kernel, by decide, by decide +kernel, by decide +kernel, by decide +kernel⟩

/-- `module M  typealias A = Sequence<A>`: the patcher binds the element reference to the very sequence that contains it;
    the real compiler rejects the program in the alias gate of `detect_cycles` (E019, C05's `aliasGateErrors`), which is NOT
    one of the phases of `validate`. The program is C04's witness `aliasLoop`; what the two pipelines say of it is evaluated there -/
def aliasLoopFile : SFile :=
  { fileAttrs := [], module := some ⟨[], "M"⟩,
    defs := [.alias [] [] "A" (.mk [] (.seq (.mk [] (.named "A") false)) false)] }
def aliasLoop : List ReqFile := [⟨"a.slice", true, aliasLoopFile⟩]

theorem aliasLoop_accepted_not_within :
    validate (programOf aliasLoop) = [] ∧ ParserShaped (programOf aliasLoop) = true ∧
    Cyc.aliasGateErrors (programOf aliasLoop) = ["M::A"] ∧
    DescentWithin (programOf aliasLoop) = false ∧ AllResolve aliasLoop = false := by
  refine ⟨C04.aliasLoop_rejected.1, by decide, by decide +kernel, by decide +kernel, by decide +kernel⟩

/-- `module M  interface I : bool {}`: the parser reports the base (E017, `construct_interface`) and drops it; `validate`
    has no such parse-time check (C04's witness `primitiveBase`) -/
def primBaseFile : SFile :=
  { fileAttrs := [], module := some ⟨[], "M"⟩, defs := [.iface [] [] "I" [.mk [] (.prim .bool) false] []] }
def primBase : List ReqFile := [⟨"a.slice", true, primBaseFile⟩]

/-- a module declaration without a name cannot be written, but the abstract syntax has it: `module ⟨⟩  struct S {}` -/
def noNameFile : SFile := { fileAttrs := [], module := some ⟨[], ""⟩, defs := [.struct [] [] false "S" []] }
def noName : List ReqFile := [⟨"a.slice", true, noNameFile⟩]

theorem shape_needed :
    (validate (programOf primBase) = [] ∧ DescentWithin (programOf primBase) = true ∧ ParserShaped (programOf primBase) = false ∧
      AllResolve primBase = false) ∧
    (validate (programOf noName) = [] ∧ DescentWithin (programOf noName) = true ∧ ParserShaped (programOf noName) = false ∧
      AllResolve noName = false) := by
  refine ⟨⟨C04.primitiveBase_rejected.1, by decide +kernel, by decide, by decide +kernel⟩,
          ⟨by decide +kernel, by decide +kernel, by decide, by decide +kernel⟩⟩

end Slicec.C08Demo
