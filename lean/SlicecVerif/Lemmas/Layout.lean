/-
  The printer of Model/Print.lean keeps its cursor and its recorded spans in step with the text it has written
  (`LInv`, C09): the cursor is where `advanceStr` gets from ⟨1, 1⟩ over the text, and every recorded location lies at or
  before the end of the last token, itself at or before the cursor (starts count from 1). What the printer's random
  choices come to, without the generator (`renderItem_ident`, `renderItem_optComma`, `emitGap_choice`), also serves the
  lexer proofs of C02, which read that text back.
-/
import SlicecVerif.Model.Print
namespace Slicec

theorem advanceStr_append (l : Loc) (a b : String) : advanceStr l (a ++ b) = advanceStr (advanceStr l a) b := by
  simp [advanceStr, String.toList_append, List.foldl_append]

def Loc.le (a b : Loc) : Prop := a.row < b.row ∨ (a.row = b.row ∧ a.col ≤ b.col)

def Loc.pos (l : Loc) : Prop := 1 ≤ l.row ∧ 1 ≤ l.col

theorem Loc.le_refl (a : Loc) : a.le a := Or.inr ⟨rfl, Nat.le_refl _⟩
theorem Loc.le_trans {a b c : Loc} (h1 : a.le b) (h2 : b.le c) : a.le c := by
  unfold Loc.le at *; omega

theorem advance_le (l : Loc) (c : Char) : l.le (advance l c) := by
  unfold advance Loc.le; split <;> simp

theorem advance_pos (l : Loc) (c : Char) (h : l.pos) : (advance l c).pos := by
  unfold Loc.pos at *; unfold advance; split <;> simp <;> omega

theorem foldl_advance_le (cs : List Char) (l : Loc) : l.le (cs.foldl advance l) := by
  induction cs generalizing l with
  | nil => exact Loc.le_refl l
  | cons c cs ih => exact Loc.le_trans (advance_le l c) (ih _)

theorem foldl_advance_pos (cs : List Char) (l : Loc) (h : l.pos) : (cs.foldl advance l).pos := by
  induction cs generalizing l with
  | nil => exact h
  | cons c cs ih => exact ih _ (advance_pos l c h)

theorem advanceStr_le (l : Loc) (s : String) : l.le (advanceStr l s) := foldl_advance_le _ l
theorem advanceStr_pos (l : Loc) (s : String) (h : l.pos) : (advanceStr l s).pos := foldl_advance_pos _ l h

def textOf (st : LState) : String := String.join st.out.reverse

theorem textOf_push (st : LState) (txt : String) (st' : LState) (h : st'.out = txt :: st.out) :
    textOf st' = textOf st ++ txt := by
  simp [textOf, h]

structure LInv (st : LState) : Prop where
  loc : st.loc = advanceStr ⟨1, 1⟩ (textOf st)
  lastEnd_le : st.lastEnd.le st.loc
  lastEnd_pos : st.lastEnd.pos
  opened_ok : ∀ e ∈ st.opened, e.2.le st.lastEnd ∧ e.2.pos
  spans_ok : ∀ s ∈ st.spans, s.start.le s.stop ∧ s.start.pos ∧ s.stop.le st.lastEnd

theorem loc_pos_of_inv {st : LState} (h : LInv st) : st.loc.pos := by
  rw [h.loc]; exact advanceStr_pos _ _ ⟨Nat.le_refl _, Nat.le_refl _⟩

theorem gap_inv (st : LState) (txt : String) (rng : Rng) (h : LInv st) :
    LInv { st with out := txt :: st.out, loc := advanceStr st.loc txt, rng := rng } := by
  refine ⟨?_, ?_, h.lastEnd_pos, h.opened_ok, h.spans_ok⟩
  · rw [textOf_push st txt _ rfl, advanceStr_append, ← h.loc]
  · exact Loc.le_trans h.lastEnd_le (advanceStr_le _ _)

theorem emitGap_inv (style : Nat) (st : LState) (canon : String) (m : Bool) (h : LInv st) :
    LInv (emitGap style st canon m) := by
  unfold emitGap
  exact gap_inv st _ _ h

theorem emitTok_inv (st : LState) (s : String) (d : Bool) (h : LInv st) : LInv (emitTok st s d) := by
  unfold emitTok
  have hp := loc_pos_of_inv h
  refine ⟨?_, Loc.le_refl _, advanceStr_pos _ _ hp, ?_, ?_⟩
  · rw [textOf_push st s _ rfl, advanceStr_append, ← h.loc]
  · intro e he
    simp only [List.mem_append, List.mem_map] at he
    rcases he with ⟨p, _, rfl⟩ | he
    · exact ⟨advanceStr_le _ _, hp⟩
    · exact ⟨Loc.le_trans (h.opened_ok e he).1 (Loc.le_trans h.lastEnd_le (advanceStr_le _ _)), (h.opened_ok e he).2⟩
  · intro sp hsp
    obtain ⟨a, b, c⟩ := h.spans_ok sp hsp
    exact ⟨a, b, Loc.le_trans c (Loc.le_trans h.lastEnd_le (advanceStr_le _ _))⟩

theorem closeSpan_inv (st : LState) (p : String) (h : LInv st) : LInv (closeSpan st p) := by
  unfold closeSpan
  split
  · rename_i q s hf
    have hm := List.mem_of_find?_eq_some hf
    refine ⟨h.loc, h.lastEnd_le, h.lastEnd_pos, ?_, ?_⟩
    · intro e he
      exact h.opened_ok e (List.mem_filter.mp he).1
    · intro sp hsp
      simp only [List.mem_cons] at hsp
      rcases hsp with rfl | hsp
      · exact ⟨(h.opened_ok _ hm).1, (h.opened_ok _ hm).2, Loc.le_refl _⟩
      · exact h.spans_ok sp hsp
  · exact h

theorem renderItem_ident (style : Nat) (st : LState) (s : String) :
    ∃ (rng : Rng) (esc : Bool), (keywords.contains s = true → esc = true) ∧
      renderItem style st (.ident s) = emitTok { st with rng := rng } (if esc then "\\" ++ s else s) false := by
  by_cases hk : keywords.contains s = true
  · exact ⟨st.rng, true, fun _ => rfl, by simp only [renderItem, hk, if_true]⟩
  · by_cases h0 : (style == 0) = true
    · exact ⟨st.rng, false, fun h => absurd h hk, by simp only [renderItem, hk, h0, if_true, Bool.false_eq_true, if_false]⟩
    · exact ⟨(st.rng.below 5).2, (st.rng.below 5).1 == 0, fun h => absurd h hk,
        by simp only [renderItem, hk, h0, Bool.false_eq_true, if_false]⟩

theorem renderItem_optComma (style : Nat) (st : LState) :
    ∃ rng : Rng, renderItem style st .optComma = { st with rng := rng } ∨
      (style ≠ 0 ∧ renderItem style st .optComma = emitTok { st with rng := rng } "," false) := by
  by_cases h0 : (style == 0) = true
  · exact ⟨st.rng, Or.inl (by simp only [renderItem, h0, if_true])⟩
  · refine ⟨(st.rng.below 2).2, ?_⟩
    cases hc : (st.rng.below 2).1 == 0
    · exact Or.inr ⟨by simpa using h0, by simp only [renderItem, h0, hc, Bool.false_eq_true, if_false]⟩
    · exact Or.inl (by simp only [renderItem, h0, hc, Bool.false_eq_true, if_false, if_true])

theorem pick_mem {α : Type} [Inhabited α] (r : Rng) (xs : List α) (h : xs ≠ []) : (r.pick xs).1 ∈ xs := by
  have hl : 0 < xs.length := List.length_pos_iff.mpr h
  simp only [Rng.pick, Rng.below]
  have hi : (if (xs.length == 0) = true then 0 else r.next.1.toNat % xs.length) < xs.length := by
    split
    · exact hl
    · exact Nat.mod_lt _ hl
  generalize (if (xs.length == 0) = true then 0 else r.next.1.toNat % xs.length) = i at hi
  rw [List.getD_eq_getElem?_getD, List.getElem?_eq_getElem hi]
  exact List.getElem_mem hi

theorem emitGap_choice (style : Nat) (st : LState) (canon : String) (mand : Bool) :
    ∃ (t : String) (rng : Rng),
      (t = canon ∨ (mand = false ∧ st.afterDoc = false ∧ t = "") ∨
        ∃ g ∈ gapCatalogue, t = if st.afterDoc then "\n" ++ g else g) ∧
      emitGap style st canon mand =
        { st with out := (if st.afterDoc && !(t.startsWith "\n") && !(t.startsWith "\r\n") then "\n" ++ t else t) :: st.out,
                  loc := advanceStr st.loc (if st.afterDoc && !(t.startsWith "\n") && !(t.startsWith "\r\n") then "\n" ++ t else t),
                  rng := rng } := by
  by_cases h0 : (style == 0) = true
  · exact ⟨canon, st.rng, .inl rfl, by simp only [emitGap, h0, if_true]⟩
  · by_cases h1 : ((st.rng.below 4).1 == 0 && !mand && !st.afterDoc) = true
    · have h := h1
      simp only [Bool.and_eq_true, Bool.not_eq_true'] at h
      exact ⟨"", (st.rng.below 4).2, .inr (.inl ⟨h.1.2, h.2, rfl⟩),
        by simp only [emitGap, h0, h1, Bool.false_eq_true, if_false, if_true]⟩
    · exact ⟨_, ((st.rng.below 4).2.pick gapCatalogue).2, .inr (.inr ⟨_, pick_mem _ _ (by decide), rfl⟩),
        by simp only [emitGap, h0, h1, Bool.false_eq_true, if_false]; rfl⟩

theorem renderItem_inv (style : Nat) (st : LState) (it : Item) (h : LInv st) : LInv (renderItem style st it) := by
  cases it with
  | tok s => exact emitTok_inv st s false h
  | docLine s => exact emitTok_inv st _ true h
  | ident s =>
    obtain ⟨rng, esc, _, hren⟩ := renderItem_ident style st s
    -- no field of `LInv` reads `rng` or `pendingOpen`: `{ h with }` carries `h` to the state that differs in them
    exact hren ▸ emitTok_inv _ _ _ { h with }
  | optComma =>
    obtain ⟨rng, hren | ⟨_, hren⟩⟩ := renderItem_optComma style st
    · exact hren ▸ { h with }
    · exact hren ▸ emitTok_inv _ _ _ { h with }
  | op p => exact { h with }
  | cl p => exact closeSpan_inv st p h
  | _ => exact emitGap_inv _ _ _ _ h

theorem foldl_renderItem_inv (style : Nat) (items : List Item) (st : LState) (h : LInv st) :
    LInv (items.foldl (renderItem style) st) :=
  List.foldlRecOn items (renderItem style) h fun st hst it _ => renderItem_inv style st it hst

end Slicec
