/-
  What the printer writes for the leaves of the syntax (keywords of primitive types, integer literals, quoted attribute
  arguments), as text and as the lexer reads it on its own (C02).
-/
import SlicecVerif.Lemmas.SliceLexer

namespace Slicec.SLex

open Slicec

theorem prim_kw_ident (p : Prim) : isIdentText p.kw.toList = true := by cases p <;> decide +kernel

def isIntText (cs : List Char) : Bool :=
  match cs with
  | [] => false
  | c :: r => c.isDigit && r.all isWordChar

theorem lexRun_int (a : Bool) (w : List Char) (h : isIntText w = true) : lexRun a w = ⟨[.tok (.intLit w)], a, .word⟩ := by
  cases w with
  | nil => simp [isIntText] at h
  | cons c cs =>
    simp only [isIntText, Bool.and_eq_true] at h
    exact lexRun_one (res := .tok (.intLit (c :: cs)))
      (by rw [lexNext_digit a c cs h.1, lexInteger, takeWhile_of_all h.2, dropWhile_eq_nil_iff.mpr h.2])

/-- the printer's escaping of a string argument, on characters -/
def escL (x : List Char) : List Char := x.flatMap fun c => if c == '"' || c == '\\' then ['\\', c] else [c]

theorem readString_escL (x rest : List Char) (h : x.all (· != '\n') = true) :
    readString false (escL x ++ '"' :: rest) = (some (escL x), rest) := by
  induction x with
  | nil => simp [escL, readString]
  | cons c x ih =>
    rw [List.all_cons, Bool.and_eq_true] at h
    have hn : (c == '\n') = false := by simpa using h.1
    have e : escL (c :: x) = (if c == '"' || c == '\\' then ['\\', c] else [c]) ++ escL x := rfl
    rw [e]
    cases hq : (c == '"' || c == '\\')
    · rw [Bool.or_eq_false_iff] at hq
      simp [readString, hn, hq.1, hq.2, ih h.2]
    · -- a quote or backslash was written after a backslash, and `readString` takes the two together
      simp [readString, hn, ih h.2]

theorem lexRun_quoted (a : Bool) (x : List Char) (h : x.contains '\n' = false) :
    lexRun a ('"' :: (escL x ++ ['"'])) = ⟨[.tok (.strLit (escL x))], a, .closed⟩ := by
  refine lexRun_one (res := .tok (.strLit (escL x))) ?_
  show lexString a _ = _
  simp only [lexString, readString_escL x [] (by rw [List.all_bne', h]; rfl)]

theorem quoted_toList (x : String) : ("\"" ++ escapeStrLit x ++ "\"").toList = '"' :: (escL x.toList ++ ['"']) := by
  have e := toList_quote
  simp only [String.toList_append, e, escapeStrLit, String.toList_ofList, escL]
  rfl

theorem natDigits_mem (b fuel n : Nat) (hb : 0 < b) : ∀ c ∈ natDigits b fuel n, ∃ d, d < b ∧ c = digitChar d := by
  fun_induction natDigits b fuel n with
  | case1 => exact fun _ h => nomatch h
  | case2 fuel n hlt => exact fun c hc => ⟨n, hlt, List.mem_singleton.mp hc⟩
  | case3 fuel n hlt ih =>
    intro c hc
    rcases List.mem_append.mp hc with hc | hc
    · exact ih c hc
    · exact ⟨n % b, Nat.mod_lt _ hb, List.mem_singleton.mp hc⟩

theorem natDigits_ne_nil (b fuel n : Nat) : natDigits b (fuel + 1) n ≠ [] := by
  simp only [natDigits]
  split <;> simp

theorem withUnderscores_all {p : Char → Prop} (hp : p '_') (l : List Char) (h : ∀ c ∈ l, p c) :
    ∀ c ∈ withUnderscores l, p c := by
  fun_induction withUnderscores l with
  | case1 a b c rest ih =>
    simp only [List.forall_mem_cons] at h ⊢
    exact ⟨h.1, h.2.1, hp, h.2.2.1, ih h.2.2.2⟩
  | case2 l _ => exact h

theorem withUnderscores_head (l : List Char) : (withUnderscores l).head? = l.head? := by
  fun_induction withUnderscores l with
  | case1 a b c rest ih => rfl
  | case2 l _ => rfl

theorem digitChar_word : ∀ d, d < 16 → isWordChar (digitChar d) = true := by decide +kernel
theorem digitChar_digit : ∀ d, d < 10 → (digitChar d).isDigit = true := by decide +kernel

theorem isIntText_of (w : List Char) (hne : w ≠ []) (hhead : ∀ c, w.head? = some c → c.isDigit = true)
    (hall : ∀ c ∈ w, isWordChar c = true) : isIntText w = true := by
  cases w with
  | nil => exact absurd rfl hne
  | cons c r =>
    simp only [isIntText, Bool.and_eq_true, List.all_eq_true]
    exact ⟨hhead c rfl, fun x hx => hall x (by simp [hx])⟩

theorem isIntText_prefixed (x : Char) (hx : isWordChar x = true) (ds : List Char) (hw : ∀ c ∈ ds, isWordChar c = true) :
    isIntText (['0', x] ++ ds) = true := by
  simp only [List.cons_append, List.nil_append, isIntText, List.all_cons, Bool.and_eq_true, List.all_eq_true]
  exact ⟨by decide, hx, hw⟩

/-- the base prefix the printer writes -/
def basePre (b : Nat) : List Char := if b = 16 then ['0', 'x'] else if b = 2 then ['0', 'b'] else []

/-- the digits of a literal as the printer writes them -/
def digitsOf (l : IntLit) : List Char :=
  if l.underscores then withUnderscores (natDigits l.base 200 l.mag) else natDigits l.base 200 l.mag

theorem digitsOf_props (l : IntLit) (hb0 : 0 < l.base) (hb : l.base ≤ 16) :
    digitsOf l ≠ [] ∧ (∀ c ∈ digitsOf l, isWordChar c = true) ∧
      (l.base ≤ 10 → ∀ c, (digitsOf l).head? = some c → c.isDigit = true) := by
  have hne : natDigits l.base 200 l.mag ≠ [] := natDigits_ne_nil l.base 199 l.mag
  have hw : ∀ c ∈ natDigits l.base 200 l.mag, isWordChar c = true := by
    intro c hc
    obtain ⟨d, hd, rfl⟩ := natDigits_mem l.base 200 l.mag hb0 c hc
    exact digitChar_word d (by omega)
  have hd : l.base ≤ 10 → ∀ c, (natDigits l.base 200 l.mag).head? = some c → c.isDigit = true := by
    intro hb10 c hc
    obtain ⟨d, hd, rfl⟩ := natDigits_mem l.base 200 l.mag hb0 c (List.mem_of_head? hc)
    exact digitChar_digit d (by omega)
  unfold digitsOf
  cases l.underscores with
  | false => exact ⟨hne, hw, hd⟩
  | true =>
    rw [if_pos rfl, withUnderscores_head]
    exact ⟨fun e => hne (List.head?_eq_none_iff.mp (by rw [← withUnderscores_head, e]; rfl)),
      withUnderscores_all (by decide) _ hw, hd⟩

theorem magText_toList (l : IntLit) (h : intLitOk l = true) :
    l.magText.toList = basePre l.base ++ digitsOf l := by
  simp only [intLitOk, Bool.or_eq_true, beq_iff_eq] at h
  have e0 := toList_0x
  have e1 := toList_0b
  have e2 : ("" : String).toList = [] := by decide
  have hb : ¬ l.base < 2 := by rcases h with (h | h) | h <;> omega
  simp only [IntLit.magText, digitsOf, basePre, hb, if_false, String.toList_append, String.toList_ofList, beq_iff_eq]
  rcases h with (h | h) | h <;> simp [h, e0, e1, e2]

theorem magText_int (l : IntLit) (h : intLitOk l = true) : isIntText l.magText.toList = true := by
  rw [magText_toList l h]
  simp only [intLitOk, Bool.or_eq_true, beq_iff_eq] at h
  obtain ⟨hne, hw, hd⟩ := digitsOf_props l (by omega) (by omega)
  unfold basePre
  rcases h with (h | h) | h <;> rw [h] at hd ⊢
  · exact isIntText_prefixed 'b' (by decide) _ hw
  · exact isIntText_of _ hne (hd (by decide)) hw
  · exact isIntText_prefixed 'x' (by decide) _ hw

theorem isIdentLike_eq (x : String) : isIdentLike x = isIdentText x.toList := by
  unfold isIdentLike isIdentText
  cases x.toList <;> rfl

theorem attrOk_args (a : Attr) (h : attrOk a = true) : ∀ x ∈ a.args, x.toList.contains '\n' = false := by
  simp only [attrOk, Bool.and_eq_true, List.all_eq_true, Bool.not_eq_true'] at h
  exact h.2

theorem attrOk_dir (a : Attr) (h : attrOk a = true) : nameTextOk true a.directive.toList = true := by
  simp only [attrOk, Bool.and_eq_true] at h
  exact h.1

theorem sep_inl (inl : Bool) (indent : Nat) : (if inl then Item.sp else Item.nl indent) = .sp ∨ ∃ n, (if inl then Item.sp else Item.nl indent) = .nl n := by
  cases inl
  · exact Or.inr ⟨indent, rfl⟩
  · exact Or.inl rfl

end Slicec.SLex
