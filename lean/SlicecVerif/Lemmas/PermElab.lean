/-
  C15 — the compiled content of a file (the canonical dump `fileS` of C02: every element with its resolved type references,
  bases and underlying types) does not depend on the order of the input files.
-/
import SlicecVerif.Lemmas.PermTable
import SlicecVerif.Model.Elab

namespace Slicec

theorem elabS_sim (t1 t2 : Table) (h : TableSim t1 t2) : ∀ fuel : Nat,
    (∀ scope r, trefS t1 scope fuel r = trefS t2 scope fuel r) ∧ (∀ scope e, tyS t1 scope fuel e = tyS t2 scope fuel e) := by
  intro fuel
  induction fuel with
  | zero => exact ⟨fun scope r => by simp [trefS], fun scope e => by simp [tyS]⟩
  | succ n ih =>
    refine ⟨fun scope r => ?_, fun scope e => ?_⟩
    · cases r with
      | mk attrs ty opt =>
        cases ty with
        | named id =>
          simp only [trefS, ih.2]
          rcases resolveNamed_sim_cases t1 t2 h .type id scope with e | ⟨m1, m2, a, r1, r2, hm⟩
          · rw [e]
          · rw [r1, r2]
            obtain ⟨hk, hkey, hid, _⟩ := NodeInfo.norm_fields hm
            simp only [hk, hkey, hid]
        | _ => simp only [trefS, ih.2]
    · cases e with
      | prim p => simp only [tyS]
      | named id => simp only [tyS]
      | seq e => simp only [tyS, ih.1]
      | dict k v => simp only [tyS, ih.1]
      | result s f => simp only [tyS, ih.1]

theorem trefS_fun (t1 t2 : Table) (h : TableSim t1 t2) : trefS t1 = trefS t2 := by
  funext scope fuel r
  exact (elabS_sim t1 t2 h fuel).1 scope r

theorem fieldS_fun (t1 t2 : Table) (h : TableSim t1 t2) : fieldS t1 = fieldS t2 := by
  funext scope f
  unfold fieldS
  rw [trefS_fun t1 t2 h]

theorem paramS_fun (t1 t2 : Table) (h : TableSim t1 t2) : paramS t1 = paramS t2 := by
  funext scope p
  unfold paramS
  rw [trefS_fun t1 t2 h]

theorem defS_sim (t1 t2 : Table) (h : TableSim t1 t2) (scope : String) (d : Def) : defS t1 scope d = defS t2 scope d := by
  -- `delta`: `rw [defS]` / `simp only [defS]` do not come back (equation lemmas of the big non-recursive `defS`)
  delta defS
  cases d with
  | struct doc attrs compact name fields =>
    simp only
    rw [fieldS_fun t1 t2 h]
  | iface doc attrs name bases ops =>
    simp only
    rw [paramS_fun t1 t2 h]
    -- what is left to compare is the function that prints a base
    congr
    funext b
    cases b.ty with
    | named id =>
      simp only
      rcases resolveNamed_sim_cases t1 t2 h .interface id scope with e | ⟨m1, m2, a, r1, r2, hm⟩
      · rw [e]
      · rw [r1, r2]
        simp only [(NodeInfo.norm_fields hm).2.1]
    | _ => rfl
  | enum doc attrs compact unchecked name underlying es =>
    simp only
    rw [fieldS_fun t1 t2 h]
    cases underlying with
    | none => simp only
    | some u =>
      obtain ⟨uattrs, ty, opt⟩ := u
      cases ty with
      | named id =>
        simp only
        rcases resolveNamed_sim_cases t1 t2 h .primitive id scope with e | ⟨m1, m2, a, r1, r2, hm⟩
        · rw [e]
        · rw [r1, r2]
          simp only [(NodeInfo.norm_fields hm).2.2.1]
      | _ => simp only
  | custom doc attrs name => simp only
  | alias doc attrs name ty =>
    simp only
    rw [trefS_fun t1 t2 h]

theorem fileS_fun (t1 t2 : Table) (h : TableSim t1 t2) : fileS t1 = fileS t2 := by
  funext f
  unfold fileS
  simp only
  rw [List.map_congr_left (fun d _ => defS_sim t1 t2 h _ d)]

theorem fileS_perm (P P' : Program) (hp : P.Perm P') (hu : UniqueKeys P) :
    (∀ f, fileS (buildTable P) f = fileS (buildTable P') f) ∧
    (P.map (fileS (buildTable P))).Perm (P'.map (fileS (buildTable P'))) := by
  have hf := fileS_fun _ _ (buildTable_sim P P' hp hu)
  refine ⟨fun f => by rw [hf], ?_⟩
  rw [hf]
  exact hp.map _

end Slicec
