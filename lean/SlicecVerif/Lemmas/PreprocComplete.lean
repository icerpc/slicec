/-
  C06, completeness of the preprocessor parser at the token level.  Whether the stack machine fails depends only on the
  `seenElse` flags of its stack, not on the symbols (`shapeRun`, `specRun_shape`); a line list that takes `shapeRun` from
  the empty stack to the empty stack is the lines of a tree (`lines_tree`); and the recursive-descent parser accepts the
  printed form of every tree, with the fuel the model uses (`parsePre_complete`).
-/
import SlicecVerif.Lemmas.PreprocTree

namespace Slicec.Pp

def shapeStep (s : List Bool) : ALine → Option (List Bool)
  | .src _ => some s
  | .define _ => some s
  | .undef _ => some s
  | .if_ _ => some (false :: s)
  | .elif _ =>
    match s with
    | [] => none
    | b :: r => if b then none else some (false :: r)
  | .else_ =>
    match s with
    | [] => none
    | b :: r => if b then none else some (true :: r)
  | .endif =>
    match s with
    | [] => none
    | _ :: r => some r

def shapeRun (s : List Bool) : List ALine → Option (List Bool)
  | [] => some s
  | l :: ls =>
    match shapeStep s l with
    | some s' => shapeRun s' ls
    | none => none

def shapeOf (stk : List Frame) : List Bool := stk.map (·.seenElse)

theorem specStep_shape (st : SpecSt) (l : ALine) :
    (specStep st l).map (fun st' => shapeOf st'.stack) = shapeStep (shapeOf st.stack) l := by
  obtain ⟨stk, out⟩ := st
  cases l with
  | src _ | define _ | undef _ => simp only [specStep, shapeStep]; split <;> rfl
  | if_ e => simp [specStep, shapeStep, shapeOf]
  | elif _ | else_ =>
    cases stk with
    | nil => simp [specStep, shapeStep, shapeOf]
    | cons fr stk =>
      simp only [specStep, shapeStep, shapeOf, List.map_cons]
      cases fr.seenElse <;> simp
  | endif => cases stk <;> simp [specStep, shapeStep, shapeOf]

theorem specRun_shape (ls : List ALine) : ∀ st : SpecSt,
    (specRun st ls).map (fun st' => shapeOf st'.stack) = shapeRun (shapeOf st.stack) ls := by
  induction ls with
  | nil => intro st; rfl
  | cons l ls ih =>
    intro st
    simp only [specRun, shapeRun]
    rw [← specStep_shape st l]
    cases specStep st l with
    | none => rfl
    | some st' => exact ih st'

theorem specFile_ne_none_iff (ls : List ALine) (D : Syms) : specFile ls D ≠ none ↔ shapeRun [] ls = some [] := by
  have h := specRun_shape ls ⟨[], ⟨[], D⟩⟩
  simp only [shapeOf, List.map_nil] at h
  unfold specFile
  rw [← h]
  cases specRun ⟨[], ⟨[], D⟩⟩ ls with
  | none => simp
  | some st' =>
    obtain ⟨stk, out⟩ := st'
    cases stk <;> simp

theorem specFile_ne_none_indep (ls : List ALine) (D D' : Syms) : specFile ls D ≠ none ↔ specFile ls D' ≠ none := by
  rw [specFile_ne_none_iff, specFile_ne_none_iff]

theorem shapeRun_append (s : List Bool) (a b : List ALine) :
    shapeRun s (a ++ b) = (shapeRun s a).bind (fun s' => shapeRun s' b) := by
  induction a generalizing s with
  | nil => rfl
  | cons l a ih =>
    simp only [List.cons_append, shapeRun]
    split
    · exact ih _
    · rfl

theorem shapeRun_nodes (ns : Nodes) (s : List Bool) : shapeRun s ns.lines = some s := by
  have h := specRun_shape ns.lines ⟨s.map (fun b => ⟨false, false, b⟩), ⟨[], []⟩⟩
  rw [spec_nodes] at h
  simpa [shapeOf, Function.comp_def] using h.symm

/-- `ls` completes the open conditionals `s` (innermost first, each with its `seenElse` flag); at top level, the lines
    of a tree -/
def Completes : List Bool → List ALine → Prop
  | [], ls => ∃ ns : Nodes, ns.lines = ls
  | b :: s, ls => ∃ (body : Nodes) (c : CondRest) (rest : List ALine),
      ls = body.lines ++ (c.lines ++ rest) ∧ (b = true → c = .endif) ∧ Completes s rest

theorem Completes.node (nd : Node) : ∀ {s : List Bool} {ls : List ALine}, Completes s ls → Completes s (nd.lines ++ ls)
  | [], _, ⟨ns, h⟩ => ⟨.cons nd ns, by rw [Nodes.lines, h]⟩
  | _ :: _, _, ⟨body, c, rest, h, hb, hr⟩ => ⟨.cons nd body, c, rest, by rw [Nodes.lines, h, List.append_assoc], hb, hr⟩

/-- A plain line and a whole conditional (at its `#if`, completed behind it by then) are nodes of the innermost body;
    `#elif`, `#else`, `#endif` end that body. -/
theorem shapeRun_completes (ls : List ALine) (s : List Bool) : shapeRun s ls = some [] → Completes s ls := by
  fun_induction shapeRun s ls <;> intro h
  case case1 => cases h; exact ⟨.nil, rfl⟩
  case case3 => cases h
  case case2 s l ls s1 hs ih =>
    have ih := ih h
    cases l with
    | src b => cases hs; exact ih.node (.block b)
    | define x => cases hs; exact ih.node (.define x)
    | undef x => cases hs; exact ih.node (.undef x)
    | if_ e =>
      cases hs
      obtain ⟨body, c, rest, e1, _, hr⟩ := ih
      have := hr.node (.cond e body c)
      rwa [Node.lines, List.cons_append, List.append_assoc, ← e1] at this
    | elif e =>
      obtain _ | ⟨_ | _, s0⟩ := s <;> cases hs
      obtain ⟨body, c, rest, e1, _, hr⟩ := ih
      exact ⟨.nil, .elif e body c, rest, by rw [e1, CondRest.lines]; simp [Nodes.lines], nofun, hr⟩
    | else_ =>
      obtain _ | ⟨_ | _, s0⟩ := s <;> cases hs
      obtain ⟨body, c, rest, e1, hc, hr⟩ := ih
      cases hc rfl
      exact ⟨.nil, .els body, rest, by rw [e1]; simp [Nodes.lines, CondRest.lines], nofun, hr⟩
    | endif =>
      obtain _ | ⟨b, s0⟩ := s <;> cases hs
      exact ⟨.nil, .endif, ls, rfl, fun _ => rfl, ih⟩

theorem lines_tree (ls : List ALine) (h : shapeRun [] ls = some []) : ∃ ns : Nodes, ns.lines = ls :=
  shapeRun_completes ls [] h

/-- what may follow a `BlockContent` (grammar.lalrpop) -/
def stopTok : List PTok → Prop
  | [] => True
  | .kw .elif :: _ => True
  | .kw .else_ :: _ => True
  | .kw .endif :: _ => True
  | _ => False

theorem parseNodes_stop (n : Nat) (r : List PTok) (h : stopTok r) : parseNodes (n + 1) r = some (.nil, r) := by
  match r, h with
  | [], _ => rfl
  | .kw .elif :: _, _ => rfl
  | .kw .else_ :: _, _ => rfl
  | .kw .endif :: _, _ => rfl

theorem CondRest.toks_stop (c : CondRest) (r : List PTok) : stopTok (c.toks ++ r) := by
  cases c <;> simp [CondRest.toks, CondRest.lines, linesToks_cons, ALine.toks, stopTok]

theorem Node.toks_pos (nd : Node) : 1 ≤ nd.toks.length := by
  cases nd <;> simp [Node.toks, Node.lines, linesToks_cons, ALine.toks]

theorem PExpr.toks_pos (e : PExpr) : 1 ≤ e.toks.length := Nat.le_trans e.size_pos e.size_le_toks

/-- the first token of a node is not one that stops `parseNodes` -/
theorem parseNodes_cons_step (n : Nat) (nd : Node) (r : List PTok) :
    parseNodes (n + 1) (nd.toks ++ r) =
      match parseNode n (nd.toks ++ r) with
      | some (x, r1) =>
        match parseNodes n r1 with
        | some (ns, r') => some (.cons x ns, r')
        | none => none
      | none => none := by
  cases nd <;> simp [Node.toks, Node.lines, linesToks_cons, ALine.toks, parseNodes] <;> rfl

mutual
  theorem parseNodes_complete : ∀ (ns : Nodes) (n : Nat) (r : List PTok), 2 * ns.toks.length + 2 ≤ n → stopTok r →
      parseNodes n (ns.toks ++ r) = some (ns, r)
    | .nil => by
      intro n r h hr
      obtain ⟨m, rfl⟩ := exists_add_one_of_le h
      simpa [Nodes.toks, Nodes.lines, linesToks] using parseNodes_stop m r hr
    | .cons nd ns => by
      intro n r h hr
      have hl := congrArg List.length (Nodes.toks_cons_eq nd ns r)
      simp only [List.length_append] at hl
      have hp := Node.toks_pos nd
      obtain ⟨m, rfl⟩ := exists_add_one_of_le h
      rw [Nodes.toks_cons_eq, parseNodes_cons_step,
        parseNode_complete nd m (ns.toks ++ r) (by omega)]
      simp only
      rw [parseNodes_complete ns m r (by omega) hr]
  theorem parseNode_complete : ∀ (nd : Node) (n : Nat) (r : List PTok), 2 * nd.toks.length + 1 ≤ n →
      parseNode n (nd.toks ++ r) = some (nd, r)
    | .block _ | .define _ | .undef _ => by
      intro n r h
      obtain ⟨m, rfl⟩ := exists_add_one_of_le h
      rfl
    | .cond e body rest => by
      intro n r h
      have hl := congrArg List.length (Node.toks_cond_eq e body rest r)
      simp only [List.length_append, List.length_cons] at hl
      obtain ⟨m, rfl⟩ := exists_add_one_of_le h
      have he := PExpr.size_le_toks e
      rw [Node.toks_cond_eq]
      simp only [parseNode]
      rw [parseExpr_print e m _ (by omega) (by simp [noOp])]
      simp only
      rw [parseNodes_complete body m _ (by omega) (CondRest.toks_stop rest r)]
      simp only
      rw [parseRest_complete rest m r (by omega)]
  theorem parseRest_complete : ∀ (c : CondRest) (n : Nat) (r : List PTok), 2 * c.toks.length + 1 ≤ n →
      parseRest n (c.toks ++ r) = some (c, r)
    | .endif => by
      intro n r h
      obtain ⟨m, rfl⟩ := exists_add_one_of_le h
      rfl
    | .els body => by
      intro n r h
      have hl := congrArg List.length (CondRest.toks_els_eq body r)
      simp only [List.length_append, List.length_cons] at hl
      obtain ⟨m, rfl⟩ := exists_add_one_of_le h
      rw [CondRest.toks_els_eq]
      simp only [parseRest]
      rw [parseNodes_complete body m _ (by omega) (by simp [stopTok])]
    | .elif e body rest => by
      intro n r h
      have hl := congrArg List.length (CondRest.toks_elif_eq e body rest r)
      simp only [List.length_append, List.length_cons] at hl
      obtain ⟨m, rfl⟩ := exists_add_one_of_le h
      have he := PExpr.size_le_toks e
      rw [CondRest.toks_elif_eq]
      simp only [parseRest]
      rw [parseExpr_print e m _ (by omega) (by simp [noOp])]
      simp only
      rw [parseNodes_complete body m _ (by omega) (CondRest.toks_stop rest r)]
      simp only
      rw [parseRest_complete rest m r (by omega)]
end

theorem parsePre_complete (ns : Nodes) : parsePre ns.toks = some ns := by
  unfold parsePre
  have := parseNodes_complete ns (parseFuel ns.toks) [] (by unfold parseFuel; omega) trivial
  rw [List.append_nil] at this
  rw [this]

theorem parsePre_of_lines (ls : List ALine) (D : Syms) (h : specFile ls D ≠ none) :
    ∃ ns, parsePre (linesToks ls) = some ns ∧ ns.lines = ls := by
  obtain ⟨ns, hns⟩ := lines_tree ls ((specFile_ne_none_iff ls D).mp h)
  refine ⟨ns, ?_, hns⟩
  have := parsePre_complete ns
  rwa [Nodes.toks, hns] at this

end Slicec.Pp
