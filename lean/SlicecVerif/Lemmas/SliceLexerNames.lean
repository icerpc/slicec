/-
  What a printed scoped name reads as (C02). The printer writes the `::`-separated segments of the name, a keyword with a
  backslash in front (`escSeg`), joined by `::` (`escapeScoped_toList`); spellings joined by `::`, each of which reads as one
  identifier, read as exactly those identifiers and `::` (`lexRun_segs`). From this the syntactic criterion for the name
  condition of `fileOk` (segments that are identifiers give `nameTextOk`; likewise an attribute directive `a::b::c` in
  attribute mode, keywords included), and in Lemmas/SliceParserLeaves the criterion for reading the name back.
-/
import SlicecVerif.Lemmas.SliceLexer

namespace Slicec.SLex

open Slicec

theorem lexRun_dcolon (a : Bool) (t : List Char) :
    lexRun a (':' :: ':' :: t) = ⟨.tok .dcolon :: (lexRun a t).items, (lexRun a t).attr, (lexRun a t).last⟩ := by
  have e : lexNext a ':' (':' :: t) = ⟨.tok .dcolon, t, a⟩ := rfl
  rw [lexRun_cons, e]
  cases t <;> simp [StepRes.items, StepRes.endClass]

theorem lexRun_segs {β : Type} (a : Bool) (f g : β → List Char) (l : List β) (hne : l ≠ [])
    (h : ∀ x ∈ l, lexRun a (f x) = ⟨[.tok (.ident (g x))], a, .word⟩) :
    lexRun a ([':', ':'].intercalate (l.map f)) =
      ⟨[LexItem.tok .dcolon].intercalate (l.map fun x => [.tok (.ident (g x))]), a, .word⟩ := by
  induction l with
  | nil => exact absurd rfl hne
  | cons x rest ih =>
    have hx := h x List.mem_cons_self
    cases rest with
    | nil => simpa using hx
    | cons y rest =>
      have ih := ih (List.cons_ne_nil _ _) fun z hz => h z (List.mem_cons_of_mem _ hz)
      -- the identifier `f x` ends in a way the `:` that follows cannot change
      rw [List.map_cons, List.map_cons, List.intercalate_cons_cons, List.append_assoc,
        lexRun_append a (f x) _ (by rw [hx]; rfl), hx]
      simp only [List.cons_append, List.nil_append, List.isEmpty_cons, Bool.false_eq_true, if_false, lexRun_dcolon,
        ← List.map_cons, ih]
      rfl

theorem nameTextOk_segs {β : Type} (a : Bool) (f g : β → List Char) (l : List β) (hne : l ≠ [])
    (h : ∀ x ∈ l, lexRun a (f x) = ⟨[.tok (.ident (g x))], a, .word⟩)
    (hhead : ∀ x ∈ l, compat .afterLBracket (f x) = true) :
    nameTextOk a ([':', ':'].intercalate (l.map f)) = true := by
  refine nameTextOk_iff.mpr ⟨_, lexRun_segs a f g _ hne h, List.all_eq_true.mpr fun i hi => ?_, ?_⟩
  · rcases mem_intercalate hi with hi | ⟨_, hl, hi⟩
    · rw [List.mem_singleton.mp hi]; rfl
    · obtain ⟨x, _, rfl⟩ := List.mem_map.mp hl
      rw [List.mem_singleton.mp hi]; rfl
  · -- the text starts with the first spelling, which is not empty
    obtain ⟨x, rest, rfl⟩ := List.exists_cons_of_ne_nil hne
    have hx : f x ≠ [] := fun e => by have := h x (by simp); rw [e] at this; cases this
    rw [List.map_cons]
    cases rest with
    | nil => exact List.intercalate_singleton ▸ hhead x (by simp)
    | cons y rest =>
      rw [List.map_cons, List.intercalate_cons_cons, List.append_assoc, compat_append _ hx]
      exact hhead x (by simp)

theorem nameTextOk_dcolon {a : Bool} {t : List Char} (h : nameTextOk a t = true) : nameTextOk a (':' :: ':' :: t) = true := by
  obtain ⟨items, hrun, hitems, _⟩ := nameTextOk_iff.mp h
  exact nameTextOk_iff.mpr ⟨.tok .dcolon :: items, by rw [lexRun_dcolon, hrun], (Bool.and_eq_true _ _).mpr ⟨rfl, hitems⟩, rfl⟩

theorem nameSegsOk_cases (segs : List String) (h : nameSegsOk segs = true) :
    ∃ ss, ss ≠ [] ∧ (∀ s ∈ ss, isIdentText s.toList = true) ∧ (segs = ss ∨ segs = "" :: ss) := by
  match segs, h with
  | [s], h => exact ⟨[s], by simp, fun x hx => by rw [List.mem_singleton.mp hx]; exact h, .inl rfl⟩
  | s :: s' :: rest, h =>
    simp only [nameSegsOk, nameSegsOk.identOk', Bool.and_eq_true, Bool.or_eq_true, List.all_eq_true] at h
    rcases h.1 with hs | hs
    · have hsE : s = "" := by rw [← String.ofList_toList (s := s), List.isEmpty_iff.mp hs]
      exact ⟨s' :: rest, by simp, h.2, .inr (by rw [hsE])⟩
    · refine ⟨_, by simp, fun x hx => ?_, .inl rfl⟩
      rcases List.mem_cons.mp hx with rfl | hx
      · exact hs
      · exact h.2 x hx

def escSeg (seg : String) : List Char := (if keywords.contains seg then "\\" ++ seg else seg).toList

theorem escSeg_empty : escSeg "" = [] := by decide +kernel

theorem escapeScoped_toList (id : String) :
    (escapeScoped id).toList = [':', ':'].intercalate ((id.splitOn "::").map escSeg) := by
  rw [escapeScoped, String.toList_intercalate, toList_dcolon, List.map_map]
  rfl

/-- the global scope: an empty first segment is written as a leading `::` -/
theorem escSeg_global (ss : List String) (hne : ss ≠ []) :
    [':', ':'].intercalate (("" :: ss).map escSeg) = ':' :: ':' :: [':', ':'].intercalate (ss.map escSeg) := by
  rw [List.map_cons, escSeg_empty]
  exact List.intercalate_cons_of_ne_nil (mt List.eq_nil_of_map_eq_nil hne)

theorem escSeg_run (seg : String) (h : isIdentText seg.toList = true) :
    lexRun false (escSeg seg) = ⟨[.tok (.ident seg.toList)], false, .word⟩ :=
  lexRun_identSpelling false seg _ (checkKeyword_of_not_keyword seg) h

theorem escSeg_head (seg : String) (h : isIdentText seg.toList = true) : compat .afterLBracket (escSeg seg) = true :=
  compat_identSpelling _ seg _ (compat_word_start _ _ h (by decide)) rfl

/-- C02's `names_with_identifier_segments`; keywords may be segments: the printer escapes them -/
theorem nameTextOk_of_segments (id : String) (h : nameSegsOk (id.splitOn "::") = true) :
    nameTextOk false (escapeScoped id).toList = true := by
  rw [escapeScoped_toList]
  obtain ⟨ss, hne, hall, e⟩ := nameSegsOk_cases _ h
  have hsegs := nameTextOk_segs false escSeg String.toList ss hne (fun s hs => escSeg_run s (hall s hs)) fun s hs => escSeg_head s (hall s hs)
  rcases e with e | e
  · rwa [e]
  · rw [e, escSeg_global ss hne]
    exact nameTextOk_dcolon hsegs

/-- C02's `directives_with_identifier_segments`; inside an attribute keywords will do as well: `attribute_mode` switches the
    keyword table off -/
theorem nameTextOk_directive (segs : List String) (hne : segs ≠ []) (h : ∀ s ∈ segs, isIdentText s.toList = true) :
    nameTextOk true ("::".intercalate segs).toList = true := by
  rw [String.toList_intercalate, toList_dcolon]
  exact nameTextOk_segs true String.toList String.toList segs hne (fun s hs => by rw [lexRun_word true _ (h s hs)]; rfl)
    fun s hs => compat_word_start _ _ (h s hs) (by decide)

end Slicec.SLex
