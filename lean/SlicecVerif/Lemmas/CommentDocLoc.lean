/-
  C09: the located model of the comment PARSER (Model/CommentDocLoc.lean). Every span the parser computes is made of token
  boundaries of the comment's located token stream (`Bnd`, `DocPartsOk`, `parseCommentLocG_ok`), and a rejected comment is
  reported at a token of that stream or at the lexer's error (`FailOk`, `parseCommentLocG_fail`); the parser never runs out
  of tokens (`parseCommentLocG_not_eof`). One stream `all` is fixed and every parser function runs on a suffix of it, with
  one lemma `…_spec` over `Ret` per function.
-/
import SlicecVerif.Model.CommentDocLoc
import SlicecVerif.Lemmas.CommentLoc

namespace Slicec.CLoc

open Slicec

def Bnd (toks : List LCTok) (l : Loc) : Prop := ∃ t ∈ toks, l = t.start ∨ l = t.stop
def SpOk (toks : List LCTok) (s : Sp) : Prop := Bnd toks s.start ∧ Bnd toks s.stop
def LinkOk (toks : List LCTok) (l : LLink) : Prop := SpOk toks l.span ∧ SpOk toks l.idSpan
def MsgOk (toks : List LCTok) (m : LMsg) : Prop := SpOk toks m.span ∧ ∀ l ∈ m.links, LinkOk toks l
def TagOk (toks : List LCTok) (t : LTag) : Prop :=
  SpOk toks t.span ∧ (∀ i s, t.ident = some (i, s) → SpOk toks s) ∧ MsgOk toks t.message
def DocPartsOk (toks : List LCTok) (d : LDoc) : Prop :=
  Bnd toks d.span.stop ∧ (∀ m, d.overview = some m → MsgOk toks m) ∧ (∀ t ∈ d.params, TagOk toks t) ∧
  (∀ t ∈ d.returns, TagOk toks t) ∧ (∀ l ∈ d.see, LinkOk toks l)

theorem Bnd.start {toks : List LCTok} {t : LCTok} (h : t ∈ toks) : Bnd toks t.start := ⟨t, h, Or.inl rfl⟩
theorem Bnd.stop {toks : List LCTok} {t : LCTok} (h : t ∈ toks) : Bnd toks t.stop := ⟨t, h, Or.inr rfl⟩

theorem Bnd.of_suffix {all rest : List LCTok} {t : LCTok} (hs : t :: rest <:+ all) : Bnd all t.start ∧ Bnd all t.stop :=
  ⟨.start (hs.subset (by simp)), .stop (hs.subset (by simp))⟩

theorem headStart_bnd (d : Loc) (toks : List LCTok) (h : toks ≠ []) : Bnd toks (headStart d toks) := by
  cases toks with
  | nil => exact absurd rfl h
  | cons t ts => exact ⟨t, by simp, Or.inl rfl⟩

/-- the parser went from `toks` to `rest` over tokens that hold no `Newline` -/
abbrev Took : List LCTok → List LCTok → Prop := Behind fun t => t.tok ≠ .newline

theorem Took.not_end {all toks rest : List LCTok} (hs : toks <:+ all) (hk : Took toks rest) (hne : toks ≠ []) :
    rest = [] → ¬ NlTail all := by
  rintro rfl hn
  obtain ⟨pre, rfl, hno⟩ := hk
  rw [List.append_nil] at hs hne
  exact nl_contra hne hno (hn.suffix hs)

/-- the span of the `MalformedDocComment` lint is the extent of a token of the stream or of the lexer's error; a failure
    at the end of the input (`.eof`, no span) only without a lexer error -/
def FailOk (toks : List LCTok) (pend : Option LCErr) : LFail → Prop
  | .at s => (∃ t ∈ toks, s = ⟨t.start, t.stop⟩) ∨ (∃ e, pend = some e ∧ s = ⟨e.start, e.stop⟩)
  | .eof => pend = none

theorem failHere_ok {all rest : List LCTok} (hs : rest <:+ all) (pend : Option LCErr) : FailOk all pend (failHere pend rest) := by
  fun_cases failHere pend rest with
  | case1 _ t ts => exact Or.inl ⟨t, hs.subset (by simp), rfl⟩
  | case2 e => exact Or.inr ⟨e, rfl, rfl⟩
  | case3 => rfl

theorem failHere_eof {pend : Option LCErr} {toks : List LCTok} (h : failHere pend toks = .eof) : toks = [] ∧ pend = none := by
  cases toks with
  | cons t ts => cases h
  | nil =>
    cases pend with
    | none => exact ⟨rfl, rfl⟩
    | some e => cases h

/-- `Ret all pend P x`: the result `x` of a parser function run on a suffix of the stream `all` is a value that satisfies
    `P`, or a failure reported at a token of `all` or at the lexer's error `pend`, and not at the end of the input if `all`
    ends in a `Newline` (every stream without lexer error does). A panic of the model is not constrained. -/
def Ret {α : Type} (all : List LCTok) (pend : Option LCErr) (P : α → Prop) : LRes α → Prop
  | .ok a => P a
  | .fail f => FailOk all pend f ∧ (f = .eof → ¬ NlTail all)
  | .panic _ => True

section
variable {α β : Type} {all : List LCTok} {pend : Option LCErr} {P : α → Prop}

theorem Ret.mono {Q : α → Prop} {x : LRes α} (hx : Ret all pend P x) (hP : ∀ a, P a → Q a) : Ret all pend Q x := by
  cases x with
  | ok a => exact hP a hx
  | fail f => exact hx
  | panic s => trivial

theorem Ret.bind {Q : β → Prop} {x : LRes α} {g : α → LRes β} (hx : Ret all pend P x) (hg : ∀ a, P a → Ret all pend Q (g a)) :
    Ret all pend Q (x.bind g) := by
  cases x with
  | ok a => exact hg a hx
  | fail f => exact hx
  | panic s => trivial

theorem Ret.fail {rest : List LCTok} (hs : rest <:+ all) (hm : rest = [] → ¬ NlTail all) :
    Ret all pend P (.fail (failHere pend rest)) :=
  ⟨failHere_ok hs pend, fun he => hm (failHere_eof he).1⟩

theorem Ret.stop {toks rest : List LCTok} (hs : toks <:+ all) (hk : Took toks rest) (hne : toks ≠ []) :
    Ret all pend P (.fail (failHere pend rest)) :=
  Ret.fail (hk.suffix.trans hs) (hk.not_end hs hne)

theorem Ret.follower {rest : List LCTok} (hs : rest <:+ all) (hv : ¬ validFollowerL pend rest = true) :
    Ret all pend P (.fail (failHere pend rest)) :=
  -- the end of an error-free stream is a valid follower
  ⟨failHere_ok hs pend, fun he => by obtain ⟨rfl, rfl⟩ := failHere_eof he; exact (hv rfl).elim⟩

end

/-! In the `…_spec` lemmas the two ways to the end of the input are excluded by hypothesis: enough fuel, and (for a function
  that may stop at its own input) an input that is not the end of a stream that ends in a `Newline`. -/

section

variable {all : List LCTok} {pend : Option LCErr}

theorem parseIdTailLoc_spec (last : Loc) (toks : List LCTok) (hs : toks <:+ all) (hl : Bnd all last) :
    Ret all pend (fun (_, r, rest) => Took toks rest ∧ Bnd all r) (parseIdTailLoc pend last toks) := by
  fun_induction parseIdTailLoc pend last toks with
  | case1 last a b c s e rest' ih =>
    have hi := (List.suffix_cons _ _).trans hs
    refine (ih ((List.suffix_cons _ _).trans hi) (Bnd.of_suffix hi).2).bind ?_
    rintro ⟨v, r, rest''⟩ ⟨hk, hr⟩
    exact ⟨(hk.cons (by simp)).cons (by simp), hr⟩
  | case2 => exact Ret.stop hs ((Behind.refl _).cons (by simp)) (by simp)
  | case3 => exact ⟨Behind.refl _, hl⟩

/-- the identifier `t` behind the start `l` of a scoped identifier, then `("::" identifier)*` -/
theorem scopedId_behind {toks rest : List LCTok} {t : LCTok} (hi : t :: rest <:+ all) (l : Loc) (f : List Str → Str)
    (hk : Took toks rest) (hl : Bnd all l) :
    Ret all pend (fun (_, sp, rest') => Took toks rest' ∧ SpOk all sp)
      ((parseIdTailLoc pend t.stop rest).bind fun (v, r, rest') => .ok (f v, ⟨l, r⟩, rest')) := by
  refine (parseIdTailLoc_spec t.stop rest ((List.suffix_cons _ _).trans hi) (Bnd.of_suffix hi).2).bind ?_
  rintro ⟨v, r, rest'⟩ ⟨hk', hr⟩
  exact ⟨hk.trans hk', hl, hr⟩

theorem parseScopedIdLoc_spec (toks : List LCTok) (hs : toks <:+ all) (hm : toks = [] → ¬ NlTail all) :
    Ret all pend (fun (_, sp, rest) => Took toks rest ∧ SpOk all sp) (parseScopedIdLoc pend toks) := by
  fun_cases parseScopedIdLoc pend toks with
  | case1 l a b s e rest =>
    exact scopedId_behind ((List.suffix_cons _ _).trans hs) l _ (((Behind.refl _).cons (by simp)).cons (by simp)) (Bnd.of_suffix hs).1
  | case2 => exact Ret.stop hs ((Behind.refl _).cons (by simp)) (by simp)
  | case3 l s e rest => exact scopedId_behind hs l _ ((Behind.refl _).cons (by simp)) (Bnd.of_suffix hs).1
  | case4 => exact Ret.fail hs hm

theorem parseCompsLoc_spec (fuel : Nat) (toks : List LCTok) (hs : toks <:+ all) (hf : toks.length < fuel) :
    Ret all pend (fun (_, ls, rest) => Took toks rest ∧ ∀ l ∈ ls, LinkOk all l) (parseCompsLoc pend fuel toks) := by
  fun_induction parseCompsLoc pend fuel toks with
  | case1 => exact absurd hf (Nat.not_lt_zero _)
  | case2 fuel a s b rest' ih =>
    refine (ih ((List.suffix_cons _ _).trans hs) (Nat.lt_of_succ_lt_succ hf)).bind ?_
    rintro ⟨cs', ls', r'⟩ ⟨hk, hl⟩
    exact ⟨hk.cons (by simp), hl⟩
  | case3 fuel a b l c rest' ih =>
    have hk0 : Took (⟨a, .lbrace, b⟩ :: ⟨l, .kw .LinkKeyword, c⟩ :: rest') rest' := ((Behind.refl _).cons (by simp)).cons (by simp)
    refine (parseScopedIdLoc_spec rest' (hk0.suffix.trans hs) (hk0.not_end hs (by simp))).bind ?_
    rintro ⟨id, sp, rest1⟩ ⟨hk1, hsp⟩
    have hk := hk0.trans hk1
    dsimp only
    split
    · rename_i x y rest2
      have h2 : rest2 <:+ _ := (List.suffix_cons _ _).trans hk.suffix
      refine (ih rest2 (h2.trans hs) (Nat.lt_of_lt_of_le hk.suffix.length_le (Nat.le_of_lt_succ hf))).bind ?_
      rintro ⟨cs', ls', r'⟩ ⟨hk2, hl2⟩
      exact ⟨hk.trans (hk2.cons (by simp)),
        List.forall_mem_cons.mpr ⟨⟨⟨(Bnd.of_suffix ((List.suffix_cons _ _).trans hs)).1, hsp.2⟩, hsp⟩, hl2⟩⟩
    · exact Ret.stop hs hk (by simp)
  | case4 => exact Ret.stop hs ((Behind.refl _).cons (by simp)) (by simp)
  | case5 => exact ⟨Behind.refl _, (fun _ h => by cases h)⟩

theorem parseLinesLoc_spec (fuel : Nat) (last : Loc) (toks : List LCTok) (hs : toks <:+ all) (hf : toks.length < fuel) :
    Ret all pend
      (fun (mls, lk, r, rest) => rest <:+ toks ∧ (∀ l ∈ lk, LinkOk all l) ∧
        ((mls = [] ∧ r = last ∧ rest = toks) ∨ (mls ≠ [] ∧ Bnd all r)))
      (parseLinesLoc pend fuel last toks) := by
  fun_induction parseLinesLoc pend fuel last toks with
  | case1 => exact absurd hf (Nat.not_lt_zero _)
  | case2 fuel last toks hst ih =>
    refine (parseCompsLoc_spec _ toks hs (Nat.lt_succ_self _)).bind ?_
    rintro ⟨cs, lk1, rest1⟩ ⟨hk1, j2⟩
    dsimp only
    split
    · rename_i a e rest2
      have h2 : rest2 <:+ toks := (List.suffix_cons _ _).trans hk1.suffix
      refine (ih e rest2 (h2.trans hs) (Nat.lt_of_lt_of_le hk1.suffix.length_le (Nat.le_of_lt_succ hf))).bind ?_
      rintro ⟨ls', lk', r', rest3⟩ ⟨i1, i2, i3⟩
      -- the lines end at the end of the last `Newline`: of a later line, or of this one
      exact ⟨i1.trans h2, List.forall_mem_append.mpr ⟨j2, i2⟩,
        Or.inr ⟨by simp, i3.elim (fun h => h.2.1 ▸ (Bnd.of_suffix (hk1.suffix.trans hs)).2) (·.2)⟩⟩
    · -- a line starts with a token
      exact Ret.stop hs hk1 (by rintro rfl; simp [startsLineL, startsLine] at hst)
  | case3 => exact ⟨List.suffix_refl _, (fun _ h => by cases h), Or.inl ⟨rfl, rfl, rfl⟩⟩

theorem reduceLinesLoc_spec (san : Sanitizer) (start stop : Loc) (ls : List MLine) (links : List LLink)
    (rest : List LCTok) (hs : rest <:+ all) :
    Ret all pend
      (fun o => (ls = [] ∧ o = none) ∨ (ls ≠ [] ∧ ∃ v, o = some ⟨⟨start, stop⟩, v, links⟩))
      (reduceLinesLoc san pend start stop ls links rest) := by
  unfold reduceLinesLoc
  split
  · split
    · exact Or.inl ⟨rfl, rfl⟩
    · -- the sanitizer does not fail, it panics
      unfold sanitizeL
      split
      · exact Or.inr ⟨by simp, _, rfl⟩
      · trivial
      · trivial
  · rename_i hv
    exact Ret.follower hs hv

theorem parseSectionLoc_spec (san : Sanitizer) (toks : List LCTok) (hs : toks <:+ all) (hm : toks = [] → ¬ NlTail all) :
    Ret all pend (fun (m, rest) => rest <:+ toks ∧ MsgOk all m) (parseSectionLoc san pend toks) := by
  unfold parseSectionLoc
  -- the header, `:` message newline or newline alone: what is left, the links, the start `l` and the end `e` of the header
  refine Ret.bind (P := fun (_, lk, l, e, r) => r <:+ toks ∧ (∀ x ∈ lk, LinkOk all x) ∧ Bnd all l ∧ Bnd all e) ?_ ?_
  · split
    · rename_i l a rest0
      refine (parseCompsLoc_spec _ rest0 ((List.suffix_cons _ _).trans hs) (Nat.lt_succ_self _)).bind ?_
      rintro ⟨cs, lk1, rest1⟩ ⟨hk1, j2⟩
      have hk : Took (⟨l, .colon, a⟩ :: rest0) rest1 := hk1.cons (by simp)
      dsimp only
      split
      · rename_i b e r
        exact ⟨(List.suffix_cons _ _).trans hk.suffix, j2, (Bnd.of_suffix hs).1, (Bnd.of_suffix (hk.suffix.trans hs)).2⟩
      · exact Ret.stop hs hk (by simp)
    · rename_i l e r
      exact ⟨List.suffix_cons _ _, (fun _ h => by cases h), Bnd.of_suffix hs⟩
    · exact Ret.fail hs hm
  · rintro ⟨inl, lk, l, e, r⟩ ⟨d1, d2, d3, d4⟩
    refine (parseLinesLoc_spec _ e r (d1.trans hs) (Nat.lt_succ_self _)).bind ?_
    rintro ⟨ls, lk', stop, rest⟩ ⟨k1, k2, k3⟩
    refine (reduceLinesLoc_spec san _ stop ls lk' rest ((k1.trans d1).trans hs)).bind ?_
    intro ml _
    exact ⟨k1.trans d1, ⟨d3, k3.elim (fun h => h.2.1 ▸ d4) (·.2)⟩, List.forall_mem_append.mpr ⟨d2, k2⟩⟩

theorem forall_mem_snoc {α : Type} {P : α → Prop} {l : List α} {a : α} (hl : ∀ x ∈ l, P x) (ha : P a) : ∀ x ∈ l ++ [a], P x :=
  List.forall_mem_append.mpr ⟨hl, by simpa using ha⟩

/-- `create_doc_comment`: no tags yet -/
theorem DocPartsOk.create {all : List LCTok} {sp : Sp} {ov : Option LMsg} (he : Bnd all sp.stop) (hov : ∀ m, ov = some m → MsgOk all m) :
    DocPartsOk all { span := sp, overview := ov, params := [], returns := [], see := [] } :=
  ⟨he, hov, by simp, by simp, by simp⟩

/-- `append_tag_to_comment!`: the comment's end moves to the end of the tag's span -/
theorem DocPartsOk.addParam {all : List LCTok} {c : LDoc} (hc : DocPartsOk all c) (t : LTag) (ht : TagOk all t) :
    DocPartsOk all { c with span := ⟨c.span.start, t.span.stop⟩, params := c.params ++ [t] } :=
  ⟨ht.1.2, hc.2.1, forall_mem_snoc hc.2.2.1 ht, hc.2.2.2.1, hc.2.2.2.2⟩

theorem DocPartsOk.addReturns {all : List LCTok} {c : LDoc} (hc : DocPartsOk all c) (t : LTag) (ht : TagOk all t) :
    DocPartsOk all { c with span := ⟨c.span.start, t.span.stop⟩, returns := c.returns ++ [t] } :=
  ⟨ht.1.2, hc.2.1, hc.2.2.1, forall_mem_snoc hc.2.2.2.1 ht, hc.2.2.2.2⟩

theorem DocPartsOk.addSee {all : List LCTok} {c : LDoc} (hc : DocPartsOk all c) (t : LLink) (ht : LinkOk all t) :
    DocPartsOk all { c with span := ⟨c.span.start, t.span.stop⟩, see := c.see ++ [t] } :=
  ⟨ht.1.2, hc.2.1, hc.2.2.1, hc.2.2.2.1, forall_mem_snoc hc.2.2.2.2 ht⟩

theorem tagOk_named {all rest : List LCTok} {kw idt : LCTok} (hs : kw :: idt :: rest <:+ all) (name : Str) {m : LMsg} (hm : MsgOk all m) :
    TagOk all ⟨⟨kw.start, idt.stop⟩, some (name, ⟨idt.start, idt.stop⟩), m⟩ := by
  have hid := Bnd.of_suffix ((List.suffix_cons _ _).trans hs)
  refine ⟨⟨(Bnd.of_suffix hs).1, hid.2⟩, fun i s h => ?_, hm⟩
  simp only [Option.some.injEq, Prod.mk.injEq] at h
  rw [← h.2]
  exact hid

/-- a `Section` behind the tokens `hd` of a block's header, then `k` on its message and on what it left -/
theorem section_behind {β : Type} {Q : β → Prop} {san : Sanitizer} (hd rest : List LCTok) {fuel : Nat} {k : LMsg × List LCTok → LRes β}
    (hs : hd ++ rest <:+ all) (hne : hd ≠ []) (hno : NoNl hd) (hf : (hd ++ rest).length < fuel + 1)
    (hk : ∀ m r, MsgOk all m → r <:+ all → r.length < fuel → Ret all pend Q (k (m, r))) :
    Ret all pend Q ((parseSectionLoc san pend rest).bind k) := by
  have h0 : Took (hd ++ rest) rest := ⟨hd, rfl, hno⟩
  refine (parseSectionLoc_spec san rest (h0.suffix.trans hs) (h0.not_end hs (by simp [hne]))).bind ?_
  rintro ⟨m, r⟩ ⟨j1, j2⟩
  refine hk m r j2 ((j1.trans h0.suffix).trans hs) ?_
  have h1 := j1.length_le
  have h2 : 0 < hd.length := List.length_pos_iff.mpr hne
  rw [List.length_append] at hf
  omega

theorem parseBlocksLoc_spec (san : Sanitizer) (fuel : Nat) (c : LDoc) (toks : List LCTok) (s : Loc) (hs : toks <:+ all)
    (hf : toks.length < fuel) (hc : c.span.start = s ∧ DocPartsOk all c) :
    Ret all pend (fun d => d.span.start = s ∧ DocPartsOk all d) (parseBlocksLoc san pend fuel c toks) := by
  fun_induction parseBlocksLoc san pend fuel c toks with
  | case1 => exact absurd hf (Nat.not_lt_zero _)
  | case2 => exact hc
  | case3 fuel c val hp => subst hp; exact ⟨Or.inr ⟨_, rfl, rfl⟩, fun h => by cases h⟩
  | case4 fuel c l a il id ie rest ih =>
    refine section_behind [⟨l, _, a⟩, ⟨il, _, ie⟩] rest hs (by simp) (NoNl.cons (by simp) (NoNl.cons (by simp) NoNl.nil)) hf
      fun m r hm hr hl => ih m r hr hl ⟨hc.1, ?_⟩
    exact hc.2.addParam _ (tagOk_named hs id hm)
  | case5 => exact Ret.stop hs ((Behind.refl _).cons (by simp)) (by simp)
  | case6 fuel c l a il id ie rest ih =>
    refine section_behind [⟨l, _, a⟩, ⟨il, _, ie⟩] rest hs (by simp) (NoNl.cons (by simp) (NoNl.cons (by simp) NoNl.nil)) hf
      fun m r hm hr hl => ih m r hr hl ⟨hc.1, ?_⟩
    exact hc.2.addReturns _ (tagOk_named hs id hm)
  | case7 fuel c l a rest hne ih =>
    refine section_behind [⟨l, _, a⟩] rest hs (by simp) (NoNl.cons (by simp) NoNl.nil) hf
      fun m r hm hr hl => ih m r hr hl ⟨hc.1, ?_⟩
    exact hc.2.addReturns ⟨⟨l, m.span.start⟩, none, m⟩ ⟨⟨(Bnd.of_suffix hs).1, hm.1.1⟩, (fun _ _ h => by cases h), hm⟩
  | case8 fuel c l a rest ih =>
    have hk0 : Took (⟨l, .kw .SeeKeyword, a⟩ :: rest) rest := (Behind.refl _).cons (by simp)
    refine (parseScopedIdLoc_spec rest (hk0.suffix.trans hs) (hk0.not_end hs (by simp))).bind ?_
    rintro ⟨id, sp, rest1⟩ ⟨hk1, j2⟩
    have hk := hk0.trans hk1
    dsimp only
    split
    · rename_i x y r
      have h2 : r <:+ _ := (List.suffix_cons _ _).trans hk.suffix
      split
      · exact ih id sp r (h2.trans hs) (Nat.lt_of_lt_of_le hk.suffix.length_le (Nat.le_of_lt_succ hf))
          ⟨hc.1, hc.2.addSee ⟨⟨l, sp.stop⟩, id, sp⟩ ⟨⟨(Bnd.of_suffix hs).1, j2.2⟩, j2⟩⟩
      · rename_i hv
        exact Ret.follower (h2.trans hs) hv
    · exact Ret.stop hs hk (by simp)
  | case9 fuel c toks hne => exact Ret.fail hs (fun h => (hne h).elim)

/-- `create_doc_comment` does not reject, it panics -/
theorem createDocComment_spec (ov : Option LMsg) (l : Loc) :
    Ret all pend
      (fun c => 3 ≤ l.col ∧ c = { span := ⟨⟨l.row, l.col - 3⟩, match ov with | some m => m.span.stop | none => l⟩,
                                  overview := ov, params := [], returns := [], see := [] })
      (createDocComment ov l) := by
  fun_cases createDocComment ov l with
  | case1 => trivial
  | case2 hc => exact ⟨Nat.le_of_not_lt hc, rfl⟩

theorem parseCommentLocG_spec (san : Sanitizer) (lines : List CLine) :
    Ret (lexCommentLoc lines).toks (lexCommentLoc lines).err
      (fun d => ∃ t0 ts, (lexCommentLoc lines).toks = t0 :: ts ∧ 3 ≤ t0.start.col ∧
        d.span.start = ⟨t0.start.row, t0.start.col - 3⟩ ∧ DocPartsOk (lexCommentLoc lines).toks d)
      (parseCommentLocG san lines) := by
  unfold parseCommentLocG
  cases lines with
  | nil => trivial
  | cons l0 ls =>
    dsimp only
    have hne := lexCommentLoc_nonempty l0 ls
    generalize lexCommentLoc (l0 :: ls) = lx at hne ⊢
    obtain ⟨toks, err⟩ := lx
    dsimp only at hne ⊢
    refine (parseLinesLoc_spec _ l0.start toks (List.suffix_refl _) (Nat.lt_succ_self _)).bind ?_
    rintro ⟨mls, lk, stop, rest⟩ ⟨j1, j2, j3⟩
    refine (reduceLinesLoc_spec san _ stop mls lk rest j1).bind ?_
    intro ov hov
    refine (createDocComment_spec ov _).bind ?_
    rintro c ⟨hcol, hc⟩
    cases toks with
    | nil =>
      -- an empty stream comes with a lexer error, which the end of the input reports
      rw [List.suffix_nil.mp j1]
      cases err with
      | none => exact absurd rfl (hne rfl)
      | some e => exact ⟨Or.inr ⟨e, rfl, rfl⟩, fun h => by cases h⟩
    | cons t0 ts =>
      have ht0 : t0 ∈ t0 :: ts := List.mem_cons_self
      -- the location handed to `create_doc_comment` is the start of the first token
      have hfacts : 3 ≤ t0.start.col ∧ c.span.start = ⟨t0.start.row, t0.start.col - 3⟩ ∧ DocPartsOk (t0 :: ts) c := by
        subst hc
        cases hov with
        | inl o =>
          -- no overview: nothing was consumed, the look-ahead is the first token
          obtain ⟨o1, rfl⟩ := o
          obtain ⟨_, _, rfl⟩ := j3.resolve_right (fun k => k.1 o1)
          exact ⟨hcol, rfl, .create (Bnd.start ht0) (fun _ h => by cases h)⟩
        | inr o =>
          -- an overview: it starts with the first token
          obtain ⟨o1, v, rfl⟩ := o
          have hstop := (j3.resolve_left (fun k => o1 k.1)).2
          refine ⟨hcol, rfl, .create hstop fun m' hm' => ?_⟩
          cases hm'
          exact ⟨⟨Bnd.start ht0, hstop⟩, j2⟩
      exact (parseBlocksLoc_spec san _ c rest _ j1 (Nat.lt_succ_self _) hfacts.2).mono fun d hd => ⟨t0, ts, rfl, hfacts.1, hd⟩

end

/-- **the spans of a parsed comment are made of token boundaries**: the comment starts three columns left of the first
    token of its stream; its end and both ends of the span of every part (overview, tags, tag identifiers, messages, inline
    links, link identifiers, see tags) are the start or the end of a token of the comment's located token stream -/
theorem parseCommentLocG_ok (san : Sanitizer) (lines : List CLine) (d : LDoc) (h : parseCommentLocG san lines = .ok d) :
    ∃ t0 ts, (lexCommentLoc lines).toks = t0 :: ts ∧ 3 ≤ t0.start.col ∧
      d.span.start = ⟨t0.start.row, t0.start.col - 3⟩ ∧ DocPartsOk (lexCommentLoc lines).toks d := by
  have hs := parseCommentLocG_spec san lines
  rw [h] at hs
  exact hs

/-- **where a rejected comment is reported**: at a token of the comment's stream, or at the lexer's error -/
theorem parseCommentLocG_fail (san : Sanitizer) (lines : List CLine) (f : LFail) (h : parseCommentLocG san lines = .fail f) :
    FailOk (lexCommentLoc lines).toks (lexCommentLoc lines).err f := by
  have hs := parseCommentLocG_spec san lines
  rw [h] at hs
  exact hs.1

/-- **the parser never runs out of tokens**: `UnrecognizedEof` is not a possible outcome -/
theorem parseCommentLocG_not_eof (san : Sanitizer) (lines : List CLine) : parseCommentLocG san lines ≠ .fail .eof := by
  intro h
  have hs := parseCommentLocG_spec san lines
  rw [h] at hs
  exact hs.2 rfl (lexCommentLoc_nlTail lines hs.1)

end Slicec.CLoc
