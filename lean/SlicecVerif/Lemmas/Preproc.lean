/-
  C06, the lexer of the preprocessor model (`Model/Preproc.lean`), located: the cursor's location is `locAt` of its offset
  (`CurInv`, carried along `Eats`), so in the located stream `lexAllE` (`Model/PreprocErrors.lean`; `lexAll` is it cut at
  its error, `lexAll_of_E`) every token has a span in the file and the blocks are a chain of located substrings of it
  (`lexAllE_facts`, `lexPre_chain`).
-/
import SlicecVerif.Model.PreprocErrors
import SlicecVerif.Lemmas.Basic

namespace Slicec.Pp

theorem exists_add_one_of_le {a n : Nat} (h : a + 1 ≤ n) : ∃ m, n = m + 1 := ⟨n - 1, by omega⟩

structure CurInv (f : List Char) (c : Cur) : Prop where
  le : c.off ≤ f.length
  rest : c.rest = f.drop c.off
  loc : c.loc = locAt f c.off

def SpanIn (f : List Char) (s e : Loc) : Prop := ∃ i j, i ≤ j ∧ j ≤ f.length ∧ s = locAt f i ∧ e = locAt f j

theorem SpanIn.right {f : List Char} {s e : Loc} (h : SpanIn f s e) : SpanIn f e e := by
  obtain ⟨i, j, _, h2, _, h4⟩ := h
  exact ⟨j, j, Nat.le_refl _, h2, h4, h4⟩

theorem locAt_add (f : List Char) (a n : Nat) : locAt f (a + n) = ((f.drop a).take n).foldl advance (locAt f a) := by
  unfold locAt
  rw [List.take_add, List.foldl_append]

def noNl (l : List Char) : Prop := ∀ x ∈ l, x ≠ '\n'

theorem noNl_nil : noNl [] := fun _ hx => by cases hx

theorem noNl_singleton {c : Char} (h : c ≠ '\n') : noNl [c] := fun x hx => by
  rw [List.mem_singleton.mp hx]; exact h

theorem noNl_append {a b : List Char} (ha : noNl a) (hb : noNl b) : noNl (a ++ b) := fun x hx =>
  (List.mem_append.mp hx).elim (ha x) (hb x)

theorem noNl_takeWhile (p : Char → Bool) (hp : p '\n' = false) (l : List Char) : noNl (l.takeWhile p) := by
  intro x hx e
  have := of_mem_takeWhile hx
  rw [e, hp] at this
  cases this

theorem isWs_nl : isWs '\n' = true := by decide
theorem isInlineWs_nl : isInlineWs '\n' = false := by decide
theorem isIdentChar_nl : isIdentChar '\n' = false := by decide
theorem notNewline_nl : notNewline '\n' = false := by decide

theorem advance_noNl (row col : Nat) (c : Char) (h : c ≠ '\n') : advance ⟨row, col⟩ c = ⟨row, col + 1⟩ := by
  simp [advance, h]

theorem foldl_advance_noNl (l : List Char) (h : noNl l) : ∀ (row col : Nat),
    l.foldl advance ⟨row, col⟩ = ⟨row, col + l.length⟩ := by
  induction l with
  | nil => intro row col; rfl
  | cons c l ih =>
    intro row col
    simp only [List.foldl_cons, advance_noNl row col c (h c (by simp)), List.length_cons]
    rw [ih (fun x hx => h x (by simp [hx]))]
    simp only [Loc.mk.injEq, true_and]; omega

/-- `b` is the cursor `a` after consuming the piece `p` of its input.  All that the lexer lemmas say about where a
    cursor is (invariant, offsets, rows, remaining input) is read off this relation. -/
structure Eats (a : Cur) (p : List Char) (b : Cur) : Prop where
  rest : a.rest = p ++ b.rest
  off : b.off = a.off + p.length
  loc : b.loc = p.foldl advance a.loc

theorem Eats.refl (a : Cur) : Eats a [] a := ⟨rfl, rfl, rfl⟩

theorem Eats.trans {a b c : Cur} {p q : List Char} (h1 : Eats a p b) (h2 : Eats b q c) : Eats a (p ++ q) c :=
  ⟨by rw [h1.rest, h2.rest, List.append_assoc], by rw [h2.off, h1.off, List.length_append, Nat.add_assoc],
    by rw [h2.loc, h1.loc, List.foldl_append]⟩

theorem eats_adv (a : Cur) : Eats a (a.rest.take 1) a.adv := by
  obtain ⟨rest, o, l⟩ := a
  cases rest <;> exact ⟨rfl, rfl, rfl⟩

theorem peek_cons {a : Cur} {ch : Char} {r : List Char} (h : a.rest = ch :: r) : a.peek = some ch := by
  rw [Cur.peek, h]; rfl

theorem eats_adv_peek {a : Cur} {x : Char} (h : a.peek = some x) : Eats a [x] a.adv := by
  obtain ⟨_ | ⟨ch, r⟩, o, l⟩ := a <;> cases h
  exact ⟨rfl, rfl, rfl⟩

theorem eats_adv_cons {a : Cur} {ch : Char} {r : List Char} (h : a.rest = ch :: r) : Eats a [ch] a.adv :=
  eats_adv_peek (peek_cons h)

theorem skipWhileAux_eq (p : Char → Bool) (rest : List Char) (o : Nat) (l : Loc) :
    skipWhileAux p rest o l = ⟨rest.dropWhile p, o + (rest.takeWhile p).length, (rest.takeWhile p).foldl advance l⟩ := by
  fun_induction skipWhileAux p rest o l
  case case1 => rfl
  case case2 hp ih =>
    simp only [ih, List.dropWhile_cons, List.takeWhile_cons, hp, ↓reduceIte, List.length_cons, List.foldl_cons,
      Nat.add_assoc, Nat.add_comm 1]
  case case3 hp => simp [hp]

theorem eats_skipWhile (p : Char → Bool) (a : Cur) : Eats a (a.rest.takeWhile p) (a.skipWhile p) := by
  unfold Cur.skipWhile
  rw [skipWhileAux_eq]
  exact ⟨List.takeWhile_append_dropWhile.symm, rfl, rfl⟩

theorem eats_skipWs (a : Cur) : Eats a (a.rest.takeWhile isInlineWs) a.skipWs := eats_skipWhile _ a
theorem eats_toEol (a : Cur) : Eats a (a.rest.takeWhile notNewline) a.toEol := eats_skipWhile _ a

theorem Cur.skipWhile_rest (p : Char → Bool) (c : Cur) : (c.skipWhile p).rest = c.rest.dropWhile p := by
  unfold Cur.skipWhile; rw [skipWhileAux_eq]

theorem Cur.adv_cons (ch : Char) (r : List Char) (o : Nat) (l : Loc) :
    Cur.adv ⟨ch :: r, o, l⟩ = ⟨r, o + 1, advance l ch⟩ := rfl

theorem Cur.adv_rest (c : Cur) : c.adv.rest = c.rest.tail := by
  unfold Cur.adv
  cases h : c.rest with
  | nil => simp [h]
  | cons ch r => simp

theorem Cur.skipWs_rest (c : Cur) : c.skipWs.rest = c.rest.dropWhile isInlineWs := Cur.skipWhile_rest _ c
theorem Cur.toEol_rest (c : Cur) : c.toEol.rest = c.rest.dropWhile notNewline := Cur.skipWhile_rest _ c

theorem Eats.inv {f : List Char} {a b : Cur} {p : List Char} (h : Eats a p b) (ha : CurInv f a) : CurInv f b := by
  have hd : f.drop a.off = p ++ b.rest := by rw [← ha.rest, h.rest]
  have hl := congrArg List.length hd
  rw [List.length_drop, List.length_append] at hl
  have hle := ha.le
  refine ⟨by rw [h.off]; omega, ?_, ?_⟩
  · rw [h.off, ← List.drop_drop, hd, List.drop_left]
  · rw [h.off, locAt_add, hd, List.take_left, h.loc, ha.loc]

theorem Eats.le {a b : Cur} {p : List Char} (h : Eats a p b) : a.off ≤ b.off := by
  rw [h.off]; omega

theorem Eats.span {f : List Char} {a b : Cur} {p : List Char} (h : Eats a p b) (ha : CurInv f a) : SpanIn f a.loc b.loc :=
  ⟨a.off, b.off, h.le, (h.inv ha).le, ha.loc, (h.inv ha).loc⟩

theorem Eats.row {a b : Cur} {p : List Char} (h : Eats a p b) (hp : noNl p) : b.loc.row = a.loc.row := by
  rw [h.loc, foldl_advance_noNl p hp]

def PTok.notBlock : PTok → Prop
  | .block _ => False
  | _ => True

def DirStep.Between (s e : Loc) : DirStep → Prop
  | .tok t => t.s = s ∧ t.e = e ∧ t.tok.notBlock
  | .err x => x.s = s ∧ x.e = e
  | .skip => True

theorem noNl_take_one {a : Cur} (h : a.peek ≠ some '\n') : noNl (a.rest.take 1) := by
  cases hr : a.rest with
  | nil => exact noNl_nil
  | cons ch r => exact noNl_singleton (fun e => h (by rw [peek_cons hr, e]))

theorem lexKeyword_step (a : Cur) (h : a.peek ≠ some '\n') :
    ∃ p, noNl p ∧ Eats a p (lexKeyword a).2 ∧ (lexKeyword a).1.Between a.loc (lexKeyword a).2.loc := by
  have he := ((eats_adv a).trans (eats_skipWs a.adv)).trans (eats_skipWhile isIdentChar a.adv.skipWs)
  have hn := noNl_append (noNl_append (noNl_take_one h) (noNl_takeWhile _ isInlineWs_nl a.adv.rest))
    (noNl_takeWhile _ isIdentChar_nl a.adv.skipWs.rest)
  unfold lexKeyword
  simp only
  split
  · exact ⟨_, hn, he, rfl, rfl, trivial⟩
  · exact ⟨_, hn, he, rfl, rfl⟩

inductive DirK where
  | tok (t : PTok)
  | err
  | skip
  deriving DecidableEq

def DirStep.kind : DirStep → DirK
  | .tok t => .tok t.tok
  | .err _ => .err
  | .skip => .skip

/-- the `'#'` arm on the characters after the `#` -/
def kwK (r : List Char) : DirK × List Char :=
  let r1 := r.dropWhile isInlineWs
  match directiveOf (String.ofList (r1.takeWhile isIdentChar)) with
  | .ok k => (.tok (.kw k), r1.dropWhile isIdentChar)
  | .error _ => (.err, r1.dropWhile isIdentChar)

/-- `lex_next_preprocessor_token` on the remaining input `c :: r` alone: the token kind and the input left, no positions -/
def dirTokK (c : Char) (r : List Char) : DirK × List Char :=
  if c = '(' then (.tok .lpar, r)
  else if c = ')' then (.tok .rpar, r)
  else if c = '!' then (.tok .not, r)
  else if c = '&' then (if r.head? = some '&' then (.tok .and, r.tail) else (.err, r))
  else if c = '|' then (if r.head? = some '|' then (.tok .or, r.tail) else (.err, r))
  else if c = '#' then kwK r
  else if c = '/' then (if r.head? = some '/' then (.skip, r.dropWhile notNewline) else (.err, r))
  else if isAsciiAlpha c then
    (.tok (.ident (String.ofList ((c :: r).takeWhile isIdentChar))), (c :: r).dropWhile isIdentChar)
  else if !isWs c then (.err, r)
  else if c = '\n' then (.tok .dend, c :: r)
  else (.err, c :: r)

/-- The arms of `lex_next_preprocessor_token` on the peeked character `c`: what the model does to the lexer state and
    what `dirTokK` does to the input after `c`.  `single`: `(`, `)`, `!`; `double`: `&&`, `||` or a lone `&`, `|`;
    `slash`: a `//` comment or a lone `/`; `symbol`: any other character that is not whitespace; `space`: the arm
    that is left, in the source whitespace other than a newline (a panic in the Rust code); the constructor itself asks
    nothing of `c`. -/
inductive DirArm (c : Char) : (LexSt → DirStep × LexSt) → (List Char → DirK × List Char) → Prop
  | single (t : PTok) : t ≠ .dend → t.notBlock → c ≠ '\n' → DirArm c
      (fun st => (.tok ⟨st.cur.loc, t, st.cur.adv.loc⟩, { st with cur := st.cur.adv }))
      (fun r => (.tok t, r))
  | double (t : PTok) (x : Char) (s : String) : t ≠ .dend → t.notBlock → c ≠ '\n' → x ≠ '\n' → DirArm c
      (fun st =>
        if st.cur.adv.peek = some x then (.tok ⟨st.cur.loc, t, st.cur.adv.adv.loc⟩, { st with cur := st.cur.adv.adv })
        else (.err ⟨st.cur.loc, .unknownSymbol s, st.cur.adv.loc⟩, { st with cur := st.cur.adv }))
      (fun r => if r.head? = some x then (.tok t, r.tail) else (.err, r))
  | hash : c = '#' → DirArm c (fun st => ((lexKeyword st.cur).1, { st with cur := (lexKeyword st.cur).2 })) kwK
  | slash : c ≠ '\n' → DirArm c
      (fun st =>
        if st.cur.adv.peek = some '/' then (.skip, { st with cur := st.cur.adv.toEol })
        else (.err ⟨st.cur.loc, .unknownSymbol "/", st.cur.adv.loc⟩, { st with cur := st.cur.adv }))
      (fun r => if r.head? = some '/' then (.skip, r.dropWhile notNewline) else (.err, r))
  | ident : isAsciiAlpha c = true → DirArm c
      (fun st => (.tok ⟨st.cur.loc, .ident (String.ofList (st.cur.rest.takeWhile isIdentChar)),
        (st.cur.skipWhile isIdentChar).loc⟩, { st with cur := st.cur.skipWhile isIdentChar }))
      (fun r => (.tok (.ident (String.ofList ((c :: r).takeWhile isIdentChar))), (c :: r).dropWhile isIdentChar))
  | symbol (s : String) : c ≠ '\n' → DirArm c
      (fun st => (.err ⟨st.cur.loc, .unknownSymbol s, st.cur.adv.loc⟩, { st with cur := st.cur.adv }))
      (fun r => (.err, r))
  | dend : c = '\n' → DirArm c (fun st => (.tok ⟨st.cur.loc, .dend, st.cur.loc⟩, { st with mode := .unknown }))
      (fun r => (.tok .dend, c :: r))
  | space : DirArm c (fun st => (.err ⟨st.cur.loc, .panicWs, st.cur.loc⟩, st)) (fun r => (.err, c :: r))

theorem dirArm (c : Char) : DirArm c (lexDirTok c) (dirTokK c) := by
  -- the arm of one particular character is an evaluation of the two cascades
  by_cases h1 : c = '('
  · subst h1; exact .single .lpar nofun trivial (by decide)
  by_cases h2 : c = ')'
  · subst h2; exact .single .rpar nofun trivial (by decide)
  by_cases h3 : c = '!'
  · subst h3; exact .single .not nofun trivial (by decide)
  by_cases h4 : c = '&'
  · subst h4; exact .double .and '&' "&" nofun trivial (by decide) (by decide)
  by_cases h5 : c = '|'
  · subst h5; exact .double .or '|' "|" nofun trivial (by decide) (by decide)
  by_cases h6 : c = '#'
  · subst h6; exact .hash rfl
  by_cases h7 : c = '/'
  · subst h7; exact .slash (by decide)
  by_cases h10 : c = '\n'
  · subst h10; exact .dend rfl
  unfold lexDirTok simpleTok dirTokK
  simp only [if_neg h1, if_neg h2, if_neg h3, if_neg h4, if_neg h5, if_neg h6, if_neg h7, if_neg h10]
  by_cases h8 : isAsciiAlpha c = true
  · simp only [if_pos h8]; exact .ident h8
  simp only [if_neg h8]
  by_cases h9 : (!isWs c) = true
  · simp only [if_pos h9]; exact .symbol _ h10
  · simp only [if_neg h9]; exact .space

theorem lexKeyword_kind (cur : Cur) (r : List Char) (h : cur.rest = '#' :: r) :
    (lexKeyword cur).1.kind = (kwK r).1 ∧ (lexKeyword cur).2.rest = (kwK r).2 := by
  obtain ⟨rest, o, l⟩ := cur
  simp only at h
  subst h
  unfold lexKeyword kwK
  simp only [Cur.adv, Cur.skipWs_rest]
  split <;> simp [DirStep.kind, Cur.skipWs_rest, Cur.skipWhile_rest, *]

theorem kwK_ne_dend (r : List Char) : (kwK r).1 ≠ .tok .dend := by
  unfold kwK
  dsimp only
  split <;> simp

theorem lexDirTok_spec (c : Char) (st : LexSt) (r : List Char) (h : st.cur.rest = c :: r) :
    (∃ p, noNl p ∧ Eats st.cur p (lexDirTok c st).2.cur) ∧
      (lexDirTok c st).1.Between st.cur.loc (lexDirTok c st).2.cur.loc ∧
      (lexDirTok c st).1.kind = (dirTokK c r).1 ∧ (lexDirTok c st).2.cur.rest = (dirTokK c r).2 ∧
      (lexDirTok c st).2.mode = if (dirTokK c r).1 = .tok .dend then .unknown else st.mode := by
  have one : c ≠ '\n' → ∃ p, noNl p ∧ Eats st.cur p st.cur.adv := fun hc => ⟨_, noNl_singleton hc, eats_adv_cons h⟩
  have hadv : st.cur.adv.rest = r := by rw [Cur.adv_rest, h]; rfl
  have hpk : ∀ x, (st.cur.adv.peek = some x) = (r.head? = some x) := fun x => by rw [Cur.peek, hadv]
  have ha := dirArm c
  generalize lexDirTok c = G at ha ⊢
  generalize dirTokK c = g at ha ⊢
  -- each arm's two functions are applied to `st` and `r` once here, not again by each `rfl` below
  cases ha <;> dsimp only
  case single t ht hb hc => exact ⟨one hc, ⟨rfl, rfl, hb⟩, rfl, hadv, by simp [ht]⟩
  case double t x s ht hb hc hx =>
    obtain ⟨_, hn, he⟩ := one hc
    by_cases hh : r.head? = some x
    · simp only [hpk, if_pos hh]
      exact ⟨⟨_, noNl_append hn (noNl_singleton hx), he.trans (eats_adv_peek (by rw [hpk]; exact hh))⟩, ⟨rfl, rfl, hb⟩, rfl,
        by rw [Cur.adv_rest, hadv], by simp [ht]⟩
    · simp only [hpk, if_neg hh]
      exact ⟨⟨_, hn, he⟩, ⟨rfl, rfl⟩, rfl, hadv, by simp⟩
  case hash hc =>
    subst hc
    obtain ⟨p, hn, he, hb⟩ := lexKeyword_step st.cur (by rw [peek_cons h]; decide)
    exact ⟨⟨p, hn, he⟩, hb, (lexKeyword_kind st.cur r h).1, (lexKeyword_kind st.cur r h).2, by rw [if_neg (kwK_ne_dend r)]⟩
  case slash hc =>
    obtain ⟨_, hn, he⟩ := one hc
    by_cases hh : r.head? = some '/'
    · simp only [hpk, if_pos hh]
      exact ⟨⟨_, noNl_append hn (noNl_takeWhile _ notNewline_nl _), he.trans (eats_toEol _)⟩, trivial, rfl,
        by rw [Cur.toEol_rest, hadv], by simp⟩
    · simp only [hpk, if_neg hh]
      exact ⟨⟨_, hn, he⟩, ⟨rfl, rfl⟩, rfl, hadv, by simp⟩
  case ident _ =>
    exact ⟨⟨_, noNl_takeWhile _ isIdentChar_nl _, eats_skipWhile isIdentChar st.cur⟩, ⟨rfl, rfl, trivial⟩,
      by simp only [DirStep.kind, h], by rw [Cur.skipWhile_rest, h], by simp⟩
  case symbol s hc => exact ⟨one hc, ⟨rfl, rfl⟩, rfl, hadv, by simp⟩
  case dend _ => exact ⟨⟨_, noNl_nil, Eats.refl _⟩, ⟨rfl, rfl, trivial⟩, rfl, h, by simp⟩
  case space => exact ⟨⟨_, noNl_nil, Eats.refl _⟩, ⟨rfl, rfl⟩, rfl, h, by simp⟩

theorem nextLoop_nil (f : List Char) (n : Nat) (st : LexSt) (start : Option (Loc × Nat)) (h : st.cur.rest = []) :
    nextLoop f (n + 1) st start =
      match st.mode with
      | .sourceBlock => (some (mkBlock f start f.length st.cur.loc), { st with mode := .unknown })
      | .directive => (some (.ok ⟨st.cur.loc, .dend, st.cur.loc⟩), { st with mode := .unknown })
      | .unknown => (none, st) := by
  rw [nextLoop, h]
  rfl

theorem nextLoop_cons (f : List Char) (n : Nat) (st : LexSt) (start : Option (Loc × Nat)) (c : Char) (r : List Char)
    (h : st.cur.rest = c :: r) :
    nextLoop f (n + 1) st start =
      if st.mode = .directive then
        match lexDirTok c st with
        | (.tok t, st') => (some (.ok t), st')
        | (.err e, st') => (some (.error e), st')
        | (.skip, st') => nextLoop f n { st' with cur := st'.cur.skipWs } start
      else if c = '\n' then
        nextLoop f n { st with cur := st.cur.adv.skipWs } start
      else if c = '#' then
        match st.mode with
        | .sourceBlock => (some (mkBlock f start st.cur.off st.cur.loc), { st with mode := .directive })
        | _ =>
          match lexKeyword st.cur with
          | (.tok t, cur') => (some (.ok t), { cur := cur', mode := .directive })
          | (.err e, cur') => (some (.error e), { cur := cur', mode := .directive })
          | (.skip, cur') => (none, { cur := cur', mode := .directive })
      else
        nextLoop f n { cur := st.cur.toEol.skipWs, mode := .sourceBlock }
          (if st.mode = .unknown then some (st.cur.loc, st.cur.off) else start) := by
  rw [nextLoop, h]
  rfl

def Block.ok (f : List Char) (lo hi : Nat) (b : Block) : Prop :=
  lo ≤ b.off ∧ b.off + b.content.length ≤ hi ∧ b.start = locAt f b.off ∧
  b.content = (f.drop b.off).take b.content.length

/-- What one call of `next()` returns, `lo` being the offset at which the call began and `hi` the cursor after it: the
    span of a token or error lies in the file, and a block (like a pending start, `StartOK`) between `lo` and `hi`. -/
def ResOK (f : List Char) (lo hi : Nat) : Option (Except LexErr LTok) → Prop
  | some (.ok t) => SpanIn f t.s t.e ∧ ∀ b, t.tok = .block b → b.ok f lo hi
  | some (.error e) => SpanIn f e.s e.e
  | none => True

theorem resOK_tok {f : List Char} {lo hi : Nat} {t : LTok} (hs : SpanIn f t.s t.e) (hn : t.tok.notBlock) :
    ResOK f lo hi (some (.ok t)) :=
  ⟨hs, fun b hb => by rw [hb] at hn; exact hn.elim⟩

theorem resOK_step {f : List Char} {lo hi : Nat} {a b : Cur} {p : List Char} (he : Eats a p b) (ha : CurInv f a) :
    (∀ t, (DirStep.tok t).Between a.loc b.loc → ResOK f lo hi (some (.ok t))) ∧
    (∀ e, (DirStep.err e).Between a.loc b.loc → ResOK f lo hi (some (.error e))) := by
  refine ⟨fun t h => resOK_tok ?_ h.2.2, fun e h => ?_⟩
  · rw [h.1, h.2.1]; exact he.span ha
  · show SpanIn f e.s e.e
    rw [h.1, h.2]; exact he.span ha

def StartOK (f : List Char) (lo hi : Nat) (start : Option (Loc × Nat)) : Prop :=
  ∀ l p, start = some (l, p) → l = locAt f p ∧ lo ≤ p ∧ p ≤ hi

theorem StartOK.mono {f : List Char} {start : Option (Loc × Nat)} {lo a b : Nat} (h : StartOK f lo a start) (hab : a ≤ b) :
    StartOK f lo b start := fun l p hs =>
  have ⟨h1, h2, h3⟩ := h l p hs
  ⟨h1, h2, Nat.le_trans h3 hab⟩

theorem mkBlock_ok (f : List Char) (lo : Nat) (start : Option (Loc × Nat)) (cur : Cur) (hc : CurInv f cur)
    (hs : StartOK f lo cur.off start) : ResOK f lo cur.off (some (mkBlock f start cur.off cur.loc)) := by
  unfold mkBlock
  split
  · rename_i l p
    obtain ⟨h1, h2, h3⟩ := hs l p rfl
    have he := hc.le
    have hlen : ((f.drop p).take (cur.off - p)).length = cur.off - p := by
      rw [List.length_take, List.length_drop]; omega
    refine ⟨⟨p, cur.off, h3, he, h1, hc.loc⟩, fun b hb => ?_⟩
    cases hb
    refine ⟨h2, ?_, h1, ?_⟩
    · simp only [hlen]; omega
    · simp only [hlen]
  · exact (Eats.refl cur).span hc

theorem nextLoop_facts (f : List Char) : ∀ (fuel : Nat) (st : LexSt) (start : Option (Loc × Nat)) (lo : Nat),
    CurInv f st.cur → StartOK f lo st.cur.off start → lo ≤ st.cur.off →
    CurInv f (nextLoop f fuel st start).2.cur ∧ st.cur.off ≤ (nextLoop f fuel st start).2.cur.off ∧
    ResOK f lo (nextLoop f fuel st start).2.cur.off (nextLoop f fuel st start).1 := by
  intro fuel
  induction fuel with
  | zero => intro st start lo h _ _; exact ⟨h, Nat.le_refl _, trivial⟩
  | succ fuel ih =>
    intro st start lo hinv hstart hlo
    have again : ∀ (p : List Char) (cur' : Cur) (m : Mode) (start' : Option (Loc × Nat)), Eats st.cur p cur' →
        StartOK f lo st.cur.off start' →
        CurInv f (nextLoop f fuel ⟨cur', m⟩ start').2.cur ∧ st.cur.off ≤ (nextLoop f fuel ⟨cur', m⟩ start').2.cur.off ∧
        ResOK f lo (nextLoop f fuel ⟨cur', m⟩ start').2.cur.off (nextLoop f fuel ⟨cur', m⟩ start').1 := by
      intro p cur' m start' hr hs
      have hi' := hr.inv hinv
      have hle := hr.le
      have := ih ⟨cur', m⟩ start' lo hi' (hs.mono hle) (Nat.le_trans hlo hle)
      exact ⟨this.1, Nat.le_trans hle this.2.1, this.2.2⟩
    cases hrest : st.cur.rest with
    | nil =>
      have hoff : f.length = st.cur.off := by
        have h1 := hinv.rest
        rw [hrest] at h1
        have := List.drop_eq_nil_iff.mp h1.symm
        have := hinv.le
        omega
      rw [nextLoop_nil f fuel st start hrest, hoff]
      split
      · exact ⟨hinv, Nat.le_refl _, mkBlock_ok f lo start st.cur hinv hstart⟩
      · exact ⟨hinv, Nat.le_refl _, resOK_tok ((Eats.refl st.cur).span hinv) trivial⟩
      · exact ⟨hinv, Nat.le_refl _, trivial⟩
    | cons c r =>
      rw [nextLoop_cons f fuel st start c r hrest]
      by_cases hm : st.mode = .directive
      · rw [if_pos hm]
        obtain ⟨⟨p, _, he⟩, hb, _⟩ := lexDirTok_spec c st r hrest
        generalize lexDirTok c st = x at he hb ⊢
        obtain ⟨ds, st'⟩ := x
        cases ds with
        | tok t => exact ⟨he.inv hinv, he.le, (resOK_step he hinv).1 t hb⟩
        | err e => exact ⟨he.inv hinv, he.le, (resOK_step he hinv).2 e hb⟩
        | skip => exact again _ _ _ _ (he.trans (eats_skipWs _)) hstart
      rw [if_neg hm]
      by_cases hn : c = '\n'
      · rw [if_pos hn]
        exact again _ _ _ _ ((eats_adv st.cur).trans (eats_skipWs _)) hstart
      rw [if_neg hn]
      by_cases hc : c = '#'
      · rw [if_pos hc]
        split
        · exact ⟨hinv, Nat.le_refl _, mkBlock_ok f lo start st.cur hinv hstart⟩
        · obtain ⟨p, _, he, hb⟩ := lexKeyword_step st.cur (by rw [peek_cons hrest, hc]; decide)
          generalize lexKeyword st.cur = x at he hb ⊢
          obtain ⟨ds, cur'⟩ := x
          cases ds with
          | tok t => exact ⟨he.inv hinv, he.le, (resOK_step he hinv).1 t hb⟩
          | err e => exact ⟨he.inv hinv, he.le, (resOK_step he hinv).2 e hb⟩
          | skip => exact ⟨he.inv hinv, he.le, trivial⟩
      · rw [if_neg hc]
        refine again _ _ _ _ ((eats_toEol st.cur).trans (eats_skipWs _)) (fun l p h => ?_)
        split at h
        · cases h
          exact ⟨hinv.loc, hlo, Nat.le_refl _⟩
        · exact hstart l p h

theorem lexNext_facts (f : List Char) (st : LexSt) (h : CurInv f st.cur) :
    CurInv f (lexNext f st).2.cur ∧ st.cur.off ≤ (lexNext f st).2.cur.off ∧
    ResOK f st.cur.off (lexNext f st).2.cur.off (lexNext f st).1 := by
  unfold lexNext
  have h2 := (eats_skipWs st.cur).inv h
  have hle := (eats_skipWs st.cur).le
  have := nextLoop_facts f (st.cur.rest.length + 1) { st with cur := st.cur.skipWs } none st.cur.off h2
    (fun l p hs => by cases hs) hle
  exact ⟨this.1, Nat.le_trans hle this.2.1, this.2.2⟩

def blocksOfToks : List PTok → List Block
  | [] => []
  | .block b :: r => b :: blocksOfToks r
  | _ :: r => blocksOfToks r

def Chain (f : List Char) : Nat → List Block → Prop
  | _, [] => True
  | lo, b :: bs => b.ok f lo f.length ∧ Chain f (b.off + b.content.length) bs

theorem chain_iff {f : List Char} : ∀ {bs : List Block} {lo : Nat}, Chain f lo bs ↔
    (∀ b ∈ bs, b.ok f lo f.length) ∧ bs.Pairwise (fun a b => a.off + a.content.length ≤ b.off) := by
  intro bs
  induction bs with
  | nil => simp [Chain]
  | cons a bs ih =>
    intro lo
    simp only [Chain, ih, List.forall_mem_cons, List.pairwise_cons, Block.ok]
    constructor
    · rintro ⟨ha, hb, hp⟩
      exact ⟨⟨ha, fun b hb' => ⟨by have := (hb b hb').1; omega, (hb b hb').2⟩⟩, fun b hb' => (hb b hb').1, hp⟩
    · rintro ⟨⟨ha, hb⟩, hab, hp⟩
      exact ⟨ha, fun b hb' => ⟨hab b hb', (hb b hb').2⟩, hp⟩

theorem chain_mem {f : List Char} : ∀ {bs : List Block} {lo : Nat}, Chain f lo bs → ∀ b ∈ bs, b.ok f lo f.length :=
  fun h => (chain_iff.mp h).1

theorem chain_pairwise {f : List Char} : ∀ {bs : List Block} {lo : Nat}, Chain f lo bs →
    bs.Pairwise (fun a b => a.off + a.content.length ≤ b.off) :=
  fun h => (chain_iff.mp h).2

theorem Chain.weaken {f : List Char} {lo lo' : Nat} {bs : List Block} (h : Chain f lo bs) (hl : lo' ≤ lo) : Chain f lo' bs :=
  chain_iff.mpr ⟨fun b hb => ⟨Nat.le_trans hl (chain_mem h b hb).1, (chain_mem h b hb).2⟩, chain_pairwise h⟩

theorem Chain.sublist {f : List Char} {bs' bs : List Block} (hs : bs'.Sublist bs) : ∀ {lo : Nat}, Chain f lo bs → Chain f lo bs' :=
  fun h => chain_iff.mpr ⟨fun b hb => chain_mem h b (hs.subset hb), (chain_pairwise h).sublist hs⟩

theorem block_in_place (f : List Char) (lo hi : Nat) (b : Block) (h : b.ok f lo hi) (i : Nat) (hi' : i ≤ b.content.length) :
    (b.content.take i).foldl advance b.start = locAt f (b.off + i) := by
  obtain ⟨_, _, h3, h4⟩ := h
  rw [h3, h4, List.take_take, Nat.min_eq_left hi', locAt_add]

theorem lexAll_of_E (f : List Char) : ∀ (n : Nat) (st : LexSt),
    lexAll f n st = (match (lexAllE f n st).2 with
      | none => .ok (lexAllE f n st).1
      | some e => .error e) := by
  intro n st
  fun_induction lexAllE f n st
  case case1 => rfl
  case case2 h | case3 h => rw [lexAll, h]
  case case4 h r ih => rw [lexAll, h]; simp only [ih]; cases r.2 <;> rfl

theorem lexPre_of_E (f : List Char) :
    lexPre f = (match (lexPreLE f).2 with
      | none => .ok ((lexPreLE f).1.map (·.tok))
      | some e => .error e) := by
  have hL : lexPreL f = (match (lexPreLE f).2 with
      | none => .ok (lexPreLE f).1
      | some e => .error e) := lexAll_of_E f _ _
  unfold lexPre
  rw [hL]
  cases (lexPreLE f).2 <;> rfl

theorem lexAllE_facts (f : List Char) : ∀ (n : Nat) (st : LexSt), CurInv f st.cur →
    (∀ t ∈ (lexAllE f n st).1, SpanIn f t.s t.e) ∧ (∀ e, (lexAllE f n st).2 = some e → SpanIn f e.s e.e) ∧
    Chain f st.cur.off (blocksOfToks ((lexAllE f n st).1.map (·.tok))) := by
  intro n st
  fun_induction lexAllE f n st <;> intro hinv
  case case1 | case2 => exact ⟨by simp, by simp, trivial⟩
  case case3 st e _ h =>
    have hf := lexNext_facts f st hinv
    rw [h] at hf
    exact ⟨by simp, fun e' he' => by cases he'; exact hf.2.2, trivial⟩
  case case4 st t st' h r ih =>
    have hf := lexNext_facts f st hinv
    rw [h] at hf
    obtain ⟨hi', hle, hres⟩ := hf
    obtain ⟨h1, h2, hc⟩ := ih hi'
    refine ⟨List.forall_mem_cons.mpr ⟨hres.1, h1⟩, h2, ?_⟩
    obtain ⟨s, tok, e⟩ := t
    cases tok with
    | block b =>
      obtain ⟨b1, b2, b3, b4⟩ := hres.2 b rfl
      have := hi'.le
      exact ⟨⟨b1, by omega, b3, b4⟩, hc.weaken b2⟩
    | _ => exact hc.weaken hle

theorem lexPre_chain (f : List Char) (toks : List PTok) (h : lexPre f = .ok toks) : Chain f 0 (blocksOfToks toks) := by
  have hc := (lexAllE_facts f (2 * f.length + 3) (lexInit f) ⟨Nat.zero_le _, rfl, rfl⟩).2.2
  rw [lexPre_of_E] at h
  cases he : (lexPreLE f).2 with
  | some e => rw [he] at h; cases h
  | none => rw [he] at h; cases h; exact hc

end Slicec.Pp
