/-
  C17, over an arbitrary `FsEnv`: `remove_duplicate_file_paths` and the reference-merging loop are both first-occurrence
  de-duplication (`keepFirst`, against nothing and against the sources); the directory walk finds what `BelowDir` reaches
  (`mem_walk`); one argument is either refused with an E001 or walked (`refused`, `findStep_eq`), so a list discovers the
  slice files below those of its arguments that are not refused (`mem_discovered_iff`).
-/
import SlicecVerif.Model.Files

namespace Slicec

section
variable {P C : Type}

/-- `BelowDir env n p q`: `q` is reached from `p` by listing `n` nested directories (each step: `p` is a directory,
    `read_dir` succeeds, the next path is one of the children it returns) -/
inductive BelowDir (env : FsEnv P C) : Nat → P → P → Prop where
  | here (p : P) : BelowDir env 0 p p
  | child {n : Nat} {p c q : P} {cs : List P} :
      env.isDir p = true → env.readDir p = some cs → c ∈ cs → BelowDir env n c q → BelowDir env (n + 1) p q

/-- a path kept by the walk -/
def sliceLeaf (env : FsEnv P C) (q : P) : Prop := env.isDir q = false ∧ env.isFile q = true ∧ env.isSlice q = true

/-- the entries `find_slice_files` yields for the source list and, `refFound`, for the reference list (before
    de-duplication) -/
abbrev srcFound (env : FsEnv P C) (fuel : Nat) (sources : List P) : List (FilePath P C) := (findSliceFiles env fuel sources true).1
abbrev refFound (env : FsEnv P C) (fuel : Nat) (references : List P) : List (FilePath P C) := (findSliceFiles env fuel references false).1

variable [DecidableEq C]

/-- entries of `l` whose canonical path is neither in `seen` nor carried by an earlier entry of `l` -/
def keepFirst (seen : List C) : List (FilePath P C) → List (FilePath P C)
  | [] => []
  | f :: fs => if f.canon ∈ seen then keepFirst seen fs else f :: keepFirst (seen ++ [f.canon]) fs

/-- the entries `keepFirst` drops, in order: one duplicate warning each -/
def repeats (seen : List C) : List (FilePath P C) → List (FilePath P C)
  | [] => []
  | f :: fs => if f.canon ∈ seen then f :: repeats seen fs else repeats (seen ++ [f.canon]) fs

theorem removeDupLoop_eq (l acc : List (FilePath P C)) (d : List (FDiag P)) :
    removeDupLoop l acc d =
      (acc ++ keepFirst (acc.map (·.canon)) l, d ++ (repeats (acc.map (·.canon)) l).map (fun f => dupWarn f.path)) := by
  fun_induction removeDupLoop l acc d with
  | case1 => simp [keepFirst, repeats]
  | case2 f fs acc d h ih => rw [ih]; simp [keepFirst, repeats, h]
  | case3 f fs acc d h ih => rw [ih]; simp [keepFirst, repeats, h]

theorem removeDuplicates_eq (l : List (FilePath P C)) :
    removeDuplicates l = (keepFirst [] l, (repeats [] l).map (fun f => dupWarn f.path)) := by
  simp [removeDuplicates, removeDupLoop_eq]

/-- everything first-occurrence de-duplication does, in one induction -/
theorem keepFirst_spec (seen : List C) (l : List (FilePath P C)) :
    (keepFirst seen l).Sublist l ∧
    ((keepFirst seen l).map (·.canon)).Nodup ∧
    (∀ c, c ∈ (keepFirst seen l).map (·.canon) ↔ c ∈ l.map (·.canon) ∧ c ∉ seen) ∧
    (∀ f ∈ keepFirst seen l, ∃ pre post, l = pre ++ f :: post ∧ ∀ g ∈ pre, g.canon ≠ f.canon) ∧
    (keepFirst seen l).length + (repeats seen l).length = l.length := by
  induction l generalizing seen with
  | nil => simp [keepFirst, repeats]
  | cons g gs ih =>
    -- an entry kept further on stands behind `g`, whose canonical path was seen by then
    have later : ∀ seen', g.canon ∈ seen' → ∀ f ∈ keepFirst seen' gs,
        ∃ pre post, g :: gs = pre ++ f :: post ∧ ∀ x ∈ pre, x.canon ≠ f.canon := by
      intro seen' hg f hf
      obtain ⟨pre, post, e, hp⟩ := (ih seen').2.2.2.1 f hf
      have hns : f.canon ∉ seen' := (((ih seen').2.2.1 f.canon).1 (List.mem_map.2 ⟨f, hf, rfl⟩)).2
      exact ⟨g :: pre, post, by rw [e]; rfl, List.forall_mem_cons.2 ⟨fun hc => hns (hc ▸ hg), hp⟩⟩
    simp only [keepFirst, repeats]
    split
    · next hg =>
      obtain ⟨h1, h2, h3, _, h5⟩ := ih seen
      refine ⟨h1.cons g, h2, fun c => ?_, later seen hg, by simp only [List.length_cons]; omega⟩
      rw [h3, List.map_cons, List.mem_cons]
      exact ⟨fun ⟨a, b⟩ => ⟨Or.inr a, b⟩, fun ⟨a, b⟩ => ⟨a.resolve_left fun e => b (e ▸ hg), b⟩⟩
    · next hg =>
      obtain ⟨h1, h2, h3, _, h5⟩ := ih (seen ++ [g.canon])
      refine ⟨h1.cons_cons g, List.nodup_cons.2 ⟨fun hc => ((h3 _).1 hc).2 (by simp), h2⟩, fun c => ?_, ?_,
        by simp only [List.length_cons]; omega⟩
      · rw [List.map_cons, List.mem_cons, h3, List.map_cons, List.mem_cons, List.mem_append, List.mem_singleton]
        by_cases hcg : c = g.canon
        · simp [hcg, hg]
        · simp [hcg]
      · intro f hf
        rcases List.mem_cons.1 hf with rfl | hf
        · exact ⟨[], gs, rfl, by simp⟩
        · exact later _ (by simp) f hf

theorem keepFirst_subset {seen : List C} {l : List (FilePath P C)} {f : FilePath P C} (h : f ∈ keepFirst seen l) : f ∈ l :=
  (keepFirst_spec seen l).1.subset h

theorem keepFirst_nodup (seen : List C) (l : List (FilePath P C)) : ((keepFirst seen l).map (·.canon)).Nodup :=
  (keepFirst_spec seen l).2.1

theorem mem_keepFirst_canon (seen : List C) (l : List (FilePath P C)) (c : C) :
    c ∈ (keepFirst seen l).map (·.canon) ↔ c ∈ l.map (·.canon) ∧ c ∉ seen :=
  (keepFirst_spec seen l).2.2.1 c

theorem keepFirst_length (seen : List C) (l : List (FilePath P C)) :
    (keepFirst seen l).length + (repeats seen l).length = l.length :=
  (keepFirst_spec seen l).2.2.2.2

theorem keepFirst_eq_filter (seen : List C) (l : List (FilePath P C)) (hn : (l.map (·.canon)).Nodup) :
    keepFirst seen l = l.filter (fun f => decide (f.canon ∉ seen)) := by
  induction l generalizing seen with
  | nil => rfl
  | cons f fs ih =>
    rw [List.map_cons, List.nodup_cons] at hn
    rw [keepFirst, List.filter_cons]
    by_cases hf : f.canon ∈ seen
    · rw [if_pos hf, if_neg (by simpa using hf), ih seen hn.2]
    · rw [if_neg hf, if_pos (by simpa using hf), ih _ hn.2]
      congr 1
      apply List.filter_congr
      intro x hx
      have hne : x.canon ≠ f.canon := fun hc => hn.1 (List.mem_map.mpr ⟨x, hx, hc⟩)
      simp [hne]

theorem keepFirst_of_nodup (seen : List C) (l : List (FilePath P C)) (hs : ∀ f ∈ l, f.canon ∉ seen)
    (hn : (l.map (·.canon)).Nodup) : keepFirst seen l = l ∧ repeats seen l = [] := by
  have h : keepFirst seen l = l := by
    rw [keepFirst_eq_filter seen l hn, List.filter_eq_self]
    intro f hf
    simpa using hs f hf
  refine ⟨h, List.eq_nil_of_length_eq_zero ?_⟩
  have := keepFirst_length seen l
  rw [h] at this
  omega

theorem mergeReferences_eq (acc refs : List (FilePath P C)) :
    mergeReferences acc refs = acc ++ keepFirst (acc.map (·.canon)) refs := by
  induction refs generalizing acc with
  | nil => simp [mergeReferences, keepFirst]
  | cons r rs ih =>
    have step : mergeReferences acc (r :: rs) =
        mergeReferences (if r.canon ∈ acc.map (·.canon) then acc else acc ++ [r]) rs := rfl
    rw [step, keepFirst]
    split
    · exact ih acc
    · rw [ih]; simp

end

section
variable {P C : Type}

theorem walk_of_belowDir (env : FsEnv P C) {n : Nat} {p q : P} (hb : BelowDir env n p q) (hl : sliceLeaf env q) :
    ∀ fuel, n < fuel → q ∈ (walkFiles env fuel p).1 := by
  induction hb with
  | here p =>
    intro fuel hn
    cases fuel with
    | zero => cases hn
    | succ fuel => simp [walkFiles, hl.1, hl.2.1, hl.2.2]
  | child hd hr hc _ ih =>
    intro fuel hn
    cases fuel with
    | zero => cases hn
    | succ fuel =>
      simp only [walkFiles, hd, hr, if_true, List.flatMap_map]
      exact List.mem_flatMap.2 ⟨_, hc, ih hl fuel (Nat.lt_of_succ_lt_succ hn)⟩

theorem mem_walk (env : FsEnv P C) (fuel : Nat) (p q : P) :
    q ∈ (walkFiles env fuel p).1 ↔ ∃ n, n < fuel ∧ BelowDir env n p q ∧ sliceLeaf env q := by
  refine ⟨fun h => ?_, fun ⟨n, hn, hb, hl⟩ => walk_of_belowDir env hb hl fuel hn⟩
  induction fuel generalizing p with
  | zero => cases h
  | succ fuel ih =>
    unfold walkFiles at h
    split at h
    · next hd =>
      split at h
      · next cs hr =>
        simp only [List.flatMap_map, List.mem_flatMap] at h
        obtain ⟨c, hc, hq⟩ := h
        obtain ⟨n, hn, hb, hl⟩ := ih c hq
        exact ⟨n + 1, Nat.succ_lt_succ hn, BelowDir.child hd hr hc hb, hl⟩
      · cases h
    · next hd =>
      split at h
      · next hfs =>
        cases List.mem_singleton.1 h
        rw [Bool.and_eq_true] at hfs
        exact ⟨0, Nat.succ_pos _, BelowDir.here _, by simpa using hd, hfs.1, hfs.2⟩
      · cases h

theorem walk_diag_code (env : FsEnv P C) (fuel : Nat) (p : P) : ∀ d ∈ (walkFiles env fuel p).2, d.code = .io := by
  induction fuel generalizing p with
  | zero => simp [walkFiles]
  | succ fuel ih =>
    unfold walkFiles
    intro d hd
    split at hd
    · split at hd
      · simp only [List.flatMap_map, List.mem_flatMap] at hd
        obtain ⟨c, _, hc⟩ := hd
        exact ih c d hc
      · simp at hd; subst hd; rfl
    · split at hd <;> simp at hd

/-- the three guards in front of the walk: the argument is answered with an E001 and contributes nothing -/
def refused (env : FsEnv P C) (allowDirectories : Bool) (p : P) : Bool :=
  !env.pathExists p || (env.isFile p && !env.isSlice p) || (env.isDir p && !allowDirectories)

theorem findStep_eq (env : FsEnv P C) (fuel : Nat) (a : Bool) (p : P) :
    findStep env fuel a p = if refused env a p then ([], [ioErr p]) else walkFiles env fuel p := by
  unfold findStep refused
  cases env.pathExists p <;> cases (env.isFile p && !env.isSlice p) <;> cases (env.isDir p && !a) <;> rfl

theorem refused_iff (env : FsEnv P C) (a : Bool) (p : P) :
    refused env a p = true ↔
      env.pathExists p = false ∨ (env.isFile p = true ∧ env.isSlice p = false) ∨ (env.isDir p = true ∧ a = false) := by
  simp [refused, or_assoc]

theorem refused_false_iff (env : FsEnv P C) (a : Bool) (p : P) :
    refused env a p = false ↔
      env.pathExists p = true ∧ ¬(env.isFile p = true ∧ env.isSlice p = false) ∧ (env.isDir p = true → a = true) := by
  simp [refused, and_assoc]

theorem findStep_diag_code (env : FsEnv P C) (fuel : Nat) (a : Bool) (p : P) : ∀ d ∈ (findStep env fuel a p).2, d.code = .io := by
  intro d hd
  rw [findStep_eq] at hd
  split at hd
  · cases List.mem_singleton.1 hd
    rfl
  · exact walk_diag_code env fuel p d hd

theorem mem_findStep_iff (env : FsEnv P C) (fuel : Nat) (a : Bool) (p q : P) :
    q ∈ (findStep env fuel a p).1 ↔ refused env a p = false ∧ q ∈ (walkFiles env fuel p).1 := by
  rw [findStep_eq]
  cases refused env a p <;> simp

theorem mem_discovered_iff (env : FsEnv P C) (fuel : Nat) (paths : List P) (s : Bool) (q : P) :
    q ∈ discovered env fuel paths s ↔
      ∃ p ∈ paths, refused env (!s) p = false ∧ ∃ n, n < fuel ∧ BelowDir env n p q ∧ sliceLeaf env q := by
  simp only [discovered, List.mem_flatMap, mem_findStep_iff, mem_walk]

theorem mem_discovered (env : FsEnv P C) (fuel : Nat) (paths : List P) (s : Bool) (q : P)
    (h : q ∈ discovered env fuel paths s) :
    sliceLeaf env q ∧ ∃ p ∈ paths, env.pathExists p = true ∧ ∃ n, BelowDir env n p q := by
  obtain ⟨p, hp, hr, n, _, hb, hl⟩ := (mem_discovered_iff env fuel paths s q).mp h
  exact ⟨hl, p, hp, ((refused_false_iff env _ p).mp hr).1, n, hb⟩

theorem findSliceFiles_diag_code (env : FsEnv P C) (fuel : Nat) (paths : List P) (s : Bool) :
    ∀ d ∈ (findSliceFiles env fuel paths s).2, d.code = .io := by
  intro d hd
  simp only [findSliceFiles, createAll, List.mem_append, List.mem_flatMap, List.mem_filterMap] at hd
  rcases hd with ⟨p, _, hp⟩ | ⟨p, _, hp⟩
  · exact findStep_diag_code env fuel _ p d hp
  · split at hp
    · simp at hp; subst hp; rfl
    · simp at hp

theorem ioErr_mem_findSliceFiles (env : FsEnv P C) (fuel : Nat) (paths : List P) (s : Bool) (p : P) (hp : p ∈ paths)
    (h : refused env (!s) p = true) : ioErr p ∈ (findSliceFiles env fuel paths s).2 := by
  simp only [findSliceFiles, List.mem_append, List.mem_flatMap]
  exact Or.inl ⟨p, hp, by rw [findStep_eq, if_pos h]; exact List.mem_singleton.mpr rfl⟩

theorem mem_findSliceFiles (env : FsEnv P C) (fuel : Nat) (paths : List P) (s : Bool) (f : FilePath P C)
    (h : f ∈ (findSliceFiles env fuel paths s).1) :
    f.path ∈ discovered env fuel paths s ∧ env.canon f.path = some f.canon ∧ f.isSource = s := by
  simp only [findSliceFiles, createAll, List.mem_filterMap] at h
  obtain ⟨p, hp, hc⟩ := h
  cases hcp : env.canon p with
  | none => simp [hcp] at hc
  | some c =>
    simp [hcp] at hc
    subst hc
    exact ⟨hp, hcp, rfl⟩

end

section
variable {P C : Type} [DecidableEq C]

theorem resolve_filePaths (env : FsEnv P C) (fuel : Nat) (sources references : List P) :
    (resolveFilesFrom env fuel sources references).filePaths =
      keepFirst [] (srcFound env fuel sources) ++
      (keepFirst [] (refFound env fuel references)).filter
        (fun f => decide (f.canon ∉ (srcFound env fuel sources).map (·.canon))) := by
  simp only [resolveFilesFrom, removeDuplicates_eq]
  rw [mergeReferences_eq, keepFirst_eq_filter _ _ (keepFirst_nodup _ _)]
  congr 1
  apply List.filter_congr
  intro x _
  simp only [mem_keepFirst_canon, List.not_mem_nil, not_false_eq_true, and_true, srcFound]

theorem resolve_diags (env : FsEnv P C) (fuel : Nat) (sources references : List P) :
    (resolveFilesFrom env fuel sources references).diags =
      (findSliceFiles env fuel sources true).2 ++ (repeats [] (srcFound env fuel sources)).map (fun f => dupWarn f.path) ++
      (findSliceFiles env fuel references false).2 ++ (repeats [] (refFound env fuel references)).map (fun f => dupWarn f.path) ++
      ((resolveFilesFrom env fuel sources references).filePaths.filter (fun f => !env.readOk f.path)).map (fun f => ioErr f.path) := by
  simp only [resolveFilesFrom, removeDuplicates_eq, srcFound, refFound]

theorem filePaths_nodup (env : FsEnv P C) (fuel : Nat) (sources references : List P) :
    ((resolveFilesFrom env fuel sources references).filePaths.map (·.canon)).Nodup := by
  rw [resolve_filePaths, List.map_append, List.nodup_append]
  refine ⟨keepFirst_nodup _ _, ?_, ?_⟩
  · exact (keepFirst_nodup [] (refFound env fuel references)).sublist ((List.filter_sublist).map _)
  · intro a ha b hb hab
    subst hab
    have h1 := ((mem_keepFirst_canon _ _ _).mp ha).1
    obtain ⟨x, hx, hxc⟩ := List.mem_map.mp hb
    exact of_decide_eq_true (List.mem_filter.mp hx).2 (hxc ▸ h1)

theorem mem_filePaths (env : FsEnv P C) (fuel : Nat) (sources references : List P) (f : FilePath P C) :
    f ∈ (resolveFilesFrom env fuel sources references).filePaths ↔
      f ∈ keepFirst [] (srcFound env fuel sources) ∨
      (f ∈ keepFirst [] (refFound env fuel references) ∧ f.canon ∉ (srcFound env fuel sources).map (·.canon)) := by
  rw [resolve_filePaths, List.mem_append, List.mem_filter]
  simp only [decide_eq_true_eq]

end

/-- a small environment for the non-vacuity examples of `Props/C17.lean`: paths are numbers; 0 and 1 are two
    spellings of one file, 2 is another file, 3 does not exist, 10 is a directory listing 0 1 2 -/
def c17DemoEnv : FsEnv Nat Nat where
  pathExists p := p != 3
  isFile p := p < 3
  isDir p := p == 10
  isSlice _ := true
  readDir p := if p == 10 then some [0, 1, 2] else none
  canon p := if p == 1 then some 0 else if p == 3 then none else some p
  readOk _ := true

end Slicec
