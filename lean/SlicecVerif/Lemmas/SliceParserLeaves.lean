/-
  Behind the syntactic criteria for the leaf conditions of `parse_print` (C02, parser half; `integer_literals_read_back`,
  `directives_read_back` and `names_read_back` of Props/C02, over `intCanon`, defined here, and the lexer's `nameSegsOk`): the digits the printer
  writes are read back as the value, in the base the prefix names; the identifiers and `::` that spellings joined by `::`
  read as (`lexRun_segs`, Lemmas/SliceLexerNames) parse as the joined name.
-/
import SlicecVerif.Model.SliceParser
import SlicecVerif.Lemmas.SliceLexerLeaves
import SlicecVerif.Lemmas.SliceLexerNames

namespace Slicec.SPar

open Slicec Slicec.SLex

theorem digitChar_facts : ∀ d, d < 16 → digitVal (digitChar d) = some d ∧ digitChar d ≠ '_' := by decide

theorem digitChar_dec : ∀ d, d < 10 → digitChar d ≠ 'b' ∧ digitChar d ≠ 'x' := by decide

theorem fromDigits_append (b : Nat) (xs ys : List Char) (acc : Nat) :
    fromDigits b (xs ++ ys) acc = (fromDigits b xs acc).bind (fun a => fromDigits b ys a) := by
  induction xs generalizing acc with
  | nil => rfl
  | cons c cs ih =>
    simp only [List.cons_append, fromDigits]
    cases digitVal c with
    | none => rfl
    | some d =>
      simp only []
      split
      · exact ih _
      · rfl

theorem fromDigits_natDigits (b : Nat) (hb2 : 2 ≤ b) (hb : b ≤ 16) : ∀ fuel n, n < b ^ fuel →
    fromDigits b (natDigits b fuel n) 0 = some n := by
  intro fuel
  induction fuel with
  | zero =>
    intro n hn
    simp only [Nat.pow_zero, Nat.lt_one_iff] at hn
    subst hn
    rfl
  | succ fuel ih =>
    intro n hn
    simp only [natDigits]
    split
    · rename_i hlt
      simp [fromDigits, (digitChar_facts n (by omega)).1, hlt]
    · rename_i hge
      have hdiv : n / b < b ^ fuel := by
        rw [Nat.pow_succ] at hn
        exact Nat.div_lt_of_lt_mul (by rw [Nat.mul_comm]; exact hn)
      have hmod : n % b < b := Nat.mod_lt _ (by omega)
      rw [fromDigits_append, ih _ hdiv]
      simp only [Option.bind_some, fromDigits, (digitChar_facts (n % b) (by omega)).1, hmod, if_true]
      congr 1
      rw [Nat.mul_comm]
      exact Nat.div_add_mod n b

theorem natDigits_no_us (b fuel n : Nat) (hb0 : 0 < b) (hb : b ≤ 16) : ∀ c ∈ natDigits b fuel n, c ≠ '_' := by
  intro c hc
  obtain ⟨d, hd, rfl⟩ := natDigits_mem b fuel n hb0 c hc
  exact (digitChar_facts d (by omega)).2

theorem filter_no_us (l : List Char) (h : ∀ c ∈ l, c ≠ '_') : l.filter (· ≠ '_') = l := by
  rw [List.filter_eq_self]
  intro c hc
  simpa using h c hc

theorem withUnderscores_filter (l : List Char) (h : ∀ c ∈ l, c ≠ '_') : (withUnderscores l).filter (· ≠ '_') = l := by
  fun_induction withUnderscores l with
  | case1 a b c rest ih =>
    have ha := h a (by simp)
    have hb := h b (by simp)
    have hc := h c (by simp)
    have := ih (fun x hx => h x (by simp [hx]))
    simp only [decide_not] at this
    simp [ha, hb, hc, this]
  | case2 l _ => exact filter_no_us l h

theorem contains_us_false (l : List Char) (h : ∀ c ∈ l, c ≠ '_') : l.contains '_' = false := by
  cases hq : l.contains '_' with
  | false => rfl
  | true => exact absurd rfl (h '_' (by simpa using hq))

theorem withUnderscores_contains (l : List Char) (h : 3 ≤ l.length) : (withUnderscores l).contains '_' = true := by
  match l, h with
  | a :: b :: c :: rest, _ => simp [withUnderscores]

/-- an integer literal in canonical form: base 2, 10 or 16; the value needs no more than the 200 digits the printer writes;
    `underscores` is set only where the printer writes one (three digits or more) -/
def intCanon (l : IntLit) : Bool :=
  intLitOk l && decide (l.mag < l.base ^ 200) && (!l.underscores || decide (3 ≤ (natDigits l.base 200 l.mag).length))

theorem digits_written (b mag : Nat) (us : Bool) (hb2 : 2 ≤ b) (hb : b ≤ 16) (hus : us = false ∨ 3 ≤ (natDigits b 200 mag).length) :
    let ds := if us then withUnderscores (natDigits b 200 mag) else natDigits b 200 mag
    ds.filter (· ≠ '_') = natDigits b 200 mag ∧ ds.contains '_' = us := by
  have hno := natDigits_no_us b 200 mag (by omega) hb
  cases us with
  | false => exact ⟨filter_no_us _ hno, contains_us_false _ hno⟩
  | true => exact ⟨withUnderscores_filter _ hno, withUnderscores_contains _ (hus.resolve_left nofun)⟩

theorem dec_head (mag : Nat) : ∀ c ∈ natDigits 10 200 mag, c ≠ 'b' ∧ c ≠ 'x' := by
  intro c hc
  obtain ⟨d, hd, rfl⟩ := natDigits_mem 10 200 mag (by decide) c hc
  exact digitChar_dec d hd

/-- the base `try_parse_integer` takes from the prefix, after the underscores are removed -/
def baseOf : List Char → Nat
  | '0' :: 'b' :: _ => 2
  | '0' :: 'x' :: _ => 16
  | _ => 10

/-- the value `try_parse_integer` reads after the prefix (`none`: no digit, or a digit the base does not have) -/
def magOf : List Char → Option Nat
  | '0' :: 'b' :: rest => if rest.isEmpty then none else fromDigits 2 rest 0
  | '0' :: 'x' :: rest => if rest.isEmpty then none else fromDigits 16 rest 0
  | [] => none
  | ds => fromDigits 10 ds 0

theorem intOfText_eq (s : List Char) :
    intOfText s = ⟨false, baseOf (s.filter (· ≠ '_')), (magOf (s.filter (· ≠ '_'))).getD 0, s.contains '_'⟩ := rfl

theorem dec_arm (ds : List Char) (hne : ds ≠ []) (h : ∀ c ∈ ds, c ≠ 'b' ∧ c ≠ 'x') :
    baseOf ds = 10 ∧ magOf ds = fromDigits 10 ds 0 := by
  constructor
  · unfold baseOf
    split
    · exact absurd rfl (h 'b' (by simp)).1
    · exact absurd rfl (h 'x' (by simp)).2
    · rfl
  · unfold magOf
    split
    · exact absurd rfl (h 'b' (by simp)).1
    · exact absurd rfl (h 'x' (by simp)).2
    · exact absurd rfl hne
    · rfl

theorem prefix_no_us (pre ds : List Char) (h : ∀ c ∈ pre, c ≠ '_') :
    (pre ++ ds).filter (· ≠ '_') = pre ++ ds.filter (· ≠ '_') ∧ (pre ++ ds).contains '_' = ds.contains '_' := by
  rw [List.filter_append, filter_no_us pre h, List.contains_eq_any_beq, List.any_append, ← List.contains_eq_any_beq,
    contains_us_false pre h, ← List.contains_eq_any_beq]
  exact ⟨rfl, rfl⟩

theorem prefixed_arm (b : Nat) (hb : (b = 2 ∨ b = 10) ∨ b = 16) (D : List Char) (hne : D ≠ [])
    (hd : b = 10 → ∀ c ∈ D, c ≠ 'b' ∧ c ≠ 'x') :
    (∀ c ∈ basePre b, c ≠ '_') ∧ baseOf (basePre b ++ D) = b ∧ magOf (basePre b ++ D) = fromDigits b D 0 := by
  have hD : D.isEmpty = false := by
    cases D with
    | nil => exact absurd rfl hne
    | cons _ _ => rfl
  rcases hb with (rfl | rfl) | rfl
  · refine ⟨by decide, rfl, ?_⟩
    show magOf ('0' :: 'b' :: D) = _
    simp only [magOf, hD, Bool.false_eq_true, if_false]
  · exact ⟨by decide, dec_arm D hne (hd rfl)⟩
  · refine ⟨by decide, rfl, ?_⟩
    show magOf ('0' :: 'x' :: D) = _
    simp only [magOf, hD, Bool.false_eq_true, if_false]

def joinedToks : List (List Char) → Toks
  | [] => []
  | v :: vs => .ident v :: vs.flatMap fun w => [.dcolon, .ident w]

theorem toksOf_cons_tok (t : SliceTok) (r : List LexItem) : toksOf (.tok t :: r) = t :: toksOf r := rfl

theorem toksOf_joined (vs : List (List Char)) :
    toksOf ([LexItem.tok .dcolon].intercalate (vs.map fun v => [.tok (.ident v)])) = joinedToks vs := by
  induction vs with
  | nil => rfl
  | cons v rest ih =>
    cases rest with
    | nil => rfl
    | cons v' rest' =>
      rw [List.map_cons, List.map_cons, List.intercalate_cons_cons]
      exact congrArg (fun T => SliceTok.ident v :: .dcolon :: T) ih

theorem lexRun_joined_exact {β : Type} (a : Bool) (f g : β → List Char) (l : List β) (hne : l ≠ [])
    (h : ∀ x ∈ l, lexRun a (f x) = ⟨[.tok (.ident (g x))], a, .word⟩) :
    toksOf (lexRun a ([':', ':'].intercalate (l.map f))).items = joinedToks (l.map g) := by
  rw [lexRun_segs a f g l hne h]
  simpa only [List.map_map, Function.comp_def] using toksOf_joined (l.map g)

theorem parseScopedTail_joined (vs : List (List Char)) :
    parseScopedTail (vs.flatMap (fun w => [SliceTok.dcolon, .ident w])) = some (vs, []) := by
  induction vs with
  | nil => rfl
  | cons w ws ih => simp only [List.flatMap_cons, List.cons_append, List.nil_append, parseScopedTail, ih]

theorem relOf_joined (v : List Char) (vs : List (List Char)) : relOf (joinedToks (v :: vs)) = some (joinScoped (v :: vs)) := by
  simp only [relOf, joinedToks, parseRelIdent, parseScopedTail_joined]

theorem scopedOf_joined (v : List Char) (vs : List (List Char)) :
    scopedOf (joinedToks (v :: vs)) = some (joinScoped (v :: vs)) := by
  simp only [scopedOf, relOf, joinedToks, parseRelIdent, parseScopedTail_joined]

theorem scopedOf_global (v : List Char) (vs : List (List Char)) :
    scopedOf (.dcolon :: joinedToks (v :: vs)) = some (joinScoped ([] :: v :: vs)) := by
  simp only [scopedOf, joinedToks, parseGlobalIdent, parseScopedTail_joined]

theorem joinScoped_toList (segs : List String) : joinScoped (segs.map String.toList) = "::".intercalate segs := by
  simp [joinScoped, List.map_map, Function.comp_def, String.ofList_toList]

end Slicec.SPar
