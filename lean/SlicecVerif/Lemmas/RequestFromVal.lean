/-
  C08: reading the decoded untyped value (`SVal`, what the schema-driven reader of Model/SchemaCodec.lean returns) back
  into the request, independently of the encoders: `fromValSliceFile (toValSliceFile v) = some v` for every file whose
  named type ids cannot be mistaken for numeric ones (`FileReadable`; holds of every conversion result under `AllResolve`:
  a named id is a keyword or contains `::`). With `request_roundtrip` and `convert_read` this gives
  `content_faithful_decoded` of Props/C08: bytes → schema-driven decoding → `fromValFile` = `describe`.
-/
import SlicecVerif.Lemmas.RequestContent

namespace Slicec

def optMap {α β : Type} (f : α → Option β) : List α → Option (List β)
  | [] => some []
  | x :: xs =>
    match f x, optMap f xs with
    | some y, some ys => some (y :: ys)
    | _, _ => none

theorem optMap_map_eq {α β γ : Type} (f : β → Option γ) (g : α → β) (k : α → γ) (l : List α)
    (h : ∀ x ∈ l, f (g x) = some (k x)) : optMap f (l.map g) = some (l.map k) := by
  induction l with
  | nil => rfl
  | cons a l ih =>
    simp only [List.map_cons, optMap, h a (by simp), ih (fun x hx => h x (by simp [hx]))]

theorem optMap_map {α β : Type} (f : β → Option α) (g : α → β) (l : List α) (h : ∀ x ∈ l, f (g x) = some x) :
    optMap f (l.map g) = some l := by
  simpa using optMap_map_eq f g id l h

def byteChar (b : UInt8) : Char := Char.ofNat b.toNat

/-- how a reader tells the two kinds of type id apart: a non-empty string of decimal digits is the index of an
    anonymous-type symbol, anything else is a name -/
def parseTypeId (s : Bytes) : TypeIdV :=
  if !s.isEmpty && s.all (fun b => (byteChar b).isDigit) then .anon (Nat.ofDigitChars 10 (s.map byteChar) 0) else .named s

def TypeIdV.Readable (id : TypeIdV) : Prop := parseTypeId id.render = id

theorem sb_ofList (cs : List Char) : sb (String.ofList cs) = cs.flatMap String.utf8EncodeChar := by
  simp [sb, String.toUTF8, byteArray_toList, List.utf8Encode]

theorem ascii_byte {c : Char} (h : c.val ≤ 127) :
    String.utf8EncodeChar c = [c.val.toUInt8] ∧ byteChar c.val.toUInt8 = c := by
  have hn : c.val.toNat ≤ 127 := UInt32.le_iff_toNat_le.mp h
  refine ⟨String.utf8EncodeChar_eq_singleton (by simp [Char.utf8Size, h]), ?_⟩
  have e : c.val.toUInt8.toNat = c.toNat := by
    simp only [UInt32.toNat_toUInt8, Char.toNat]
    omega
  simp only [byteChar, e, Char.ofNat_toNat]

theorem sb_ascii (cs : List Char) (h : ∀ c ∈ cs, c.val ≤ 127) : (sb (String.ofList cs)).map byteChar = cs := by
  rw [sb_ofList]
  induction cs with
  | nil => rfl
  | cons c cs ih =>
    obtain ⟨h1, h2⟩ := ascii_byte (h c (by simp))
    rw [List.flatMap_cons, h1, List.singleton_append, List.map_cons, h2, ih (fun x hx => h x (by simp [hx]))]

theorem isDigit_ascii {c : Char} (h : c.isDigit = true) : c.val ≤ 127 := by
  simp only [Char.isDigit, Bool.and_eq_true, decide_eq_true_eq] at h
  exact UInt32.le_trans h.2 (by decide)

theorem readable_anon (j : Nat) : (TypeIdV.anon j).Readable := by
  have hd : ∀ c ∈ Nat.toDigits 10 j, c.isDigit = true :=
    fun c hc => Nat.isDigit_of_mem_toDigits (by decide) (by decide) hc
  have hm := sb_ascii _ fun c hc => isDigit_ascii (hd c hc)
  rw [← Nat.toString_eq_ofList_toDigits] at hm
  have h1 : (sb (toString j)).isEmpty = false := by
    cases hs : sb (toString j) with
    | nil => rw [hs] at hm; exact absurd hm.symm Nat.toDigits_ne_nil
    | cons _ _ => rfl
  have h2 : (sb (toString j)).all (fun b => (byteChar b).isDigit) = true := by
    rw [← Function.comp_def, ← List.all_map, hm, List.all_eq_true]; exact hd
  show parseTypeId (sb (toString j)) = .anon j
  rw [parseTypeId, h1, h2, hm, Nat.ofDigitChars_ten_toDigits]
  rfl

theorem readable_named (s : Bytes) (h : s = [] ∨ ∃ b ∈ s, (byteChar b).isDigit = false) : (TypeIdV.named s).Readable := by
  simp only [TypeIdV.Readable, TypeIdV.render, parseTypeId]
  rcases h with rfl | ⟨b, hb, hd⟩
  · simp
  · have : s.all (fun b => (byteChar b).isDigit) = false := by
      rw [List.all_eq_false]
      exact ⟨b, hb, by simp [hd]⟩
    simp [this]

def fromValStr : SVal → Option Bytes
  | .str s => some s
  | _ => none

def fromValAttribute : SVal → Option AttributeV
  | .struct [.str d, .list as] => (optMap fromValStr as).map fun a => ⟨d, a⟩
  | _ => none

def fromValTypeRef : SVal → Option TypeRefV
  | .struct [.str id, .bool o, .list as] => (optMap fromValAttribute as).map fun a => ⟨parseTypeId id, o, a⟩
  | _ => none

def fromValMsgComp : SVal → Option MsgCompV
  | .variant 0 [.str s] => some (.text s)
  | .variant 1 [.str s] => some (.link s)
  | _ => none

def fromValDocComment : SVal → Option DocCommentV
  | .struct [.list ov, .list sees] =>
    match optMap fromValMsgComp ov, optMap fromValStr sees with
    | some a, some b => some ⟨a, b⟩
    | _, _ => none
  | _ => none

def fromValOptDoc : SVal → Option (Option DocCommentV)
  | .absent => some none
  | .present d => (fromValDocComment d).map some
  | _ => none

def fromValEntityInfo : SVal → Option EntityInfoV
  | .struct [.str id, .list as, c] =>
    match optMap fromValAttribute as, fromValOptDoc c with
    | some a, some d => some ⟨id, a, d⟩
    | _, _ => none
  | _ => none

def fromValModule : SVal → Option ModuleV
  | .struct [.str id, .list as] => (optMap fromValAttribute as).map fun a => ⟨id, a⟩
  | _ => none

def fromValOptTag : SVal → Option (Option Int)
  | .absent => some none
  | .present (.int v) => some (some v)
  | _ => none

def fromValField : SVal → Option FieldV
  | .struct [e, t, r] =>
    match fromValEntityInfo e, fromValOptTag t, fromValTypeRef r with
    | some e, some t, some r => some ⟨e, t, r⟩
    | _, _, _ => none
  | _ => none

def fromValStruct : SVal → Option StructV
  | .struct [e, .bool c, .list fs] =>
    match fromValEntityInfo e, optMap fromValField fs with
    | some e, some fs => some ⟨e, c, fs⟩
    | _, _ => none
  | _ => none

def fromValOperation : SVal → Option OperationV
  | .struct [e, .bool i, .list ps, .bool sp, .list rs, .bool sr] =>
    match fromValEntityInfo e, optMap fromValField ps, optMap fromValField rs with
    | some e, some ps, some rs => some ⟨e, i, ps, sp, rs, sr⟩
    | _, _, _ => none
  | _ => none

def fromValInterface : SVal → Option InterfaceV
  | .struct [e, .list bs, .list os] =>
    match fromValEntityInfo e, optMap fromValStr bs, optMap fromValOperation os with
    | some e, some bs, some os => some ⟨e, bs, os⟩
    | _, _, _ => none
  | _ => none

def fromValEnumerator : SVal → Option EnumeratorV
  | .struct [e, .int a, .bool n] => (fromValEntityInfo e).map fun e => ⟨e, a, n⟩
  | _ => none

def fromValBasicEnum : SVal → Option BasicEnumV
  | .struct [e, .bool u, .str ut, .list es] =>
    match fromValEntityInfo e, optMap fromValEnumerator es with
    | some e, some es => some ⟨e, u, ut, es⟩
    | _, _ => none
  | _ => none

def fromValVariant : SVal → Option VariantV
  | .struct [e, .int d, .list fs] =>
    match fromValEntityInfo e, optMap fromValField fs with
    | some e, some fs => some ⟨e, d, fs⟩
    | _, _ => none
  | _ => none

def fromValVariantEnum : SVal → Option VariantEnumV
  | .struct [e, .bool c, .bool u, .list vs] =>
    match fromValEntityInfo e, optMap fromValVariant vs with
    | some e, some vs => some ⟨e, c, u, vs⟩
    | _, _ => none
  | _ => none

def fromValCustomType : SVal → Option CustomTypeV
  | .struct [e] => (fromValEntityInfo e).map fun e => ⟨e⟩
  | _ => none

def fromValTypeAlias : SVal → Option TypeAliasV
  | .struct [e, r] =>
    match fromValEntityInfo e, fromValTypeRef r with
    | some e, some r => some ⟨e, r⟩
    | _, _ => none
  | _ => none

def fromValSequenceType : SVal → Option SequenceTypeV
  | .struct [r] => (fromValTypeRef r).map fun r => ⟨r⟩
  | _ => none

def fromValDictionaryType : SVal → Option DictionaryTypeV
  | .struct [k, v] =>
    match fromValTypeRef k, fromValTypeRef v with
    | some k, some v => some ⟨k, v⟩
    | _, _ => none
  | _ => none

def fromValResultType : SVal → Option ResultTypeV
  | .struct [s, f] =>
    match fromValTypeRef s, fromValTypeRef f with
    | some s, some f => some ⟨s, f⟩
    | _, _ => none
  | _ => none

/-- enumerator numbers as `toValSymbol` writes them (`fromVal_Symbol`), which are those of the schema's `Symbol`
    (`mirror_Symbol`, through `symbol_rows`) -/
def fromValSymbol : SVal → Option SymbolV
  | .variant 0 [v] => (fromValInterface v).map .interface
  | .variant 1 [v] => (fromValBasicEnum v).map .basicEnum
  | .variant 2 [v] => (fromValVariantEnum v).map .variantEnum
  | .variant 3 [v] => (fromValStruct v).map .struct
  | .variant 4 [v] => (fromValCustomType v).map .customType
  | .variant 5 [v] => (fromValSequenceType v).map .sequenceType
  | .variant 6 [v] => (fromValDictionaryType v).map .dictionaryType
  | .variant 7 [v] => (fromValResultType v).map .resultType
  | .variant 8 [v] => (fromValTypeAlias v).map .typeAlias
  | _ => none

def fromValSliceFile : SVal → Option SliceFileV
  | .struct [.str p, m, .list as, .list cs] =>
    match fromValModule m, optMap fromValAttribute as, optMap fromValSymbol cs with
    | some m, some as, some cs => some ⟨p, m, as, cs⟩
    | _, _, _ => none
  | _ => none

/-- **what a generator reads from the decoded value of one file**: the typed file, then its named symbols with every
    numeric id dereferenced -/
def fromValFile (v : SVal) : Option FileD := (fromValSliceFile v).map readFile

theorem fromVal_strs (l : List Bytes) : optMap fromValStr (l.map SVal.str) = some l :=
  optMap_map _ _ _ (fun _ _ => rfl)

theorem fromVal_Attribute (a : AttributeV) : fromValAttribute (toValAttribute a) = some a := by
  simp only [toValAttribute, fromValAttribute, fromVal_strs, Option.map_some]

theorem fromVal_Attributes (l : List AttributeV) : optMap fromValAttribute (l.map toValAttribute) = some l :=
  optMap_map _ _ _ (fun a _ => fromVal_Attribute a)

theorem fromVal_TypeRef (r : TypeRefV) (h : r.typeId.Readable) : fromValTypeRef (toValTypeRef r) = some r := by
  simp only [toValTypeRef, fromValTypeRef, fromVal_Attributes, Option.map_some]
  rw [h]

theorem fromVal_MsgComp (m : MsgCompV) : fromValMsgComp (toValMsgComp m) = some m := by
  cases m <;> rfl

theorem fromVal_DocComment (d : DocCommentV) : fromValDocComment (toValDocComment d) = some d := by
  simp only [toValDocComment, fromValDocComment, fromVal_strs, optMap_map _ _ _ (fun m _ => fromVal_MsgComp m)]

theorem fromVal_EntityInfo (e : EntityInfoV) : fromValEntityInfo (toValEntityInfo e) = some e := by
  obtain ⟨id, as, c⟩ := e
  cases c with
  | none => simp only [toValEntityInfo, fromValEntityInfo, fromVal_Attributes, fromValOptDoc]
  | some d => simp only [toValEntityInfo, fromValEntityInfo, fromVal_Attributes, fromValOptDoc, fromVal_DocComment, Option.map_some]

theorem fromVal_Module (m : ModuleV) : fromValModule (toValModule m) = some m := by
  simp only [toValModule, fromValModule, fromVal_Attributes, Option.map_some]

theorem fromVal_Field (f : FieldV) (h : f.dataType.typeId.Readable) : fromValField (toValField f) = some f := by
  obtain ⟨e, t, r⟩ := f
  cases t <;> simp only [toValField, fromValField, fromVal_EntityInfo, fromValOptTag, fromVal_TypeRef r h]

theorem fromVal_Fields (l : List FieldV) (h : ∀ f ∈ l, f.dataType.typeId.Readable) :
    optMap fromValField (l.map toValField) = some l :=
  optMap_map _ _ _ (fun f hf => fromVal_Field f (h f hf))

theorem fromVal_Struct (s : StructV) (h : ∀ f ∈ s.fields, f.dataType.typeId.Readable) :
    fromValStruct (toValStruct s) = some s := by
  simp only [toValStruct, fromValStruct, fromVal_EntityInfo, fromVal_Fields _ h]

theorem fromVal_Operation (o : OperationV) (h : ∀ f ∈ o.parameters ++ o.returnType, f.dataType.typeId.Readable) :
    fromValOperation (toValOperation o) = some o := by
  simp only [toValOperation, fromValOperation, fromVal_EntityInfo,
    fromVal_Fields _ (fun f hf => h f (List.mem_append_left _ hf)), fromVal_Fields _ (fun f hf => h f (List.mem_append_right _ hf))]

theorem fromVal_Interface (i : InterfaceV)
    (h : ∀ o ∈ i.operations, ∀ f ∈ o.parameters ++ o.returnType, f.dataType.typeId.Readable) :
    fromValInterface (toValInterface i) = some i := by
  simp only [toValInterface, fromValInterface, fromVal_EntityInfo, fromVal_strs,
    optMap_map _ _ _ (fun o ho => fromVal_Operation o (h o ho))]

theorem fromVal_Enumerator (e : EnumeratorV) : fromValEnumerator (toValEnumerator e) = some e := by
  simp only [toValEnumerator, fromValEnumerator, fromVal_EntityInfo, Option.map_some]

theorem fromVal_BasicEnum (e : BasicEnumV) : fromValBasicEnum (toValBasicEnum e) = some e := by
  simp only [toValBasicEnum, fromValBasicEnum, fromVal_EntityInfo, optMap_map _ _ _ (fun x _ => fromVal_Enumerator x)]

theorem fromVal_Variant (v : VariantV) (h : ∀ f ∈ v.fields, f.dataType.typeId.Readable) :
    fromValVariant (toValVariant v) = some v := by
  simp only [toValVariant, fromValVariant, fromVal_EntityInfo, fromVal_Fields _ h]

theorem fromVal_VariantEnum (e : VariantEnumV) (h : ∀ v ∈ e.variants, ∀ f ∈ v.fields, f.dataType.typeId.Readable) :
    fromValVariantEnum (toValVariantEnum e) = some e := by
  simp only [toValVariantEnum, fromValVariantEnum, fromVal_EntityInfo, optMap_map _ _ _ (fun v hv => fromVal_Variant v (h v hv))]

theorem fromVal_CustomType (c : CustomTypeV) : fromValCustomType (toValCustomType c) = some c := by
  simp only [toValCustomType, fromValCustomType, fromVal_EntityInfo, Option.map_some]

theorem fromVal_TypeAlias (a : TypeAliasV) (h : a.underlyingType.typeId.Readable) :
    fromValTypeAlias (toValTypeAlias a) = some a := by
  simp only [toValTypeAlias, fromValTypeAlias, fromVal_EntityInfo, fromVal_TypeRef _ h]

theorem fromVal_SequenceType (v : SequenceTypeV) (h : v.elementType.typeId.Readable) :
    fromValSequenceType (toValSequenceType v) = some v := by
  simp only [toValSequenceType, fromValSequenceType, fromVal_TypeRef _ h, Option.map_some]

theorem fromVal_DictionaryType (v : DictionaryTypeV) (hk : v.keyType.typeId.Readable) (hv : v.valueType.typeId.Readable) :
    fromValDictionaryType (toValDictionaryType v) = some v := by
  simp only [toValDictionaryType, fromValDictionaryType, fromVal_TypeRef _ hk, fromVal_TypeRef _ hv]

theorem fromVal_ResultType (v : ResultTypeV) (hs : v.successType.typeId.Readable) (hf : v.failureType.typeId.Readable) :
    fromValResultType (toValResultType v) = some v := by
  simp only [toValResultType, fromValResultType, fromVal_TypeRef _ hs, fromVal_TypeRef _ hf]

theorem fromVal_Symbol (s : SymbolV) (h : ∀ r ∈ s.trefs, r.typeId.Readable) : fromValSymbol (toValSymbol s) = some s := by
  -- `fromValSymbol (toValSymbol (.c v))` computes to `(fromValC (toValC v)).map .c`
  cases s with
  | interface v =>
    exact congrArg (Option.map SymbolV.interface)
      (fromVal_Interface v (fun o ho f hf => h _ (List.mem_flatMap.mpr ⟨o, ho, List.mem_map_of_mem hf⟩)))
  | basicEnum v => exact congrArg (Option.map SymbolV.basicEnum) (fromVal_BasicEnum v)
  | variantEnum v =>
    exact congrArg (Option.map SymbolV.variantEnum)
      (fromVal_VariantEnum v (fun x hx f hf => h _ (List.mem_flatMap.mpr ⟨x, hx, List.mem_map_of_mem hf⟩)))
  | struct v =>
    exact congrArg (Option.map SymbolV.struct) (fromVal_Struct v (fun f hf => h _ (List.mem_map_of_mem hf)))
  | customType v => exact congrArg (Option.map SymbolV.customType) (fromVal_CustomType v)
  | sequenceType v =>
    exact congrArg (Option.map SymbolV.sequenceType) (fromVal_SequenceType v (h _ (by simp [SymbolV.trefs])))
  | dictionaryType v =>
    exact congrArg (Option.map SymbolV.dictionaryType)
      (fromVal_DictionaryType v (h _ (by simp [SymbolV.trefs])) (h _ (by simp [SymbolV.trefs])))
  | resultType v =>
    exact congrArg (Option.map SymbolV.resultType)
      (fromVal_ResultType v (h _ (by simp [SymbolV.trefs])) (h _ (by simp [SymbolV.trefs])))
  | typeAlias v => exact congrArg (Option.map SymbolV.typeAlias) (fromVal_TypeAlias v (h _ (by simp [SymbolV.trefs])))

def FileReadable (v : SliceFileV) : Prop := ∀ s ∈ v.contents, ∀ r ∈ s.trefs, r.typeId.Readable

theorem fromVal_SliceFile (v : SliceFileV) (h : FileReadable v) : fromValSliceFile (toValSliceFile v) = some v := by
  simp only [toValSliceFile, fromValSliceFile, fromVal_Module, fromVal_Attributes,
    optMap_map _ _ _ (fun s hs => fromVal_Symbol s (h s hs))]

theorem fromVal_Files (l : List SliceFileV) (h : ∀ v ∈ l, FileReadable v) :
    optMap fromValFile (l.map toValSliceFile) = some (l.map readFile) :=
  optMap_map_eq _ _ _ l (fun v hv => by rw [fromValFile, fromVal_SliceFile v (h v hv)]; rfl)

theorem prim_readable : ∀ p ∈ Prim.all, (TypeIdV.named (sb p.kw)).Readable := by
  intro p hp
  apply readable_named
  right
  have : ∀ p ∈ Prim.all, ∃ b ∈ p.kw.toByteArray.data.toList, (byteChar b).isDigit = false := by decide +kernel
  obtain ⟨b, hb, hd⟩ := this p hp
  exact ⟨b, by rw [sb_eq_data]; exact hb, hd⟩

theorem scoped_readable (scope name : String) : (TypeIdV.named (sb scope ++ sb "::" ++ sb name)).Readable := by
  apply readable_named
  right
  refine ⟨58, ?_, by decide⟩
  have : sb "::" = [58, 58] := by rw [sb_eq_data]; decide
  rw [this]
  simp

theorem namedOK_readable (p : Program) (t : Table) (hg : ∀ f ∈ p, fileResolves t f = true) (id : Bytes) (h : NamedOK p id) :
    (TypeIdV.named id).Readable := by
  rcases h with ⟨pr, hpr, rfl⟩ | ⟨f, hf, d, hd, _, rfl⟩
  · exact prim_readable pr hpr
  · obtain ⟨m, hm, hne, _⟩ := fileResolves_of_def (hg f hf) hd
    have : f.modPath = m.path := by simp [SFile.modPath, hm]
    rw [this, sb_scopedId _ _ hne]
    exact scoped_readable _ _

theorem allNamed_readable (p : Program) (t : Table) (hg : ∀ f ∈ p, fileResolves t f = true) (v : SliceFileV)
    (h : AllNamed (buildTable p) v.contents) : FileReadable v := by
  intro s hs r hr
  cases hid : r.typeId with
  | anon j => exact readable_anon j
  | named id => exact namedOK_readable p t hg id (h s hs r hr id hid).ok

theorem convert_readable (mode : DocMode) (fs : List ReqFile) (srcs refs : List SliceFileV)
    (h : convert mode fs = some (srcs, refs)) (hg : AllResolve fs = true) : ∀ v ∈ srcs ++ refs, FileReadable v := by
  intro v hv
  obtain ⟨rf, hrf, hc⟩ := convert_mem h hv
  exact allNamed_readable (programOf fs) _ (fun f hf => List.all_eq_true.mp hg f hf) v
    ((convertFile_spec mode _ rf v hc).2.2 (allResolve_file hg hrf))

end Slicec
