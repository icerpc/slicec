/-
  Facts about core notions that core Lean lacks, kept together by notion; most are needed by more than one group, a few have
  one user: scanning by a predicate (`takeWhile` / `dropWhile`), as every lexer of the model does, with `span_append`, the
  frame fact behind each lexer's "the text behind does not matter"; `flatMap`; look-ups where keys are distinct; recursion on
  a fuel counter.
-/
namespace Slicec

section
variable {α : Type} {p : α → Bool}

theorem length_dropWhile_le (p : α → Bool) (l : List α) : (l.dropWhile p).length ≤ l.length :=
  (List.dropWhile_suffix p).length_le

theorem of_mem_takeWhile {l : List α} {x : α} (h : x ∈ l.takeWhile p) : p x = true :=
  List.all_eq_true.mp List.all_takeWhile x h

theorem dropWhile_eq_nil_iff {l : List α} : l.dropWhile p = [] ↔ l.all p = true := by
  induction l with
  | nil => simp
  | cons a l ih => by_cases ha : p a = true <;> simp [ha, ih]

theorem takeWhile_of_all {l : List α} (h : l.all p = true) : l.takeWhile p = l := by
  simpa using List.takeWhile_append_of_pos (l₂ := []) (List.all_eq_true.mp h)

def stops (p : α → Bool) : List α → Bool
  | [] => true
  | c :: _ => !p c

theorem dropWhile_head_not {l cs : List α} {c : α} (h : l.dropWhile p = c :: cs) : p c = false := by
  simpa [h] using List.head?_dropWhile_not p l

theorem stops_dropWhile (p : α → Bool) (l : List α) : stops p (l.dropWhile p) = true := by
  cases h : l.dropWhile p with
  | nil => rfl
  | cons c r => simp [stops, dropWhile_head_not h]

theorem dropWhile_of_stops {r : List α} (h : stops p r = true) : r.dropWhile p = r := by
  cases r with
  | nil => rfl
  | cons c r => exact List.dropWhile_cons_of_neg (by simpa [stops] using h)

theorem span_append (p : α → Bool) (cs r : List α) (h : cs.dropWhile p ≠ [] ∨ stops p r = true) :
    (cs ++ r).takeWhile p = cs.takeWhile p ∧ (cs ++ r).dropWhile p = cs.dropWhile p ++ r := by
  induction cs with
  | nil =>
    have hr := dropWhile_of_stops (h.resolve_left (fun h => h rfl))
    have := List.takeWhile_append_dropWhile (p := p) (l := r)
    rw [hr, List.append_left_eq_self] at this
    exact ⟨this, hr⟩
  | cons d cs ih =>
    by_cases hd : p d = true
    · simp only [List.cons_append, List.takeWhile_cons, List.dropWhile_cons, hd, if_true] at h ⊢
      exact ⟨by rw [(ih h).1], (ih h).2⟩
    · simp [hd]

theorem span_all_append {a r : List α} (ha : a.all p = true) (hr : stops p r = true) :
    (a ++ r).takeWhile p = a ∧ (a ++ r).dropWhile p = r := by
  simpa [takeWhile_of_all ha, dropWhile_eq_nil_iff.mpr ha] using span_append p a r (.inr hr)

theorem split_first [DecidableEq α] (x : α) (a b c d : List α) (ha : x ∉ a) (hb : x ∉ b)
    (h : a ++ x :: c = b ++ x :: d) : a = b ∧ c = d := by
  -- both sides are cut at the first `x` by the scan for "not `x`"
  have cut : ∀ a c : List α, x ∉ a → (a ++ x :: c).takeWhile (· != x) = a ∧ (a ++ x :: c).dropWhile (· != x) = x :: c :=
    fun a c ha => span_all_append (List.all_eq_true.mpr fun y hy => bne_iff_ne.mpr fun e => ha (e ▸ hy)) (by simp [stops])
  have h1 := cut a c ha
  rw [h, (cut b d hb).1, (cut b d hb).2] at h1
  exact ⟨h1.1.symm, (List.cons.inj h1.2).2.symm⟩

end

theorem flatMap_congr_mem {α β} (l : List α) (f g : α → List β) (h : ∀ a ∈ l, f a = g a) : l.flatMap f = l.flatMap g := by
  rw [List.flatMap_def, List.flatMap_def, List.map_congr_left h]

theorem perm_flatMap_congr {α β} (l : List α) (f g : α → List β) (h : ∀ a ∈ l, (f a).Perm (g a)) :
    (l.flatMap f).Perm (l.flatMap g) := by
  induction l with
  | nil => exact List.Perm.refl _
  | cons a l ih =>
    rw [List.flatMap_cons, List.flatMap_cons]
    exact (h a (by simp)).append (ih fun b hb => h b (List.mem_cons_of_mem _ hb))

theorem zipIdx_flatMap_fst {α β} (l : List α) (k : Nat) (K : α → List β) : (l.zipIdx k).flatMap (fun fi => K fi.1) = l.flatMap K := by
  rw [← List.flatMap_map Prod.fst K, List.zipIdx_map_fst]

theorem flatMap_sublist {α β} (f g : α → List β) : ∀ l : List α, (∀ a ∈ l, (f a).Sublist (g a)) →
    (l.flatMap f).Sublist (l.flatMap g)
  | [], _ => by simp
  | a :: l, h => by
    simp only [List.flatMap_cons]
    exact (h a (by simp)).append (flatMap_sublist f g l (fun b hb => h b (by simp [hb])))

theorem filterMap_sublist_map {α β} (h : α → Option β) (k : α → β) (hk : ∀ a b, h a = some b → b = k a) :
    ∀ l : List α, (l.filterMap h).Sublist (l.map k)
  | [] => .slnil
  | a :: l => by
    rw [List.filterMap_cons, List.map_cons]
    cases ha : h a with
    | none => exact (filterMap_sublist_map h k hk l).cons _
    | some b => rw [hk a b ha]; exact (filterMap_sublist_map h k hk l).cons_cons _

theorem mem_intercalate {α} {sep : List α} {c : α} : ∀ {xs : List (List α)}, c ∈ sep.intercalate xs →
    c ∈ sep ∨ ∃ x ∈ xs, c ∈ x
  | [], h => by simp at h
  | [x], h => by rw [List.intercalate_singleton] at h; exact .inr ⟨x, List.mem_cons_self, h⟩
  | x :: y :: r, h => by
    rw [List.intercalate_cons_cons, List.mem_append, List.mem_append] at h
    rcases h with (h | h) | h
    · exact .inr ⟨x, List.mem_cons_self, h⟩
    · exact .inl h
    · exact (mem_intercalate h).imp_right fun ⟨z, hz, hc⟩ => ⟨z, List.mem_cons_of_mem _ hz, hc⟩

theorem toList_dcolon : ("::" : String).toList = [':', ':'] := by decide

theorem getLast?_append_of_ne_nil {α} (l1 l2 : List α) (h : l2 ≠ []) : (l1 ++ l2).getLast? = l2.getLast? := by
  rw [List.getLast?_append, List.getLast?_eq_some_getLast h]
  rfl

/-- what a parsing step left of `toks`, and what it went over: a run of elements that satisfy `P` -/
def Behind {α} (P : α → Prop) (toks rest : List α) : Prop := ∃ pre, toks = pre ++ rest ∧ ∀ t ∈ pre, P t

section
variable {α : Type} {P : α → Prop}

theorem Behind.refl (toks : List α) : Behind P toks toks := ⟨[], rfl, nofun⟩

theorem Behind.cons {t : α} {toks rest : List α} (ht : P t) (h : Behind P toks rest) : Behind P (t :: toks) rest := by
  obtain ⟨pre, rfl, hp⟩ := h
  exact ⟨t :: pre, rfl, List.forall_mem_cons.mpr ⟨ht, hp⟩⟩

theorem Behind.trans {a b c : List α} (h1 : Behind P a b) (h2 : Behind P b c) : Behind P a c := by
  obtain ⟨p, rfl, hp⟩ := h1
  obtain ⟨q, rfl, hq⟩ := h2
  exact ⟨p ++ q, (List.append_assoc ..).symm, List.forall_mem_append.mpr ⟨hp, hq⟩⟩

theorem Behind.suffix {toks rest : List α} (h : Behind P toks rest) : rest <:+ toks := by
  obtain ⟨pre, rfl, _⟩ := h
  exact List.suffix_append _ _

end

theorem pairwise_mem_cases {α} {R : α → α → Prop} (hs : ∀ {x y}, R x y → R y x) {l : List α} (h : l.Pairwise R) :
    ∀ x ∈ l, ∀ y ∈ l, x = y ∨ R x y :=
  fun _ hx _ hy => List.Pairwise.forall_of_forall_of_flip (R := fun x y => x = y ∨ R x y) (fun _ _ => .inl rfl)
    (h.imp .inr) (h.imp fun r => .inr (hs r)) hx hy

theorem eq_of_nodup_map {α β} (g : α → β) {l : List α} (h : (l.map g).Nodup) {x y : α} (hx : x ∈ l) (hy : y ∈ l)
    (hxy : g x = g y) : x = y :=
  have hp := List.pairwise_map.mp h
  List.Pairwise.forall_of_forall_of_flip (R := fun a b => g a = g b → a = b) (fun _ _ _ => rfl)
    (hp.imp fun hne he => absurd he hne) (hp.imp fun hne he => absurd he.symm hne) hx hy hxy

theorem find?_of_unique {α} {p : α → Bool} {l : List α} {x : α} (hx : x ∈ l) (hp : p x = true)
    (huniq : ∀ y ∈ l, p y = true → y = x) : l.find? p = some x := by
  obtain ⟨y, hy⟩ := Option.isSome_iff_exists.mp (List.find?_isSome.mpr ⟨x, hx, hp⟩)
  rw [hy, huniq y (List.mem_of_find?_eq_some hy) (List.find?_some hy)]

theorem getElem?_eq_some_iff_idxOf {α} [BEq α] [LawfulBEq α] {l : List α} (h : l.Nodup) {j : Nat} {b : α} :
    l[j]? = some b ↔ b ∈ l ∧ j = l.idxOf b := by
  constructor
  · intro hj
    obtain ⟨hlt, rfl⟩ := List.getElem?_eq_some_iff.mp hj
    exact ⟨List.getElem_mem hlt, (h.idxOf_getElem j hlt).symm⟩
  · rintro ⟨hb, rfl⟩
    exact (List.getElem?_eq_getElem (List.idxOf_lt_length_of_mem hb)).trans (congrArg some (List.getElem_idxOf _))

theorem getElem?_idxOf_fst {β} : ∀ (l : List (String × β)), (l.map (·.1)).Nodup → ∀ k v, (k, v) ∈ l →
    l[(l.map (·.1)).idxOf k]? = some (k, v) := by
  intro l hnd k v h
  obtain ⟨i, hi⟩ := List.getElem?_of_mem h
  rw [← ((getElem?_eq_some_iff_idxOf hnd).mp (by rw [List.getElem?_map, hi]; rfl : (l.map (·.1))[i]? = some k)).2, hi]

theorem filter_range'_length {α} (p : Nat → Bool) (q : α → Bool) : ∀ (l : List α) (k : Nat),
    (∀ i (hi : i < l.length), p (k + i) = q l[i]) → ((List.range' k l.length).filter p).length = l.countP q
  | [], _, _ => by simp
  | x :: l, k, h => by
    have h0 : p k = q x := by
      have := h 0 (by simp)
      rw [Nat.add_zero] at this
      exact this
    have ih := filter_range'_length p q l (k + 1) (fun i hi => by
      have := h (i + 1) (by simp; omega)
      simpa [Nat.add_assoc, Nat.add_comm 1 i] using this)
    simp only [List.length_cons, List.range'_succ, List.filter_cons, List.countP_cons, h0]
    cases q x <;> simp [ih]

theorem filter_range_length {α} (p : Nat → Bool) (q : α → Bool) (l : List α)
    (h : ∀ i (hi : i < l.length), p i = q l[i]) : ((List.range l.length).filter p).length = l.countP q := by
  rw [List.range_eq_range']
  exact filter_range'_length p q l 0 (by simpa using h)

/-- `μ` is a measure of the state that every recursive call lowers; `step` is what one unfolding of the function gives. -/
theorem fuel_irrelevant_le {σ ρ : Type} (μ : σ → Nat) (F : Nat → σ → ρ) (base : ∀ m s, μ s = 0 → F 0 s = F m s)
    (step : ∀ n m s, (∀ s', μ s' < μ s → F n s' = F m s') → F (n + 1) s = F (m + 1) s) :
    ∀ n m s, μ s ≤ n → μ s ≤ m → F n s = F m s := by
  intro n
  induction n with
  | zero => intro m s h _; exact base m s (by omega)
  | succ n ih =>
    intro m s hn hm
    cases m with
    | zero => exact (base _ s (by omega)).symm
    | succ m => exact step n m s fun s' hs' => ih m s' (by omega) (by omega)

theorem fuel_irrelevant {σ ρ : Type} (μ : σ → Nat) (F : Nat → σ → ρ)
    (step : ∀ n m s, (∀ s', μ s' < μ s → F n s' = F m s') → F (n + 1) s = F (m + 1) s) :
    ∀ n m s, μ s < n → μ s < m → F n s = F m s :=
  fuel_irrelevant_le (μ · + 1) F (fun _ _ h => by omega) fun n m s ih => step n m s fun s' hs' => ih s' (by omega)

end Slicec
