/-
  What a successful decode has consumed (C11). Every decoder of the model is rewritten once as a composition with
  `andThen`; "every success is a reading of a prefix, whatever follows" (`Local`) is closed under `andThen` and holds of
  `readN`, of the variable-width dispatch and of `decBool`, so it holds of `decode t` by recursion on `t`. That something was consumed
  (`Progress`) and framing (`Framed`) are read off.
-/
import SlicecVerif.Lemmas.Codec
import SlicecVerif.Lemmas.Basic

namespace Slicec

theorem decVaruintRawI_eq (bs : Bytes) :
    decVaruintRawI bs = andThen (decVaruintRaw bs) fun v rest => .ok ((v : Int), rest) := by
  unfold decVaruintRawI andThen; rcases decVaruintRaw bs with e | ⟨x, r⟩ <;> rfl

theorem narrow_eq (lo hi : Int) (r : Dec Int) :
    narrow lo hi r = andThen r fun v rest => if lo ≤ v ∧ v ≤ hi then .ok (v, rest) else .error .outOfRange := by
  unfold narrow andThen; rcases r with e | ⟨x, r⟩ <;> rfl

theorem decFixedU_eq (w : Nat) (bs : Bytes) :
    decFixedU w bs = andThen (readN w bs) fun raw rest => .ok ((fromLE raw : Int), rest) := by
  unfold decFixedU andThen; rcases readN w bs with e | ⟨x, r⟩ <;> rfl

theorem decFixedS_eq (w : Nat) (bs : Bytes) :
    decFixedS w bs = andThen (readN w bs) fun raw rest => .ok (toSigned (8 * w) (fromLE raw), rest) := by
  unfold decFixedS andThen; rcases readN w bs with e | ⟨x, r⟩ <;> rfl

theorem decBits_eq (w : Nat) (bs : Bytes) :
    decBits w bs = andThen (readN w bs) fun raw rest => .ok (fromLE raw, rest) := by
  unfold decBits andThen; rcases readN w bs with e | ⟨x, r⟩ <;> rfl

theorem decStr_eq (bs : Bytes) :
    decStr bs = andThen (decVaruintRaw bs) fun n rest => andThen (readN n rest) fun raw rest' =>
      if validUTF8 raw then .ok (raw, rest') else .error .invalidString := by
  fun_cases decStr bs <;> simp [andThen, *]

theorem decPair_eq {α β} (dk : Bytes → Dec α) (dv : Bytes → Dec β) (bs : Bytes) :
    decPair dk dv bs = andThen (dk bs) fun k rest => andThen (dv rest) fun v rest' => .ok ((k, v), rest') := by
  fun_cases decPair dk dv bs <;> simp only [andThen, *]

theorem decList_succ {α} (dec : Bytes → Dec α) (n : Nat) (bs : Bytes) :
    decList dec (n + 1) bs =
      andThen (dec bs) fun x rest => andThen (decList dec n rest) fun xs rest' => .ok (x :: xs, rest') := by
  rw [decList]; unfold andThen
  rcases dec bs with e | ⟨x, r⟩
  · rfl
  dsimp only
  rcases decList dec n r with e | ⟨xs, r'⟩ <;> rfl

theorem decEntries_succ {α β} [DecidableEq α] (dk : Bytes → Dec α) (dv : Bytes → Dec β) (n : Nat) (seen : List α)
    (bs : Bytes) :
    decEntries dk dv (n + 1) seen bs = andThen (decPair dk dv bs) fun p rest =>
      if p.1 ∈ seen then .error .dupKey
      else andThen (decEntries dk dv n (p.1 :: seen) rest) fun es rest' => .ok (p :: es, rest') := by
  rw [decEntries]; unfold andThen
  rcases decPair dk dv bs with e | ⟨⟨k, v⟩, r⟩
  · rfl
  dsimp only
  split
  · rfl
  · rcases decEntries dk dv n (k :: seen) r with e | ⟨es, r'⟩ <;> rfl

def Local {α} (dec : Bytes → Dec α) : Prop :=
  ∀ bs v rest, dec bs = .ok (v, rest) → ∃ pre, bs = pre ++ rest ∧ Reads dec pre v

/-- "No over-read" in the strong sense: the decoder stays inside the buffer and does not even look at the unread part
    of it. -/
def Framed {α} (dec : Bytes → Dec α) : Prop :=
  ∀ (bs : Bytes) (v : α) (rest ex : Bytes), dec bs = .ok (v, rest) → dec (bs ++ ex) = .ok (v, rest ++ ex)

def Pfx (bs rest : Bytes) : Prop := ∃ pre, bs = pre ++ rest
def SPfx (bs rest : Bytes) : Prop := ∃ pre, pre ≠ [] ∧ bs = pre ++ rest

theorem Pfx.trans_spfx {a b c : Bytes} (h1 : Pfx a b) (h2 : SPfx b c) : SPfx a c := by
  obtain ⟨p, rfl⟩ := h1; obtain ⟨q, hq, rfl⟩ := h2
  exact ⟨p ++ q, by simp [hq], by simp⟩
theorem SPfx.length_lt {a b : Bytes} (h : SPfx a b) : b.length < a.length := by
  obtain ⟨p, hp, rfl⟩ := h
  have : 0 < p.length := List.length_pos_iff.mpr hp
  simp; omega
theorem Pfx.length_le {a b : Bytes} (h : Pfx a b) : b.length ≤ a.length := by
  obtain ⟨p, rfl⟩ := h; simp

def Progress {α} (dec : Bytes → Dec α) : Prop := ∀ b x r, dec b = .ok (x, r) → SPfx b r

theorem Reads.andThen {α β} {f : Bytes → Dec α} {g : α → Bytes → Dec β} {a b : Bytes} {x : α} {y : β}
    (hf : Reads f a x) (hg : Reads (g x) b y) : Reads (fun bs => andThen (f bs) g) (a ++ b) y := fun rest => by
  show Slicec.andThen (f (a ++ b ++ rest)) g = _
  rw [List.append_assoc, hf]; exact hg rest

namespace Local

theorem of_eq {α} {d d' : Bytes → Dec α} (h : ∀ bs, d bs = d' bs) (hd : Local d') : Local d := by
  rw [funext h]; exact hd

theorem andThen {α β} {f : Bytes → Dec α} {g : α → Bytes → Dec β} (hf : Local f) (hg : ∀ x, Local (g x)) :
    Local fun bs => andThen (f bs) g := by
  intro bs y rest h
  obtain ⟨x, r, hx, hy⟩ := andThen_ok h
  obtain ⟨a, rfl, ha⟩ := hf _ _ _ hx
  obtain ⟨b, rfl, hb⟩ := hg x _ _ _ hy
  exact ⟨a ++ b, (List.append_assoc ..).symm, ha.andThen hb⟩

theorem ok {α} (x : α) : Local fun rest => (.ok (x, rest) : Dec α) := by
  intro bs v rest h; cases h; exact ⟨[], rfl, fun _ => rfl⟩

theorem error {α} (e : DErr) : Local fun _ => (.error e : Dec α) := fun _ _ _ h => nomatch h

theorem ite {α} (c : Prop) [Decidable c] {f g : Bytes → Dec α} (hf : Local f) (hg : Local g) :
    Local fun rest => if c then f rest else g rest := by
  by_cases hc : c
  · simpa only [if_pos hc] using hf
  · simpa only [if_neg hc] using hg

theorem framed {α} {dec : Bytes → Dec α} (h : Local dec) : Framed dec := by
  intro bs v rest ex e
  obtain ⟨pre, rfl, hr⟩ := h _ _ _ e
  rw [List.append_assoc]; exact hr _

theorem progress {α} {dec : Bytes → Dec α} (h : Local dec) (h0 : ∃ e, dec [] = .error e) : Progress dec := by
  intro bs v rest e
  obtain ⟨pre, rfl, hr⟩ := h _ _ _ e
  refine ⟨pre, fun hp => ?_, rfl⟩
  obtain ⟨e, he⟩ := h0
  subst hp
  exact nomatch he.symm.trans (hr [])

end Local

theorem readN_pfx (n : Nat) (bs raw rest : Bytes) (h : readN n bs = .ok (raw, rest)) :
    bs = raw ++ rest ∧ raw.length = n := by
  revert h
  fun_cases readN n bs <;> intro h <;> cases h
  case case2 hn => exact ⟨(List.take_append_drop n bs).symm, List.length_take_of_le (Nat.le_of_not_lt hn)⟩

theorem readN_nil {n : Nat} (h : 0 < n) : readN n [] = .error (.eob n 0) := if_pos h

theorem readN_local (n : Nat) : Local (readN n) := by
  intro bs raw rest h
  obtain ⟨rfl, rfl⟩ := readN_pfx n bs raw rest h
  exact ⟨raw, rfl, readN_append raw⟩

theorem readN_map_local {α} (w : Nat) (F : Bytes → α) :
    Local fun bs => andThen (readN w bs) fun raw rest => .ok (F raw, rest) :=
  .andThen (readN_local w) fun _ => .ok _

theorem decVarRaw_local {α} (tbl : List (Nat × Nat × Bool)) (hpos : ∀ ws ∈ tbl.map (·.2), 0 < ws.1) (F : Nat → Nat → α) :
    Local (decVarRaw tbl F) := by
  intro bs v rest
  fun_cases decVarRaw tbl F bs <;> intro h
  · cases h
  · cases h
  case case3 b tl w s hl =>
    -- the dispatch looks at the first byte only: the row it chose is chosen again on every input that starts with that byte
    obtain ⟨row, hrow, erow⟩ := Option.map_eq_some_iff.mp hl
    have hw : 0 < w := hpos (w, s) (List.mem_map.mpr ⟨row, List.mem_of_find?_eq_some hrow, erow⟩)
    obtain ⟨pre, e, hr⟩ := readN_map_local w _ _ _ _ h
    -- the `w > 0` bytes read begin with that byte
    rcases pre with _ | ⟨b', pre⟩
    · have h0 : Slicec.andThen (readN w []) _ = _ := hr []
      rw [readN_nil hw] at h0; cases h0
    cases List.cons.inj e |>.1
    exact ⟨b :: pre, e, fun r => by rw [List.cons_append, decVarRaw, hl]; exact hr r⟩

theorem decVaruintRaw_local : Local decVaruintRaw := .of_eq decVaruintRaw_eq (decVarRaw_local _ (by decide) _)

theorem decVarintRaw_local : Local decVarintRaw := .of_eq decVarintRaw_eq (decVarRaw_local _ (by decide) _)

theorem decVaruintRawI_local : Local decVaruintRawI :=
  .of_eq decVaruintRawI_eq (.andThen decVaruintRaw_local fun _ => .ok _)

theorem narrow_local (lo hi : Int) {dec : Bytes → Dec Int} (hd : Local dec) : Local fun bs => narrow lo hi (dec bs) :=
  .of_eq (fun bs => narrow_eq lo hi (dec bs)) (.andThen hd fun _ => .ite _ (.ok _) (.error _))

theorem decBool_ok (bs : Bytes) (v : Bool) (rest : Bytes) (h : decBool bs = .ok (v, rest)) :
    ∃ b, bs = b :: rest ∧ ((b = 0 ∧ v = false) ∨ (b = 1 ∧ v = true)) := by
  revert h
  fun_cases decBool bs <;> intro h <;> cases h
  · exact ⟨0, rfl, .inl ⟨rfl, rfl⟩⟩
  · exact ⟨1, rfl, .inr ⟨rfl, rfl⟩⟩

theorem decBool_local : Local decBool := by
  intro bs v rest h
  obtain ⟨b, rfl, ⟨rfl, rfl⟩ | ⟨rfl, rfl⟩⟩ := decBool_ok bs v rest h <;> exact ⟨[_], rfl, fun _ => rfl⟩

theorem decStr_local : Local decStr :=
  .of_eq decStr_eq (.andThen decVaruintRaw_local fun n => .andThen (readN_local n) fun _ => .ite _ (.ok _) (.error _))

theorem decList_local {α} {dec : Bytes → Dec α} (hd : Local dec) : ∀ n, Local (decList dec n)
  | 0 => .ok []
  | n + 1 => .of_eq (decList_succ dec n) (.andThen hd fun _ => .andThen (decList_local hd n) fun _ => .ok _)

theorem decPair_local {α β} {dk : Bytes → Dec α} {dv : Bytes → Dec β} (hk : Local dk) (hv : Local dv) :
    Local (decPair dk dv) :=
  .of_eq (decPair_eq dk dv) (.andThen hk fun _ => .andThen hv fun _ => .ok _)

theorem decEntries_local {α β} [DecidableEq α] {dk : Bytes → Dec α} {dv : Bytes → Dec β}
    (hk : Local dk) (hv : Local dv) : ∀ n seen, Local (decEntries dk dv n seen)
  | 0, _ => .ok []
  | n + 1, seen => .of_eq (decEntries_succ dk dv n seen) (.andThen (decPair_local hk hv) fun p =>
      .ite _ (.error _) (.andThen (decEntries_local hk hv n (p.1 :: seen)) fun _ => .ok _))

theorem decode_local : ∀ t : Ty, Local (decode t)
  | .bool => decBool_local
  | .uint w => .of_eq (decFixedU_eq w.n) (readN_map_local _ _)
  | .sint w => .of_eq (decFixedS_eq w.n) (readN_map_local _ _)
  | .f32 => .of_eq (decBits_eq 4) (readN_map_local _ _)
  | .f64 => .of_eq (decBits_eq 8) (readN_map_local _ _)
  | .varint32 => narrow_local _ _ decVarintRaw_local
  | .varuint32 => narrow_local _ _ decVaruintRawI_local
  | .varint62 => decVarintRaw_local
  | .varuint62 => decVaruintRawI_local
  | .size => decVaruintRawI_local
  | .str => decStr_local
  | .seq t => .of_eq (decode_seq t) (.andThen decVaruintRaw_local (decList_local (decode_local t)))
  | .dictB k v => .of_eq (decode_dictB k v) (.andThen decVaruintRaw_local fun n =>
      decEntries_local (decode_local k) (decode_local v) n [])
  | .dictH k v => .of_eq (decode_dictH k v) (.andThen decVaruintRaw_local fun n =>
      decEntries_local (decode_local k) (decode_local v) n [])

theorem decode_nil (t : Ty) : ∃ e, decode t [] = .error e := by
  cases t with
  | uint w | sint w => cases w <;> exact ⟨_, rfl⟩
  | _ => exact ⟨_, rfl⟩

theorem decode_spfx (t : Ty) : Progress (decode t) := (decode_local t).progress (decode_nil t)

theorem decode_framed : ∀ t : Ty, Framed (decode t) := fun t => (decode_local t).framed

theorem decVaruintRaw_spfx : Progress decVaruintRaw := decVaruintRaw_local.progress ⟨_, rfl⟩

theorem decVarintRaw_spfx : Progress decVarintRaw := decVarintRaw_local.progress ⟨_, rfl⟩

theorem decList_count {α} (dec : Bytes → Dec α) (n : Nat) (bs : Bytes) (xs : List α) (rest : Bytes)
    (hp : Progress dec) (h : decList dec n bs = .ok (xs, rest)) : xs.length = n ∧ n + rest.length ≤ bs.length := by
  revert h
  fun_induction decList dec n bs generalizing xs <;> intro h <;> cases h
  case case1 => exact ⟨rfl, Nat.le_of_eq (Nat.zero_add _)⟩
  case case4 hx xs ih hxs =>
    have h1 := (hp _ _ _ hx).length_lt
    obtain ⟨h2, h3⟩ := ih xs hxs
    exact ⟨congrArg (· + 1) h2, by omega⟩

theorem decEntries_keys {α β} [DecidableEq α] (dk : Bytes → Dec α) (dv : Bytes → Dec β) (n : Nat) (seen : List α)
    (bs : Bytes) (es : List (α × β)) (rest : Bytes) (h : decEntries dk dv n seen bs = .ok (es, rest)) :
    es.length = n ∧ (es.map Prod.fst).Nodup ∧ (∀ p ∈ es, p.1 ∉ seen) := by
  revert h
  -- of the five branches of `decEntries` two succeed: no entry left, or a new key and then the other entries
  fun_induction decEntries dk dv n seen bs generalizing es <;> intro h <;> cases h
  case case1 => exact ⟨rfl, .nil, nofun⟩
  case case5 k v _ _ hns es ih hes =>
    obtain ⟨h2, h3, h4⟩ := ih es hes
    refine ⟨congrArg (· + 1) h2, List.nodup_cons.mpr ⟨fun hm => ?_, h3⟩, fun q hq => ?_⟩
    · obtain ⟨q, hq, rfl⟩ := List.mem_map.mp hm
      exact h4 q hq List.mem_cons_self
    · rcases List.mem_cons.mp hq with rfl | hq
      · exact hns
      · exact fun hs => h4 q hq (List.mem_cons_of_mem _ hs)

/-- the recursion of `decList` once more, counting the calls of `dec` instead of returning the values: a copy, tied to
    `decList` by its shape alone -/
def decListCalls {α} (dec : Bytes → Dec α) : Nat → Bytes → Nat
  | 0, _ => 0
  | n + 1, bs =>
    match dec bs with
    | .error _ => 1
    | .ok (_, rest) => 1 + decListCalls dec n rest

theorem decListCalls_le {α} (dec : Bytes → Dec α) (hp : Progress dec)
    (n : Nat) (bs : Bytes) : decListCalls dec n bs ≤ bs.length + 1 := by
  fun_induction decListCalls dec n bs with
  | case1 | case2 => omega
  | case3 _ _ _ _ hx ih => have := (hp _ _ _ hx).length_lt; omega

/-- every round that goes on leaves a strictly shorter input -/
theorem skipTagged_fuel (f1 : Nat) : ∀ (f2 : Nat) (bs : Bytes), bs.length < f1 → bs.length < f2 →
    skipTagged f1 bs = skipTagged f2 bs := by
  refine fuel_irrelevant List.length skipTagged ?_ f1
  intro f g bs ih
  unfold skipTagged
  split
  · rfl
  · rename_i tag rest ht
    split
    · rfl
    · split
      · rfl
      · rename_i n rest' hn
        split
        · rfl
        · rename_i raw rest'' hr
          have l1 := (decVarintRaw_spfx _ _ _ (narrow_ok _ _ _ _ _ ht).1).length_lt
          have l2 := (decVaruintRaw_spfx _ _ _ hn).length_lt
          have l3 := (Pfx.length_le ⟨raw, (readN_pfx _ _ _ _ hr).1⟩ : rest''.length ≤ rest'.length)
          exact ih rest'' (by omega)

end Slicec
