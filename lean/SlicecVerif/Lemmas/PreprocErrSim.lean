/-
  C06: the error-collecting line-by-line machine `cerrRun` over the raw lines of a file and the recovery mirror
  `runLines ∘ tokLines` over the located token stream of the lexer model report the same rows, line by line
  (`sim_file`), up to the one licensed difference (the pending error in front of a lexical error is lost).
  The simulation is an induction on the line reading `Reads` of the lexer model (`Reads.sim`); what the theorems of
  `Props/C06.lean` say about the reports is read off `sim_file`.  `cerrRun` collects nothing exactly when `cspecRun`
  accepts (`cerrRun_clean_iff`), so the mirror reports something exactly when `cspecFile` rejects (`reported_ne_nil_iff`).
-/
import SlicecVerif.Lemmas.PreprocErrors
import SlicecVerif.Lemmas.PreprocSpec

namespace Slicec.Pp

theorem dirOf_eq (toks : List PTok) : dirOf toks = alineOf toks := rfl

theorem frameStep_eq (s : List Bool) (a : ALine) : frameStep s a = shapeStep s a := rfl

def rowsOf (L : List Span) : List Nat := L.map (·.1.row)

/-- `out`, the mirror's report from a state with pending rows `pr`, is `pr` followed by the line machine's record `R`;
    when the run ends with a lexical error it may lack the last of `pr ++ R.rows` (not of `R.rows`: if the lexical error
    is the first thing on its line, what the mirror loses is its pending error, a row of `pr`) -/
structure Rel (pr : List Nat) (R : ErrRows) (out : List Span × Bool) (lex : Bool) : Prop where
  stop : out.2 = R.stop.isSome
  lex : lex = R.lexical
  lexStop : R.lexical = true → R.stop.isSome = true
  same : ∀ sp ∈ out.1, sp.1.row = sp.2.row
  rows : rowsOf out.1 = pr ++ R.rows ++ R.stop.toList ∨
    (R.lexical = true ∧ rowsOf out.1 = (pr ++ R.rows).dropLast ++ R.stop.toList)

theorem Rel.pre {q : List Nat} {R : ErrRows} {out : List Span × Bool} {lex : Bool} (h : Rel q R out lex)
    (pend : Option Span) (hp : ∀ p, pend = some p → p.1.row = p.2.row) :
    Rel (rowsOf pend.toList) ⟨q ++ R.rows, R.stop, R.lexical⟩ (commit pend out) lex := by
  refine ⟨h.stop, h.lex, h.lexStop, ?_, ?_⟩
  · exact commit_all hp h.same
  · have hr : rowsOf (commit pend out).1 = rowsOf pend.toList ++ rowsOf out.1 := by
      simp [commit, rowsOf]
    rw [hr]
    simp only
    rcases h.rows with h1 | ⟨hl, h2⟩
    · left; rw [h1]; simp [List.append_assoc]
    · by_cases hnil : q ++ R.rows = []
      · left; rw [h2, hnil]; simp
      · right
        refine ⟨hl, ?_⟩
        rw [List.dropLast_append_of_ne_nil hnil, h2]
        simp [List.append_assoc]

theorem lexicallyBad_eq (l d' : List Char) (hl : noNl l) (hd : l.dropWhile isInlineWs = '#' :: d') :
    lexicallyBad l = (dirLine ('#' :: d')).isNone := by
  have hlex := lexPre_dirline l d' hl hd
  unfold lexicallyBad
  cases hdl : dirLine ('#' :: d') with
  | none =>
    obtain ⟨e, he⟩ := hlex.2 hdl
    rw [he]
    rfl
  | some ts =>
    rw [hlex.1 ts hdl]
    rfl

theorem cerrRun_hash (l d : List Char) (ls : List (List Char)) (row : Nat) (stk : List Bool) (lt : Nat × Bool) (hl : noNl l)
    (hd : l.dropWhile isInlineWs = '#' :: d) :
    cerrRun (l :: ls) row stk lt = match dirLine ('#' :: d) with
      | none => ⟨[], some row, true⟩
      | some ks =>
        match (alineOf (ks ++ [.dend])).bind (frameStep stk) with
        | some stk' => cerrRun ls (row + 1) stk' (row, false)
        | none => { cerrRun ls (row + 1) stk (row, false) with rows := row :: (cerrRun ls (row + 1) stk (row, false)).rows } := by
  have hbad := lexicallyBad_eq l d hl hd
  have hcl := classify_eq l hl
  unfold lineKind at hcl
  rw [hd] at hcl
  simp only [ne_eq, not_true_eq_false, ↓reduceIte] at hcl
  rw [cerrRun, hcl]
  cases hdl : dirLine ('#' :: d) with
  | none => rw [hdl] at hbad; simp only [Option.bind, hbad, Option.isNone, ↓reduceIte]
  | some ks =>
    rw [hdl] at hbad
    simp only [Option.bind]
    cases alineOf (ks ++ [.dend]) with
    | none => simp only [hbad, Option.isNone]; rfl
    | some a => rfl

theorem Rel.final (pend : Option Span) (hp : ∀ p, pend = some p → p.1.row = p.2.row) (stk : List Bool) (loc : Loc) (r : Nat)
    (hr : loc.row = r) :
    Rel (rowsOf pend.toList) (if stk.isEmpty then ⟨[], none, false⟩ else ⟨[], some r, false⟩)
      (commit pend (if stk.isEmpty then ([], false) else ([(loc, loc)], true))) false := by
  cases hs : stk.isEmpty
  · simp only [Bool.false_eq_true, ↓reduceIte]
    have h0 : Rel [] ⟨[], some r, false⟩ ([(loc, loc)], true) false :=
      ⟨rfl, rfl, by simp, by simp, Or.inl (by simp [rowsOf, hr])⟩
    exact h0.pre pend hp
  · simp only [↓reduceIte]
    have h0 : Rel [] ⟨[], none, false⟩ ([], false) false := ⟨rfl, rfl, by simp, by simp, Or.inl rfl⟩
    exact h0.pre pend hp

/-- the open block of the line reading against the line machine's `lastTok`; `last` is the end of the last token fetched -/
def LastRel (pend : Option Nat) (last : Loc) (lt : Nat × Bool) : Prop :=
  match pend with
  | none => last.row = lt.1 ∧ lt.2 = false
  | some _ => lt.2 = true

/-- Past the block token `bs` that a `#` or the end of the input closes: the mirror commits what is pending and goes on
    with nothing pending from the end of the block, which lies on row `R`; so `last` stays on the row for which the line
    machine would report the end of the input (`R` after a source line, else the row of its last directive line). -/
theorem Flushed.sim {f : List Char} {pend : Option Nat} {e R : Nat} {bs : List LTok} (hb : Flushed f pend e R bs)
    {S : List LTok × Option LexErr} {X : ErrRows} {stk : List Bool} {lt : Nat × Bool}
    (h : ∀ pnd last, (∀ p, pnd = some p → p.1.row = p.2.row) → last.row = (if lt.2 then R else lt.1) →
      Rel (rowsOf pnd.toList) X (mir S stk pnd last) S.2.isSome) :
    ∀ pnd last, (∀ p, pnd = some p → p.1.row = p.2.row) → LastRel pend last lt →
      Rel (rowsOf pnd.toList) X (mir (bs ++ S.1, S.2) stk pnd last) S.2.isSome := by
  intro pnd last hp hlast
  have hk := hb.1
  cases pend with
  | none =>
    cases List.map_eq_nil_iff.mp hk
    obtain ⟨hl1, hl2⟩ := hlast
    simpa only [List.nil_append, Prod.eta] using h pnd last hp (by rw [hl2]; exact hl1)
  | some p =>
    cases bs with
    | nil => cases hk
    | cons t bs' =>
      simp only [flushTok, List.map_cons, List.cons.injEq, List.map_eq_nil_iff] at hk
      obtain ⟨ht, rfl⟩ := hk
      have hl2 : lt.2 = true := hlast
      rw [List.cons_append, List.nil_append, mir_block t S _ ht]
      exact (h none t.e (fun _ h => nomatch h) (by rw [hl2]; exact hb.2 t (by simp))).pre pnd hp

theorem Reads.sim {f : List Char} {ls : List (List Char)} {row : Nat} {pend : Option Nat} {S : List LTok × Option LexErr}
    (h : Reads f ls row pend S) :
    ∀ stk pnd last lt, (∀ p, pnd = some p → p.1.row = p.2.row) → LastRel pend last lt →
      Rel (rowsOf pnd.toList) (cerrRun ls row stk lt) (mir S stk pnd last) S.2.isSome := by
  induction h with
  | @eof row pend bs hb =>
    intro stk pnd last lt hp hlast
    rw [← List.append_nil bs]
    refine hb.sim (S := ([], none)) (fun pnd last hp hl => ?_) pnd last hp hlast
    obtain ⟨lr, src⟩ := lt
    unfold mir
    simp only [tokLines_nil]
    unfold runLines cerrRun
    simp only [List.getLast?_nil]
    exact Rel.final pnd hp stk last _ hl
  | @blank l ls row pend S hd _ ih =>
    intro stk pnd last lt hp hlast
    have hc : classify l = .blank := by unfold classify; rw [hd]
    rw [cerrRun, hc]
    exact ih stk pnd last lt hp hlast
  | @src l ls row pend S c d hd hc _ ih =>
    intro stk pnd last lt hp _
    have hcs : classify l = .source := by unfold classify; rw [hd]; simp [hc]
    rw [cerrRun, hcs]
    exact ih stk pnd last (row, true) hp rfl
  | @bad l ls row pend bs ts e d hl hd hdl hb hts he1 he2 =>
    intro stk pnd last lt hp hlast
    refine hb.sim (S := (ts, some e)) (fun pnd last hp _ => ?_) pnd last hp hlast
    rw [cerrRun_hash l d ls row stk lt hl hd, hdl]
    unfold mir
    simp only [tokLines_cut ts hts]
    unfold runLines
    refine ⟨rfl, rfl, fun _ => rfl, ?_, ?_⟩
    · intro sp hsp
      rcases List.mem_append.mp hsp with hsp | hsp
      · split at hsp
        · cases hsp
        · exact hp sp (Option.mem_toList.mp hsp)
      · cases List.mem_singleton.mp hsp
        simp only [he1, he2]
    · -- the pending error is lost exactly when the lexical error is the first thing on the line
      cases ts with
      | nil => exact Or.inr ⟨rfl, by cases pnd <;> simp [rowsOf, he1]⟩
      | cons K ts' => exact Or.inl (by simp [rowsOf, he1])
  | @dir l ls row pend bs ts dd S d hl hd hdl hb hdd hrows _ ih =>
    intro stk pnd last lt hp hlast
    refine hb.sim (S := (ts ++ dd :: S.1, S.2)) (fun pnd last hp _ => ?_) pnd last hp hlast
    rw [cerrRun_hash l d ls row stk lt hl hd, hdl]
    obtain ⟨k, ks', hks⟩ := dirLine_hash d _ hdl
    cases ts with
    | nil => cases hks
    | cons K ts' =>
      have hK : K.tok = .kw k := (List.cons.inj hks).1
      have hts' : ∀ t ∈ ts', t.tok ≠ .dend := fun t ht e =>
        dirLine_noDend _ _ hdl (by rw [← e]; exact List.mem_map_of_mem (List.mem_cons_of_mem _ ht))
      rw [List.cons_append, mir_dir K ts' dd S (by rw [hK]; trivial) (by rw [hK]; simp) hts' hdd]
      have hls : (alineOf ((K :: ts').map (·.tok) ++ [.dend])).bind (frameStep stk) = lineStep stk K ts' := by
        rw [lineStep, dirOf_eq]; rfl
      simp only [hls]
      have hdrow := hrows dd (by simp)
      cases lineStep stk K ts' with
      | some stk' => exact (ih stk' none dd.e (row, false) (fun _ h => nomatch h) ⟨hdrow.2, rfl⟩).pre pnd hp
      | none =>
        -- the error token is a token of the line, so it lies on the row of the line
        have hbt : (badTokG stk.head? K ts' dd).s.row = row ∧ (badTokG stk.head? K ts' dd).e.row = row :=
          hrows _ (by simpa using badTokG_mem stk.head? K ts' dd)
        have h1 := (ih stk (some (badTokG stk.head? K ts' dd).span) dd.e (row, false)
          (fun p hpe => by cases hpe; simp only [LTok.span, hbt.1, hbt.2]) ⟨hdrow.2, rfl⟩).pre pnd hp
        simp only [rowsOf, Option.toList, List.map_cons, List.map_nil, LTok.span, hbt.1] at h1
        exact h1

theorem sim_file (f : List Char) : Rel [] (cerrFile f) (reportedFull f) (lexPreLE f).2.isSome :=
  (lexPreLE_reads f).sim [] none Loc.init (1, false) (fun _ h => nomatch h) ⟨rfl, rfl⟩

def ErrRows.clean (r : ErrRows) : Prop := r.rows = [] ∧ r.stop = none

theorem cerrRun_clean_iff : ∀ (ls : List (List Char)) (row : Nat) (st : CSpecSt) (lt : Nat × Bool),
    (cerrRun ls row (shapeOf st.stack) lt).clean ↔ (cspecRun ls row st).isSome = true := by
  intro ls
  induction ls with
  | nil =>
    intro row st lt
    obtain ⟨lr, src⟩ := lt
    unfold cerrRun cspecRun ErrRows.clean
    cases st.stack <;> simp [shapeOf]
  | cons l ls ih =>
    intro row st lt
    rw [cspecRun_cons]
    unfold cerrRun
    cases hc : classify l with
    | blank => exact ih _ _ _
    | source => exact ih (row + 1) ⟨st.stack, st.syms, st.out ++ if allActive st.stack then locatedLine row l else []⟩ (row, true)
    | malformed =>
      simp only []
      split <;> simp [ErrRows.clean]
    | dir a =>
      simp only []
      rw [frameStep_eq, ← specStep_shape ⟨st.stack, ⟨[], st.syms⟩⟩ a]
      cases specStep ⟨st.stack, ⟨[], st.syms⟩⟩ a with
      | none => simp [ErrRows.clean]
      | some st' => exact ih (row + 1) ⟨st'.stack, st'.out.syms, st.out⟩ (row, false)

theorem cerrFile_clean_iff (f : List Char) (D : Syms) : (cerrFile f).clean ↔ cspecFile f D ≠ none := by
  unfold cerrFile cspecFile
  have := cerrRun_clean_iff (splitLines f) 1 ⟨[], D, []⟩ (1, false)
  simp only [shapeOf, List.map_nil] at this
  rw [this]
  cases cspecRun (splitLines f) 1 ⟨[], D, []⟩ <;> simp

theorem reported_nil_iff_clean (f : List Char) : reportedErrors f = [] ↔ (cerrFile f).clean := by
  have h := sim_file f
  have hre : reportedErrors f = [] ↔ rowsOf (reportedFull f).1 = [] := by simp [reportedErrors, rowsOf]
  rw [hre]
  unfold ErrRows.clean
  rcases h.rows with h1 | ⟨hl, h1⟩
  · rw [h1]; simp
  · rw [h1]
    cases hs : (cerrFile f).stop with
    | none => exact absurd (h.lexStop hl) (by simp [hs])
    | some s => simp

theorem reported_ne_nil_iff (f : List Char) (D : Syms) : reportedErrors f ≠ [] ↔ cspecFile f D = none := by
  rw [ne_eq, reported_nil_iff_clean, cerrFile_clean_iff f D]
  exact Decidable.not_not

/-- the body of `ErrRows.agree` (`Props/C06.lean`) for `cerrFile f` and `mirrorRows f` -/
theorem cerr_agree (f : List Char) :
    cerrFile f = mirrorRows f ∨ ((cerrFile f).lexical = true ∧ (mirrorRows f).lexical = true ∧
      (cerrFile f).stop = (mirrorRows f).stop ∧ (cerrFile f).rows.dropLast = (mirrorRows f).rows) := by
  have h := sim_file f
  have hm : mirrorRows f = (if (reportedFull f).2 then
      ⟨(rowsOf (reportedFull f).1).dropLast, (rowsOf (reportedFull f).1).getLast?, (lexPreLE f).2.isSome⟩
      else ⟨rowsOf (reportedFull f).1, none, false⟩) := rfl
  rw [hm]
  generalize cerrFile f = R at h ⊢
  generalize reportedFull f = out at h ⊢
  generalize (lexPreLE f).2.isSome = lex at h ⊢
  obtain ⟨rows, stop, lexical⟩ := R
  obtain ⟨L, b⟩ := out
  obtain ⟨h1, h2, h3, _, h5⟩ := h
  simp only at h1 h2 h3 h5
  subst h1 h2
  cases stop with
  | none =>
    have hl : lex = false := by
      cases lex
      · rfl
      · exact absurd (h3 rfl) (by simp)
    subst hl
    left
    rcases h5 with h5 | ⟨h5, _⟩
    · simp [h5]
    · cases h5
  | some s =>
    simp only [Option.isSome, ↓reduceIte]
    rcases h5 with h5 | ⟨hl, h5⟩
    · left; rw [h5]; simp
    · right; subst hl; rw [h5]; simp

theorem classify_isDirLine (l : List Char) (h : classify l = .malformed ∨ ∃ a, classify l = .dir a) : isDirLine l := by
  unfold classify at h
  cases hd : l.dropWhile isInlineWs with
  | nil => rw [hd] at h; simp at h
  | cons c d' =>
    by_cases hc : c = '#'
    · subst hc; exact ⟨d', hd⟩
    · rw [hd] at h; simp [hc] at h

theorem cerrRun_rows (ls : List (List Char)) (row : Nat) (stk : List Bool) (lt : Nat × Bool) :
    ∀ r ∈ (cerrRun ls row stk lt).rows, ∃ i l, r = row + i ∧ ls[i]? = some l ∧ isDirLine l := by
  -- a row of the remaining lines; a row reported for this line, which then is a directive line
  have next {l ls row} {R : ErrRows} (ih : ∀ r ∈ R.rows, ∃ i l', r = row + 1 + i ∧ ls[i]? = some l' ∧ isDirLine l') :
      ∀ r ∈ R.rows, ∃ i l', r = row + i ∧ (l :: ls)[i]? = some l' ∧ isDirLine l' := fun r hr =>
    have ⟨i, l', h1, h2, h3⟩ := ih r hr
    ⟨i + 1, l', by omega, h2, h3⟩
  have here {l ls row} {R : ErrRows} (hd : isDirLine l)
      (ih : ∀ r ∈ R.rows, ∃ i l', r = row + 1 + i ∧ ls[i]? = some l' ∧ isDirLine l') :
      ∀ r ∈ row :: R.rows, ∃ i l', r = row + i ∧ (l :: ls)[i]? = some l' ∧ isDirLine l' := fun r hr =>
    (List.mem_cons.mp hr).elim (fun e => ⟨0, l, e, rfl, hd⟩) (next ih r)
  fun_induction cerrRun ls row stk lt
  case case1 | case2 | case5 => nofun
  case case3 ih | case4 ih | case7 ih => exact next ih
  case case6 hc _ _ ih => exact here (classify_isDirLine _ (.inl hc)) ih
  case case8 hc _ _ ih => exact here (classify_isDirLine _ (.inr ⟨_, hc⟩)) ih

/-- the row clause of `C06.every_error_is_located_in_its_line` -/
theorem reported_rows (f : List Char) (k : Nat) (sp : Loc × Loc) (h : (reportedErrors f)[k]? = some sp) :
    sp.1.row = sp.2.row ∧ ((parseStopped f = false ∨ k + 1 < (reportedErrors f).length) →
      ∃ l, (splitLines f)[sp.1.row - 1]? = some l ∧ isDirLine l) := by
  refine ⟨(sim_file f).same sp (List.mem_of_getElem? h), fun hrec => ?_⟩
  have hk : ((reportedErrors f).map (·.1.row))[k]? = some sp.1.row := by rw [List.getElem?_map, h]; rfl
  -- a recoverable error is one of the rows the mirror collects in front of its stop
  have hmem : sp.1.row ∈ (mirrorRows f).rows := by
    unfold mirrorRows
    cases hs : (reportedFull f).2 with
    | false => simp only [hs, Bool.false_eq_true, ↓reduceIte]; exact List.mem_of_getElem? hk
    | true =>
      simp only [hs, ↓reduceIte]
      refine List.mem_of_getElem? (i := k) ((List.getElem?_dropLast.trans (if_pos ?_)).trans hk)
      rw [List.length_map]
      exact Nat.lt_sub_of_add_lt (hrec.resolve_left (fun h0 => absurd (h0.symm.trans hs) Bool.false_ne_true))
  -- and these are rows of the line machine
  have hsub : sp.1.row ∈ (cerrFile f).rows := by
    rcases cerr_agree f with e | ⟨_, _, _, e⟩
    · rw [e]; exact hmem
    · exact (List.dropLast_sublist _).subset (by rw [e]; exact hmem)
  obtain ⟨i, l, h1, h2, h3⟩ := cerrRun_rows (splitLines f) 1 [] (1, false) sp.1.row hsub
  exact ⟨l, by rw [h1, Nat.add_sub_cancel_left]; exact h2, h3⟩

theorem lexPreLE_span (f : List Char) :
    (∀ t ∈ (lexPreLE f).1, SpanIn f t.s t.e) ∧ (∀ e, (lexPreLE f).2 = some e → SpanIn f e.s e.e) :=
  have h := lexAllE_facts f (2 * f.length + 3) (lexInit f) ⟨Nat.zero_le _, rfl, rfl⟩
  ⟨h.1, h.2.1⟩

/-- the offset clause of `C06.every_error_is_located_in_its_line` -/
theorem reported_spanIn (f : List Char) : ∀ sp ∈ reportedErrors f, SpanIn f sp.1 sp.2 :=
  reported_spans (SpanIn f) f ⟨0, 0, Nat.le_refl _, Nat.zero_le _, rfl, rfl⟩
    (fun t ht => ⟨(lexPreLE_span f).1 t ht, ((lexPreLE_span f).1 t ht).right⟩) (lexPreLE_span f).2

end Slicec.Pp
