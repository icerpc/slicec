/-
  C05 — lemmas about the detectors of Model/Cycles.lean. The containment search with the skip rule (`dfs`, the code since
  dd206d7) and the one without (`dfsUnpruned`, the specification) are instances of `dfsG`, a search with an arbitrary skip
  predicate; its invariants are proved once, through `dfs_induct`. Every bound on a nesting depth (`dfs`, `collect`,
  `find_path`, `revisits_anonymous_type`, `allBasesSpec`, the worklist of `detect_cycles`) is `Distinct.length_le`: what is on
  the stack, or in the set, are distinct nodes of the graph. What `allBasesSpec` returns is described without its frame
  counter by `SpecReturns`, the tree of its nested calls; the refinement `collect_spec` is an induction on it.
-/
import SlicecVerif.Model.Cycles

namespace Slicec.Cyc

theorem mem_targets_iff (t : CTy) (j : Nat) : j ∈ t.targets ↔ t.Contains j := by
  constructor
  · intro h
    induction t with
    | node k => rw [List.mem_singleton.1 h]; exact .node _
    | terminal => cases h
    | opt t ih => exact .opt (ih h)
    | seq t ih => exact .seq (ih h)
    | dict k v ihk ihv => exact (List.mem_append.1 h).elim (fun h => .dictKey (ihk h)) (fun h => .dictValue (ihv h))
    | result s f ihs ihf =>
      exact (List.mem_append.1 h).elim (fun h => .resultSuccess (ihs h)) (fun h => .resultFailure (ihf h))
  · intro h
    induction h with
    | node j => exact List.mem_singleton.2 rfl
    | opt _ ih => exact ih
    | seq _ ih => exact ih
    | dictKey _ ih => exact List.mem_append_left _ ih
    | dictValue _ ih => exact List.mem_append_right _ ih
    | resultSuccess _ ih => exact List.mem_append_left _ ih
    | resultFailure _ ih => exact List.mem_append_right _ ih

theorem edges_lt (g : Graph) (a : Nat) (e : Nat × Nat) (h : e ∈ edges g a) : e.2 < g.length := by
  unfold edges at h
  cases hc : g[a]? with
  | none => simp [hc] at h
  | some nd =>
    simp only [hc, List.mem_filter, decide_eq_true_eq] at h
    exact h.2

theorem EReach.trans {E : EdgeFn} {a b c : Nat} (h1 : EReach E a b) (h2 : EReach E b c) : EReach E a c := by
  induction h1 with
  | single hs => exact .cons hs h2
  | cons hs _ ih => exact .cons hs (ih h2)

theorem EReach.head {E : EdgeFn} {a c : Nat} (h : EReach E a c) : ∃ b, EStep E a b ∧ (b = c ∨ EReach E b c) := by
  cases h with
  | single hs => exact ⟨c, hs, .inl rfl⟩
  | cons hs hr => exact ⟨_, hs, .inr hr⟩

theorem EReach.last {E : EdgeFn} {a c : Nat} (h : EReach E a c) : ∃ b, EStep E b c ∧ (a = b ∨ EReach E a b) := by
  induction h with
  | single hs => exact ⟨_, hs, .inl rfl⟩
  | @cons a b c hs _ ih =>
    obtain ⟨d, hd, h⟩ := ih
    refine ⟨d, hd, .inr ?_⟩
    rcases h with rfl | h
    · exact .single hs
    · exact .cons hs h

theorem EReach.closed {E : EdgeFn} {S : Nat → Prop} {a c : Nat} (h : EReach E a c)
    (ha : ∀ b, EStep E a b → S b) (hS : ∀ x b, S x → EStep E x b → S b) : S c := by
  induction h with
  | single hs => exact ha _ hs
  | cons hs _ ih => exact ih (fun b hb => hS _ b (ha _ hs) hb)

theorem EReach.closed_rev {E : EdgeFn} {S : Nat → Prop} {a c : Nat} (h : EReach E a c)
    (hc : ∀ b, EStep E b c → S b) (hS : ∀ x b, S x → EStep E b x → S b) : S a := by
  induction h with
  | single hs => exact hc _ hs
  | cons hs _ ih => exact hS _ _ (ih hc) hs

@[simp] theorem report_exhausted (root : Nat) (stack : List Entry) (st : DState) :
    (report root stack st).exhausted = st.exhausted := by
  unfold report; split <;> rfl

@[simp] theorem tick_exhausted (st : DState) : st.tick.exhausted = st.exhausted := rfl
@[simp] theorem tick_reports (st : DState) : st.tick.reports = st.reports := rfl
@[simp] theorem tick_seen (st : DState) : st.tick.seen = st.seen := rfl
@[simp] theorem tick_steps (st : DState) : st.tick.steps = st.steps + 1 := rfl

theorem mem_report_reports {root : Nat} {stack : List Entry} {st : DState} {r : Report}
    (h : r ∈ (report root stack st).reports) : r ∈ st.reports ∨ r = ⟨root, stack⟩ := by
  unfold report at h
  split at h
  · exact .inl h
  · exact (List.mem_append.1 h).imp id List.mem_singleton.1

theorem report_steps' (root : Nat) (stack : List Entry) (st : DState) : (report root stack st).steps = st.steps := by
  unfold report; split <;> rfl

/-! The lemmas named `dfs_…` below are about `dfsG` (all but `dfs_steps_of_not_on_cycle`, which needs the skip rule of the code),
  those named `detectU_…` about `detectUnpruned`. -/

/-- `push_to_stack_and_check` with a skip predicate between the "report" and the "cut" case -/
def dfsG (E : EdgeFn) (root : Nat) (skip : Nat → Bool) : Nat → List Entry → Nat → DState → DState
  | 0, _, _, st => { st with exhausted := true }
  | fuel + 1, stack, cur, st =>
    (E cur).foldl (fun st e =>
      if e.2 == root then report root (stack ++ [⟨e.2, cur, e.1⟩]) st.tick
      else if skip e.2 then st.tick
      else if stack.any (fun x => x.target == e.2) then st.tick
      else dfsG E root skip fuel (stack ++ [⟨e.2, cur, e.1⟩]) e.2 st.tick) st

def detectG (E : EdgeFn) (n : Nat) (skipOf : Nat → Nat → Bool) : DState :=
  (List.range n).foldl (fun st r => dfsG E r (skipOf r) n [] r st) {}

/-- the skip rule of the code: the candidate is not in `types_depending_on_checked_type` -/
def skipDeps (deps : List Nat) : Nat → Bool := fun c => !deps.contains c

theorem dfs_eq_dfsG (E : EdgeFn) (root : Nat) (deps : List Nat) :
    ∀ fuel stack cur st, dfs E root deps fuel stack cur st = dfsG E root (skipDeps deps) fuel stack cur st := by
  intro fuel
  induction fuel with
  | zero => intros; rfl
  | succ fuel ih => intro stack cur st; simp only [dfs, dfsG, ih]; rfl

theorem dfsUnpruned_eq_dfsG (E : EdgeFn) (root : Nat) :
    ∀ fuel stack cur st, dfsUnpruned E root fuel stack cur st = dfsG E root (fun _ => false) fuel stack cur st := by
  intro fuel
  induction fuel with
  | zero => intros; rfl
  | succ fuel ih => intro stack cur st; simp only [dfsUnpruned, dfsG, ih, Bool.false_eq_true, if_false]

theorem detectE_eq_detectG (E : EdgeFn) (n : Nat) :
    detectE E n = detectG E n (fun r => skipDeps (dependsOn E n r)) := by
  unfold detectE detectG
  congr 1
  funext st r
  exact dfs_eq_dfsG ..

theorem detectUnpruned_eq_detectG (E : EdgeFn) (n : Nat) : detectUnpruned E n = detectG E n (fun _ _ => false) := by
  unfold detectUnpruned detectG
  congr 1
  funext st r
  exact dfsUnpruned_eq_dfsG ..

def stepG (E : EdgeFn) (root : Nat) (skip : Nat → Bool) (fuel : Nat) (stack : List Entry) (cur : Nat) :
    DState → Nat × Nat → DState :=
  fun st e =>
    if e.2 == root then report root (stack ++ [⟨e.2, cur, e.1⟩]) st.tick
    else if skip e.2 then st.tick
    else if stack.any (fun x => x.target == e.2) then st.tick
    else dfsG E root skip fuel (stack ++ [⟨e.2, cur, e.1⟩]) e.2 st.tick

theorem dfs_succ (E : EdgeFn) (root : Nat) (skip : Nat → Bool) (fuel : Nat) (stack : List Entry) (cur : Nat) (st : DState) :
    dfsG E root skip (fuel + 1) stack cur st = (E cur).foldl (stepG E root skip fuel stack cur) st := rfl

section step
variable {E : EdgeFn} {root : Nat} {skip : Nat → Bool} {fuel : Nat} {stack : List Entry} {cur : Nat} {e : Nat × Nat}

theorem stepG_root (st : DState) (h : e.2 = root) :
    stepG E root skip fuel stack cur st e = report root (stack ++ [⟨e.2, cur, e.1⟩]) st.tick := by
  simp [stepG, h]

theorem stepG_tick (st : DState) (h1 : e.2 ≠ root) (h : skip e.2 = true ∨ stack.any (fun x => x.target == e.2) = true) :
    stepG E root skip fuel stack cur st e = st.tick := by
  rcases h with h | h <;> simp [stepG, h1, h]

theorem stepG_rec (st : DState) (h1 : e.2 ≠ root) (h3 : skip e.2 = false) (h2 : stack.any (fun x => x.target == e.2) = false) :
    stepG E root skip fuel stack cur st e = dfsG E root skip fuel (stack ++ [⟨e.2, cur, e.1⟩]) e.2 st.tick := by
  simp [stepG, h1, h3, h2]

end step

theorem stepG_cases (E : EdgeFn) (root : Nat) (skip : Nat → Bool) (fuel : Nat) (stack : List Entry) (cur : Nat) (st : DState)
    (e : Nat × Nat) :
    (e.2 = root ∧ stepG E root skip fuel stack cur st e = report root (stack ++ [⟨e.2, cur, e.1⟩]) st.tick) ∨
    (e.2 ≠ root ∧ (skip e.2 = true ∨ stack.any (fun x => x.target == e.2) = true) ∧
      stepG E root skip fuel stack cur st e = st.tick) ∨
    (e.2 ≠ root ∧ skip e.2 = false ∧ stack.any (fun x => x.target == e.2) = false ∧
      stepG E root skip fuel stack cur st e = dfsG E root skip fuel (stack ++ [⟨e.2, cur, e.1⟩]) e.2 st.tick) := by
  by_cases h1 : e.2 = root
  · exact .inl ⟨h1, stepG_root st h1⟩
  · cases h3 : skip e.2 with
    | true => exact .inr (.inl ⟨h1, .inl rfl, stepG_tick st h1 (.inl h3)⟩)
    | false =>
      cases h2 : stack.any (fun x => x.target == e.2) with
      | true => exact .inr (.inl ⟨h1, .inr rfl, stepG_tick st h1 (.inr h2)⟩)
      | false => exact .inr (.inr ⟨h1, rfl, rfl, stepG_rec st h1 h3 h2⟩)

/-- `P fuel stack cur` is an invariant of the (stack, current node) pairs the search visits, `Q` an invariant of the state -/
theorem dfs_induct (E : EdgeFn) (root : Nat) (skip : Nat → Bool)
    (P : Nat → List Entry → Nat → Prop) (Q : DState → Prop)
    (hpush : ∀ fuel stack cur e, P (fuel + 1) stack cur → e ∈ E cur → e.2 ≠ root → skip e.2 = false →
      stack.any (fun x => x.target == e.2) = false → P fuel (stack ++ [⟨e.2, cur, e.1⟩]) e.2)
    (htick : ∀ st, Q st → Q st.tick)
    (hreport : ∀ fuel stack cur e st, P (fuel + 1) stack cur → e ∈ E cur → e.2 = root → Q st →
      Q (report root (stack ++ [⟨e.2, cur, e.1⟩]) st))
    (hfuel : ∀ stack cur st, P 0 stack cur → Q st → Q { st with exhausted := true }) :
    ∀ fuel stack cur st, P fuel stack cur → Q st → Q (dfsG E root skip fuel stack cur st) := by
  intro fuel
  induction fuel with
  | zero => exact fun stack cur st hP hQ => hfuel stack cur st hP hQ
  | succ fuel ih =>
    intro stack cur st hP hQ
    rw [dfs_succ]
    refine List.foldlRecOn _ _ hQ fun st hQ e he => ?_
    rcases stepG_cases E root skip fuel stack cur st e with ⟨h1, hs⟩ | ⟨_, _, hs⟩ | ⟨h1, h3, h2, hs⟩ <;> rw [hs]
    · exact hreport fuel stack cur e st.tick hP he h1 (htick st hQ)
    · exact htick st hQ
    · exact ih _ _ _ (hpush fuel stack cur e hP he h1 h3 h2) (htick st hQ)

structure Kept (Q : DState → Prop) : Prop where
  tick : ∀ st, Q st → Q st.tick
  report : ∀ root stack st, Q st → Q (report root stack st)
  fuel : ∀ st, Q st → Q { st with exhausted := true }

theorem Kept.dfs {Q : DState → Prop} (hQ : Kept Q) (E : EdgeFn) (root : Nat) (skip : Nat → Bool) (fuel : Nat)
    (stack : List Entry) (cur : Nat) (st : DState) (h : Q st) : Q (dfsG E root skip fuel stack cur st) :=
  dfs_induct E root skip (fun _ _ _ => True) Q (fun _ _ _ _ _ _ _ _ _ => trivial) hQ.tick
    (fun _ _ _ _ st _ _ _ h => hQ.report _ _ st h) (fun _ _ st _ h => hQ.fuel st h) fuel stack cur st trivial h

theorem Kept.fold {Q : DState → Prop} (hQ : Kept Q) (E : EdgeFn) (root : Nat) (skip : Nat → Bool) (fuel : Nat)
    (stack : List Entry) (cur : Nat) (es : List (Nat × Nat)) (st : DState) (h : Q st) :
    Q (es.foldl (stepG E root skip fuel stack cur) st) := by
  refine List.foldlRecOn _ _ h fun st h e _ => ?_
  rcases stepG_cases E root skip fuel stack cur st e with ⟨_, hs⟩ | ⟨_, _, hs⟩ | ⟨_, _, _, hs⟩ <;> rw [hs]
  · exact hQ.report _ _ _ (hQ.tick st h)
  · exact hQ.tick st h
  · exact hQ.dfs _ _ _ _ _ _ _ (hQ.tick st h)

theorem Kept.roots {Q : DState → Prop} (hQ : Kept Q) (E : EdgeFn) (n : Nat) (skipOf : Nat → Nat → Bool) (rs : List Nat)
    (st : DState) (h : Q st) : Q (rs.foldl (fun st r => dfsG E r (skipOf r) n [] r st) st) :=
  List.foldlRecOn _ _ h fun st h r _ => hQ.dfs E r _ n [] r st h

theorem detectG_induct (E : EdgeFn) (n : Nat) (skipOf : Nat → Nat → Bool) (Q : DState → Prop)
    (h0 : Q {})
    (hroot : ∀ r st, r < n → Q st → Q (dfsG E r (skipOf r) n [] r st)) :
    Q (detectG E n skipOf) :=
  List.foldlRecOn _ _ h0 fun st h r hr => hroot r st (List.mem_range.1 hr) h

def Distinct (n : Nat) (l : List Nat) : Prop := l.Nodup ∧ ∀ x ∈ l, x < n

theorem Distinct.nil (n : Nat) : Distinct n [] := ⟨List.nodup_nil, fun _ h => nomatch h⟩

theorem Distinct.length_le {n : Nat} {l : List Nat} (h : Distinct n l) : l.length ≤ n := by
  have := List.Nodup.length_le_of_subset h.1 (fun x hx => List.mem_range.2 (h.2 x hx))
  rwa [List.length_range] at this

theorem Distinct.cons {n x : Nat} {l : List Nat} (h : Distinct n l) (hx : x ∉ l) (hlt : x < n) : Distinct n (x :: l) :=
  ⟨List.nodup_cons.2 ⟨hx, h.1⟩, List.forall_mem_cons.2 ⟨hlt, h.2⟩⟩

theorem Distinct.snoc {n x : Nat} {l : List Nat} (h : Distinct n l) (hx : x ∉ l) (hlt : x < n) : Distinct n (l ++ [x]) :=
  have hp := List.perm_append_singleton x l
  ⟨hp.nodup_iff.2 (h.cons hx hlt).1, fun y hy => (h.cons hx hlt).2 y (hp.mem_iff.1 hy)⟩

def StackInv (n root : Nat) (stack : List Entry) : Prop := Distinct n (root :: stack.map (·.target))

theorem StackInv.length_lt {n root : Nat} {stack : List Entry} (h : StackInv n root stack) : stack.length < n := by
  have := Distinct.length_le h
  rw [List.length_cons, List.length_map] at this
  exact this

theorem any_target_eq_false {stack : List Entry} {w : Nat} :
    stack.any (fun x => x.target == w) = false ↔ w ∉ stack.map (·.target) := by
  simp [List.any_eq_false]

theorem StackInv.push {n root : Nat} {stack : List Entry} (h : StackInv n root stack) (e : Entry)
    (hroot : e.target ≠ root) (hnot : stack.any (fun x => x.target == e.target) = false) (hlt : e.target < n) :
    StackInv n root (stack ++ [e]) := by
  unfold StackInv
  rw [List.map_append, List.map_singleton, ← List.cons_append]
  exact Distinct.snoc h (fun hm => (List.mem_cons.1 hm).elim hroot (any_target_eq_false.1 hnot)) hlt

def Linked (E : EdgeFn) : Nat → List Entry → Prop
  | _, [] => True
  | prev, e :: rest => e.container = prev ∧ (e.field, e.target) ∈ E prev ∧ Linked E e.target rest

def lastTarget : Nat → List Entry → Nat
  | prev, [] => prev
  | _, e :: rest => lastTarget e.target rest

theorem linked_append (E : EdgeFn) (prev : Nat) (s : List Entry) (e : Entry) :
    Linked E prev (s ++ [e]) ↔
      Linked E prev s ∧ e.container = lastTarget prev s ∧ (e.field, e.target) ∈ E (lastTarget prev s) := by
  induction s generalizing prev with
  | nil => simp [Linked, lastTarget]
  | cons x xs ih =>
    simp only [List.cons_append, Linked, lastTarget, ih, and_assoc]

theorem lastTarget_append (prev : Nat) (s : List Entry) (e : Entry) : lastTarget prev (s ++ [e]) = e.target := by
  induction s generalizing prev with
  | nil => rfl
  | cons x xs ih => simp only [List.cons_append, lastTarget, ih]

def SoundReport (E : EdgeFn) (r : Report) : Prop :=
  r.stack ≠ [] ∧ Linked E r.root r.stack ∧ lastTarget r.root r.stack = r.root

/-- `chainOk E r.root r.root r.stack`, the test the driver runs on the model's own reports and interface chains (a K line
    when it fails; the chains slicec prints are tested on the Rust side), decides `SoundReport E r` -/
theorem chainOk_iff (E : EdgeFn) (root : Nat) : ∀ (s : List Entry) (prev : Nat),
    chainOk E root prev s = true ↔ s ≠ [] ∧ Linked E prev s ∧ lastTarget prev s = root
  | [], _ => by simp [chainOk]
  | [e], prev => by simp [chainOk, Linked, lastTarget, and_assoc]
  | e :: e' :: rest, prev => by
    simp [chainOk, Linked, lastTarget, and_assoc, chainOk_iff E root (e' :: rest) e.target]

theorem dfs_reports_sound (E : EdgeFn) (root : Nat) (skip : Nat → Bool) (fuel : Nat) (st : DState)
    (h : ∀ r ∈ st.reports, SoundReport E r) :
    ∀ r ∈ (dfsG E root skip fuel [] root st).reports, SoundReport E r := by
  refine dfs_induct E root skip (fun _ stack cur => Linked E root stack ∧ lastTarget root stack = cur)
    (fun st => ∀ r ∈ st.reports, SoundReport E r) ?_ ?_ ?_ ?_ fuel [] root st ⟨trivial, rfl⟩ h
  · intro _ stack _ e ⟨hl, rfl⟩ he _ _ _
    exact ⟨(linked_append ..).2 ⟨hl, rfl, he⟩, lastTarget_append ..⟩
  · exact fun _ h => h
  · intro _ stack _ e st ⟨hl, rfl⟩ he hroot hQ r hr
    rcases mem_report_reports hr with hr | rfl
    · exact hQ r hr
    · exact ⟨by simp, (linked_append ..).2 ⟨hl, rfl, he⟩, (lastTarget_append ..).trans hroot⟩
  · exact fun _ _ _ _ hQ => hQ

theorem linked_reach (E : EdgeFn) : ∀ (s : List Entry) (prev : Nat), s ≠ [] → Linked E prev s → EReach E prev (lastTarget prev s)
  | [], _, h, _ => absurd rfl h
  | [e], prev, _, hl => by
    obtain ⟨_, hmem, _⟩ := hl
    exact .single ⟨e.field, hmem⟩
  | e :: e' :: rest, prev, _, hl => by
    obtain ⟨_, hmem, hrest⟩ := hl
    exact .cons ⟨e.field, hmem⟩ (linked_reach E (e' :: rest) e.target (by simp) hrest)

theorem SoundReport.reach {E : EdgeFn} {r : Report} (h : SoundReport E r) : EReach E r.root r.root := by
  have := linked_reach E r.stack r.root h.1 h.2.1
  rwa [h.2.2] at this

theorem sameSet_refl (a : List Nat) : sameSet a a = true := by
  simp [sameSet]

theorem report_seen_has (root : Nat) (stack : List Entry) (st : DState) :
    ∃ K ∈ (report root stack st).seen, sameSet (stack.map (·.target)) K = true := by
  unfold report; split
  · rename_i h
    exact List.any_eq_true.1 h
  · exact ⟨_, List.mem_cons_self .., sameSet_refl _⟩

theorem kept_seen (K : List Nat) : Kept (fun st => K ∈ st.seen) where
  tick _ h := h
  fuel _ h := h
  report root stack st h := by
    unfold report; split
    · exact h
    · exact List.mem_cons_of_mem _ h

def PathToRoot (E : EdgeFn) (root : Nat) : Nat → List Nat → Prop
  | _, [] => False
  | cur, [w] => EStep E cur w ∧ w = root
  | cur, w :: w' :: rest => EStep E cur w ∧ w ≠ root ∧ PathToRoot E root w (w' :: rest)

theorem pathToRoot_cons {E : EdgeFn} {root cur w : Nat} {rest : List Nat} :
    PathToRoot E root cur (w :: rest) ↔
      EStep E cur w ∧ ((rest = [] ∧ w = root) ∨ (w ≠ root ∧ PathToRoot E root w rest)) := by
  cases rest with
  | nil => simp [PathToRoot]
  | cons y ys => simp [PathToRoot]

theorem pathToRoot_mem (E : EdgeFn) (n root : Nat) (hE : ∀ a e, e ∈ E a → e.2 < n) :
    ∀ (ws : List Nat) (cur : Nat), PathToRoot E root cur ws → root ∈ ws ∧ ∀ w ∈ ws, w < n := by
  intro ws
  induction ws with
  | nil => intro _ h; exact False.elim h
  | cons w rest ih =>
    intro cur h
    obtain ⟨⟨f, hf⟩, ⟨rfl, rfl⟩ | ⟨_, hp⟩⟩ := pathToRoot_cons.1 h
    · exact ⟨List.mem_cons_self .., List.forall_mem_singleton.2 (hE cur (f, w) hf)⟩
    · obtain ⟨hm, hlt⟩ := ih w hp
      exact ⟨List.mem_cons_of_mem _ hm, List.forall_mem_cons.2 ⟨hE cur (f, w) hf, hlt⟩⟩

theorem dfs_explores (E : EdgeFn) (n root : Nat) :
    ∀ (ws : List Nat) (fuel : Nat) (stack : List Entry) (cur : Nat) (st : DState),
      Distinct n (stack.map (·.target) ++ ws) → n ≤ stack.length + fuel → PathToRoot E root cur ws →
      ∃ K ∈ (dfsG E root (fun _ => false) fuel stack cur st).seen, sameSet (stack.map (·.target) ++ ws) K = true := by
  intro ws
  induction ws with
  | nil => intro _ _ _ _ _ _ hp; exact False.elim hp
  | cons w rest ih =>
    intro fuel stack cur st hd hlen hp
    cases fuel with
    | zero =>
      have := hd.length_le
      simp only [List.length_append, List.length_map, List.length_cons] at this
      omega
    | succ fuel =>
      obtain ⟨⟨f, hf⟩, hrest⟩ := pathToRoot_cons.1 hp
      obtain ⟨pre, post, hsplit⟩ := List.append_of_mem hf
      rw [dfs_succ, hsplit, List.foldl_append, List.foldl_cons]
      generalize pre.foldl (stepG E root (fun _ => false) fuel stack cur) st = st1
      -- the set is there after the step along `(f, w)`, and the rest of the loop keeps it
      suffices h : ∃ K ∈ (stepG E root (fun _ => false) fuel stack cur st1 (f, w)).seen,
          sameSet (stack.map (·.target) ++ w :: rest) K = true by
        obtain ⟨K, hK, hs⟩ := h
        exact ⟨K, (kept_seen K).fold _ _ _ _ _ _ post _ hK, hs⟩
      rcases hrest with ⟨rfl, hroot⟩ | ⟨hne, hp'⟩
      · rw [stepG_root st1 hroot]
        have := report_seen_has root (stack ++ [⟨w, cur, f⟩]) st1.tick
        simpa using this
      · -- `w` is not on the stack; once it is pushed, the stack followed by the rest of the path is the same list
        have h2 := any_target_eq_false.2 fun hm => (List.nodup_append.1 hd.1).2.2 w hm w (List.mem_cons_self ..) rfl
        have hre : (stack ++ [(⟨w, cur, f⟩ : Entry)]).map (·.target) ++ rest = stack.map (·.target) ++ w :: rest := by simp
        rw [stepG_rec st1 hne rfl h2, ← hre]
        exact ih fuel _ w st1.tick (hre ▸ hd) (by simp only [List.length_append, List.length_singleton]; omega) hp'

def SeenInv (st : DState) : Prop := ∀ K ∈ st.seen, ∃ r ∈ st.reports, r.ids = K

theorem kept_seenInv : Kept SeenInv where
  tick _ h := h
  fuel _ h := h
  report root stack st h := by
    unfold report; split
    · exact h
    · intro K hK
      rcases List.mem_cons.1 hK with rfl | hK
      · exact ⟨⟨root, stack⟩, by simp, rfl⟩
      · obtain ⟨r, hr, hrK⟩ := h K hK
        exact ⟨r, List.mem_append_left _ hr, hrK⟩

theorem sameSet_mem {a b : List Nat} (h : sameSet a b = true) {w : Nat} (hw : w ∈ a) : w ∈ b := by
  simp only [sameSet, Bool.and_eq_true, List.all_eq_true] at h
  simpa using h.1 w hw

/-- the search rooted at `T` reports the cycle, unless a chain with the same vertex set was reported before; carried over to
    the code's search, with the skip rule, by `detect_sim` -/
theorem detectU_complete_simple (E : EdgeFn) (n : Nat) (hE : ∀ a e, e ∈ E a → e.2 < n) (T : Nat)
    (ws : List Nat) (hp : PathToRoot E T T ws) (hnd : ws.Nodup) :
    ∃ r ∈ (detectUnpruned E n).reports, sameSet ws r.ids = true := by
  rw [detectUnpruned_eq_detectG]
  obtain ⟨hT, hlt⟩ := pathToRoot_mem E n T hE ws T hp
  obtain ⟨pre, post, hsplit⟩ := List.append_of_mem (List.mem_range.2 (hlt T hT))
  have hseen : ∃ K ∈ (detectG E n (fun _ _ => false)).seen, sameSet ws K = true := by
    unfold detectG
    rw [hsplit, List.foldl_append, List.foldl_cons]
    generalize pre.foldl (fun st r => dfsG E r (fun _ => false) n [] r st) {} = st1
    obtain ⟨K, hK, hs⟩ := dfs_explores E n T ws n [] T st1 ⟨hnd, hlt⟩ (Nat.le_add_left ..) hp
    exact ⟨K, (kept_seen K).roots E n _ post _ hK, hs⟩
  obtain ⟨K, hK, hs⟩ := hseen
  obtain ⟨r, hr, hrK⟩ := kept_seenInv.roots E n _ _ _ (by intro K hK; cases hK) K hK
  exact ⟨r, hr, hrK ▸ hs⟩

theorem pathToRoot_suffix (E : EdgeFn) (root w : Nat) (q : List Nat) (hw : w ≠ root) :
    ∀ (p : List Nat) (c : Nat), PathToRoot E root c (p ++ w :: q) → PathToRoot E root w q := by
  intro p
  induction p with
  | nil => exact fun c h => ((pathToRoot_cons.1 h).2.resolve_left fun h' => hw h'.2).2
  | cons x p ih =>
    intro c h
    rw [List.cons_append] at h
    exact ih x ((pathToRoot_cons.1 h).2.resolve_left fun h' => by simp at h').2

theorem reach_simple (E : EdgeFn) {a c : Nat} (h : EReach E a c) : ∃ ws, PathToRoot E c a ws ∧ ws.Nodup := by
  induction h with
  | single hs => exact ⟨[_], ⟨hs, rfl⟩, by simp⟩
  | @cons a b c hs _ ih =>
    obtain ⟨ws, hp, hnd⟩ := ih
    by_cases hb : b = c
    · exact ⟨[b], ⟨hs, hb⟩, by simp⟩
    · by_cases hmem : b ∈ ws
      · -- cut the walk at its visit of `b`
        obtain ⟨p, q, rfl⟩ := List.append_of_mem hmem
        exact ⟨b :: q, pathToRoot_cons.2 ⟨hs, .inr ⟨hb, pathToRoot_suffix E c b q hb p b hp⟩⟩,
          (List.nodup_append.1 hnd).2.1⟩
      · exact ⟨b :: ws, pathToRoot_cons.2 ⟨hs, .inr ⟨hb, hp⟩⟩, List.nodup_cons.2 ⟨hmem, hnd⟩⟩

theorem detectU_complete (E : EdgeFn) (n : Nat) (hE : ∀ a e, e ∈ E a → e.2 < n) (a : Nat) (h : EReach E a a) :
    ∃ r ∈ (detectUnpruned E n).reports, a ∈ r.ids := by
  obtain ⟨ws, hp, hnd⟩ := reach_simple E h
  obtain ⟨r, hr, hs⟩ := detectU_complete_simple E n hE a ws hp hnd
  exact ⟨r, hr, sameSet_mem hs (pathToRoot_mem E n a hE ws a hp).1⟩

theorem mem_dependents (E : EdgeFn) (n t c : Nat) : c ∈ dependents E n t ↔ c < n ∧ EStep E c t := by
  unfold dependents EStep
  simp only [List.mem_flatMap, List.mem_range, List.mem_map, List.mem_filter, beq_iff_eq]
  constructor
  · rintro ⟨c', hc', e, ⟨he, rfl⟩, rfl⟩
    exact ⟨hc', e.1, he⟩
  · rintro ⟨hc, f, hf⟩
    exact ⟨c, hc, (f, t), ⟨hf, rfl⟩, rfl⟩

theorem depVisit_fold (ds : List Nat) :
    ∀ (p s : List Nat), s.Nodup →
      let r := ds.foldl depVisit (p, s)
      r.2.Nodup ∧ (∃ new, r.1 = new ++ p ∧ r.2 = new ++ s ∧ ∀ x ∈ new, x ∈ ds) ∧ (∀ d ∈ ds, d ∈ r.2) := by
  induction ds with
  | nil => intro p s hs; exact ⟨hs, ⟨[], rfl, rfl, by simp⟩, by simp⟩
  | cons d ds ih =>
    intro p s hs
    rw [List.foldl_cons]
    by_cases hd : d ∈ s
    · rw [show depVisit (p, s) d = (p, s) from if_pos (List.contains_iff_mem.2 hd)]
      obtain ⟨h1, ⟨new, h2, h3, h4⟩, h5⟩ := ih p s hs
      exact ⟨h1, ⟨new, h2, h3, fun x hx => List.mem_cons_of_mem _ (h4 x hx)⟩,
        List.forall_mem_cons.2 ⟨by rw [h3]; exact List.mem_append_right _ hd, h5⟩⟩
    · rw [show depVisit (p, s) d = (d :: p, d :: s) from if_neg (mt List.contains_iff_mem.1 hd)]
      obtain ⟨h1, ⟨new, h2, h3, h4⟩, h5⟩ := ih (d :: p) (d :: s) (List.nodup_cons.2 ⟨hd, hs⟩)
      exact ⟨h1, ⟨new ++ [d], by simp [h2], by simp [h3], List.forall_mem_append.2
          ⟨fun x hx => List.mem_cons_of_mem _ (h4 x hx), List.forall_mem_singleton.2 (List.mem_cons_self ..)⟩⟩,
        List.forall_mem_cons.2 ⟨by rw [h3]; exact List.mem_append_right _ (List.mem_cons_self ..), h5⟩⟩

/-- invariant of the worklist loop. `fuel`: a pop spends one of each side; a push adds one to `pending` and one to `set`, and
    `set` never holds more than `n` nodes -/
structure DepInv (E : EdgeFn) (n root fuel : Nat) (pending set : List Nat) : Prop where
  nodup : set.Nodup
  sound : ∀ x ∈ set, x < n ∧ EReach E x root
  pend : ∀ x ∈ pending, x = root ∨ x ∈ set
  closed : ∀ y, y = root ∨ y ∈ set → y ∈ pending ∨ ∀ d ∈ dependents E n y, d ∈ set
  fuel : pending.length + n ≤ fuel + set.length

theorem depLoop_nil (D : Nat → List Nat) (fuel : Nat) (set : List Nat) : depLoop D fuel [] set = set := by
  cases fuel <;> rfl

theorem depLoop_spec (E : EdgeFn) (n root : Nat) :
    ∀ (fuel : Nat) (pending set : List Nat), DepInv E n root fuel pending set →
      (∀ x ∈ depLoop (dependents E n) fuel pending set, x < n ∧ EReach E x root) ∧
      (∀ y, y = root ∨ y ∈ depLoop (dependents E n) fuel pending set →
        ∀ d ∈ dependents E n y, d ∈ depLoop (dependents E n) fuel pending set)
  | fuel, [], set, inv => by
    rw [depLoop_nil]
    exact ⟨inv.sound, fun y hy => (inv.closed y hy).resolve_left fun h => nomatch h⟩
  | 0, _ :: pending, set, inv => by
    have hlen : set.length ≤ n := Distinct.length_le ⟨inv.nodup, fun x hx => (inv.sound x hx).1⟩
    have := inv.fuel
    simp only [List.length_cons] at this
    omega
  | fuel + 1, t :: pending, set, inv => by
    simp only [depLoop]
    obtain ⟨hnd, ⟨new, hp, hs, hnew⟩, hall⟩ := depVisit_fold (dependents E n t) pending set inv.nodup
    apply depLoop_spec E n root fuel
    rw [hp, hs]
    have ht : t = root ∨ t ∈ set := inv.pend t (List.mem_cons_self ..)
    have hnew' : ∀ x ∈ new, x < n ∧ EReach E x root := by
      intro x hx
      obtain ⟨hlt, hstep⟩ := (mem_dependents E n t x).1 (hnew x hx)
      refine ⟨hlt, ?_⟩
      rcases ht with rfl | ht
      · exact .single hstep
      · exact .cons hstep (inv.sound t ht).2
    constructor
    · rw [← hs]; exact hnd
    · exact List.forall_mem_append.2 ⟨hnew', inv.sound⟩
    · exact List.forall_mem_append.2 ⟨fun x hx => .inr (List.mem_append_left _ hx),
        fun x hx => (inv.pend x (List.mem_cons_of_mem _ hx)).imp id (List.mem_append_right _)⟩
    · -- a new node is pending; of the others, `t` has just had its dependents added and the rest are as they were
      intro y hy
      have hy' : y ∈ new ∨ (y = root ∨ y ∈ set) := hy.elim (.inr ∘ .inl) fun h => (List.mem_append.1 h).imp_right .inr
      rcases hy' with h | h
      · exact .inl (List.mem_append_left _ h)
      rcases inv.closed y h with h' | h'
      · rcases List.mem_cons.1 h' with rfl | h''
        · exact .inr fun d hd => hs ▸ hall d hd
        · exact .inl (List.mem_append_right _ h'')
      · exact .inr fun d hd => List.mem_append_right _ (h' d hd)
    · have := inv.fuel
      simp only [List.length_cons, List.length_append] at this ⊢
      omega

theorem dependsOn_inv (E : EdgeFn) (n root : Nat) : DepInv E n root (n + 1) [root] [] :=
  { nodup := List.nodup_nil
    sound := by intro x hx; cases hx
    pend := by intro x hx; simp only [List.mem_singleton] at hx; exact .inl hx
    closed := by
      intro y hy
      rcases hy with rfl | hy
      · exact .inl (List.mem_cons_self ..)
      · cases hy
    fuel := by simp; omega }

theorem dependsOn_sound (E : EdgeFn) (n root x : Nat) (h : x ∈ dependsOn E n root) : x < n ∧ EReach E x root :=
  (depLoop_spec E n root (n + 1) [root] [] (dependsOn_inv E n root)).1 x h

theorem mem_dependsOn (E : EdgeFn) (n : Nat) (hE : ∀ a e, e ∈ E a → e.2 < n) (root x : Nat) :
    x ∈ dependsOn E n root ↔ x < n ∧ EReach E x root := by
  have hclosed := (depLoop_spec E n root (n + 1) [root] [] (dependsOn_inv E n root)).2
  constructor
  · exact dependsOn_sound E n root x
  · rintro ⟨hlt, hr⟩
    -- the set (with the bound) is closed under predecessors
    refine (hr.closed_rev (S := fun a => a < n → a ∈ dependsOn E n root) ?_ ?_) hlt
    · exact fun b hs hb => hclosed _ (.inl rfl) _ ((mem_dependents E n _ _).2 ⟨hb, hs⟩)
    · intro x b hx hs hb
      obtain ⟨f, hf⟩ := hs
      exact hclosed x (.inr (hx (hE b (f, x) hf))) b ((mem_dependents E n _ _).2 ⟨hb, ⟨f, hf⟩⟩)

/-- two detector states that agree on everything a report depends on (`reported_cycles` and the diagnostics) -/
def Sim (a b : DState) : Prop := a.seen = b.seen ∧ a.reports = b.reports

theorem Sim.rfl' (a : DState) : Sim a a := ⟨rfl, rfl⟩
theorem Sim.tick {a b : DState} (h : Sim a b) : Sim a.tick b.tick := h
theorem Sim.tick_left {a b : DState} (h : Sim a b) : Sim a.tick b := h
theorem Sim.trans {a b c : DState} (h1 : Sim a b) (h2 : Sim b c) : Sim a c := ⟨h1.1.trans h2.1, h1.2.trans h2.2⟩
theorem Sim.symm {a b : DState} (h : Sim a b) : Sim b a := ⟨h.1.symm, h.2.symm⟩

theorem Sim.report {a b : DState} (h : Sim a b) (root : Nat) (stack : List Entry) :
    Sim (report root stack a) (report root stack b) := by
  unfold Cyc.report
  rw [h.1]
  split
  · exact h
  · exact ⟨by simp, by simp [h.2]⟩

theorem dfs_inert (E : EdgeFn) (root : Nat) (skip : Nat → Bool) (fuel : Nat) (stack : List Entry) (cur : Nat) (st : DState)
    (h : ¬ EReach E cur root) : Sim (dfsG E root skip fuel stack cur st) st := by
  refine dfs_induct E root skip (fun _ _ c => ¬ EReach E c root) (fun st' => Sim st' st) ?_ ?_ ?_ ?_ fuel stack cur st h
    (Sim.rfl' st)
  · intro _ _ c e hc he _ _ _ hr
    exact hc (.cons ⟨e.1, he⟩ hr)
  · intro st' h'; exact h'
  · intro _ _ c e _ hc he hroot _
    exact absurd (EReach.single ⟨e.1, by rw [← hroot]; exact he⟩) hc
  · intro _ _ _ _ h'; exact h'

theorem dfs_sim (E : EdgeFn) (root : Nat) (skip : Nat → Bool)
    (hskip : ∀ a e, e ∈ E a → skip e.2 = true → ¬ EReach E e.2 root) :
    ∀ fuel stack cur st st', Sim st st' →
      Sim (dfsG E root skip fuel stack cur st) (dfsG E root (fun _ => false) fuel stack cur st') := by
  intro fuel
  induction fuel with
  | zero => exact fun _ _ _ _ h => h
  | succ fuel ih =>
    intro stack cur st st' h
    rw [dfs_succ, dfs_succ]
    refine List.foldl_rel (r := Sim) h fun e he st st' h => ?_
    rcases stepG_cases E root skip fuel stack cur st e with ⟨h1, hs⟩ | ⟨h1, h32, hs⟩ | ⟨h1, h3, h2, hs⟩ <;> rw [hs]
    · rw [stepG_root st' h1]; exact h.tick.report _ _
    · cases h2 : stack.any (fun x => x.target == e.2) with
      | true => rw [stepG_tick st' h1 (.inr h2)]; exact h.tick
      | false =>
        -- not on the stack, so it was the skip rule: the search below `e.2` never comes back to the root
        rw [stepG_rec st' h1 rfl h2]
        exact h.tick.trans (dfs_inert E root _ fuel _ e.2 st'.tick
          (hskip cur e he (h32.resolve_right (h2 ▸ Bool.false_ne_true)))).symm
    · rw [stepG_rec st' h1 rfl h2]; exact ih _ _ _ _ h.tick

theorem detectG_sim (E : EdgeFn) (n : Nat) (skipOf : Nat → Nat → Bool)
    (hskip : ∀ r a e, e ∈ E a → skipOf r e.2 = true → ¬ EReach E e.2 r) :
    Sim (detectG E n skipOf) (detectG E n (fun _ _ => false)) :=
  List.foldl_rel (r := Sim) (Sim.rfl' _) fun r _ st st' h => dfs_sim E r (skipOf r) (hskip r) n [] r st st' h

theorem skipDeps_ok (E : EdgeFn) (n : Nat) (hE : ∀ a e, e ∈ E a → e.2 < n) (r a : Nat) (e : Nat × Nat) (he : e ∈ E a)
    (h : skipDeps (dependsOn E n r) e.2 = true) : ¬ EReach E e.2 r := by
  intro hr
  have := (mem_dependsOn E n hE r e.2).2 ⟨hE a e he, hr⟩
  simp [skipDeps, this] at h

theorem detect_sim (E : EdgeFn) (n : Nat) (hE : ∀ a e, e ∈ E a → e.2 < n) : Sim (detectE E n) (detectUnpruned E n) := by
  rw [detectE_eq_detectG, detectUnpruned_eq_detectG]
  exact detectG_sim E n _ (skipDeps_ok E n hE)

theorem kept_steps (c : Nat) : Kept (fun st => c ≤ st.steps) :=
  ⟨fun _ h => Nat.le_succ_of_le h, fun _ _ _ h => by rw [report_steps']; exact h, fun _ h => h⟩

theorem detectG_steps_ge_first (E : EdgeFn) (n : Nat) (skipOf : Nat → Nat → Bool) :
    (dfsG E 0 (skipOf 0) (n + 1) [] 0 {}).steps ≤ (detectG E (n + 1) skipOf).steps := by
  unfold detectG
  rw [List.range_succ_eq_map, List.foldl_cons]
  exact (kept_steps _).roots E (n + 1) skipOf _ _ (Nat.le_refl _)

def DenseOn (E : EdgeFn) (n : Nat) : Prop := ∀ k, k < n → (E k).map (·.2) = List.range' (k + 1) (n - (k + 1))

def DenseBackOn (E : EdgeFn) (n : Nat) : Prop :=
  ∀ k, k < n → ∃ es1 es2, E k = es1 ++ es2 ∧ es1.map (·.2) = List.range' (k + 1) (n - (k + 1))

/-- a loop over edges to the nodes `a, a + 1, …, a + m - 1` in which the edge with `q` nodes after it costs `1 + (2^q - 1)`
    calls costs `2^m - 1` calls -/
theorem pow_fold_steps (f : DState → Nat × Nat → DState) (es : List (Nat × Nat)) :
    ∀ (a m : Nat) (st : DState), es.map (·.2) = List.range' a m →
      (∀ st e q, e ∈ es → a ≤ e.2 → e.2 + 1 + q = a + m → st.steps + 1 + 2 ^ q ≤ (f st e).steps + 1) →
      st.steps + 2 ^ m ≤ (es.foldl f st).steps + 1 := by
  induction es with
  | nil =>
    intro a m st hmap _
    cases m with
    | zero => exact Nat.le_refl _
    | succ q => simp [List.range'_succ] at hmap
  | cons e es ih =>
    intro a m st hmap h
    cases m with
    | zero => simp at hmap
    | succ q =>
      rw [List.range'_succ, List.map_cons] at hmap
      have ha : e.2 = a := (List.cons.inj hmap).1
      have he := h st e q (List.mem_cons_self ..) (Nat.le_of_eq ha.symm) (by rw [ha]; omega)
      have hes := ih (a + 1) q (f st e) (List.cons.inj hmap).2
        fun st e' q' he' hlo hq' => h st e' q' (List.mem_cons_of_mem _ he') (Nat.le_of_succ_le hlo) (by omega)
      rw [List.foldl_cons, Nat.pow_succ]
      omega

/-- from node `k` at least `2^(n-1-k) - 1` calls, one per increasing path starting at `k` -/
theorem denseBack_dfs_steps (E : EdgeFn) (n : Nat) (skip : Nat → Bool) (hE : DenseBackOn E n)
    (hskip : ∀ j, 0 < j → j < n → skip j = false) :
    ∀ (fuel : Nat) (stack : List Entry) (k m : Nat) (st : DState),
      k + 1 + m = n → m < fuel → (∀ x ∈ stack, x.target ≤ k) →
      st.steps + 2 ^ m ≤ (dfsG E 0 skip fuel stack k st).steps + 1 := by
  intro fuel
  induction fuel with
  | zero => intro _ _ _ _ _ h; omega
  | succ fuel ih =>
    intro stack k m st hkm hfuel hstack
    rw [dfs_succ]
    obtain ⟨es1, es2, hsplit, hmap⟩ := hE k (by omega)
    rw [hsplit, List.foldl_append]
    -- the edges to `k + 1, …, n - 1` first; what follows them can only add calls
    refine Nat.le_trans (pow_fold_steps _ es1 (k + 1) m st (by rw [hmap]; congr 1; omega) ?_)
      (Nat.add_le_add_right ((kept_steps _).fold E 0 skip fuel stack k es2 _ (Nat.le_refl _)) 1)
    intro st e q he hlo hq
    -- `e.2 > k` is not the root, not skipped, not on the stack: the search goes on below it, with `q` nodes after it
    have hpos : 0 < e.2 := Nat.lt_of_lt_of_le (Nat.succ_pos k) hlo
    have hn : e.2 + 1 + q = n := hq.trans hkm
    have h2 : stack.any (fun x => x.target == e.2) = false := by
      rw [List.any_eq_false]
      intro x hx
      simp only [beq_iff_eq]
      exact Nat.ne_of_lt (Nat.lt_of_le_of_lt (hstack x hx) hlo)
    rw [stepG_rec st (Nat.ne_of_gt hpos) (hskip e.2 hpos (by omega)) h2]
    have := ih (stack ++ [⟨e.2, k, e.1⟩]) e.2 q st.tick hn (by omega) (List.forall_mem_append.2
      ⟨fun x hx => Nat.le_trans (hstack x hx) (Nat.le_of_succ_le hlo), List.forall_mem_singleton.2 (Nat.le_refl _)⟩)
    rwa [tick_steps] at this

theorem detectG_denseBack_steps (E : EdgeFn) (n : Nat) (skipOf : Nat → Nat → Bool) (hE : DenseBackOn E (n + 1))
    (hskip : ∀ j, 0 < j → j < n + 1 → skipOf 0 j = false) : 2 ^ n ≤ (detectG E (n + 1) skipOf).steps + 1 := by
  have h0 := denseBack_dfs_steps E (n + 1) (skipOf 0) hE hskip (n + 1) [] 0 n {} (by omega) (by omega) (fun _ h => nomatch h)
  have := detectG_steps_ge_first E n skipOf
  have hz : ({} : DState).steps = 0 := rfl
  omega

/-- D-05b: on the dense DAG over `n + 1` nodes (node `i` has a field of every node `j > i`; acyclic, nothing to report)
    the detector WITHOUT the skip rule makes at least `2^n - 1` calls of `push_to_stack_and_check`. -/
theorem dense_steps_exponential_E (E : EdgeFn) (n : Nat) (hE : DenseOn E (n + 1)) :
    2 ^ n ≤ (detectUnpruned E (n + 1)).steps + 1 := by
  rw [detectUnpruned_eq_detectG]
  exact detectG_denseBack_steps E n _ (fun k hk => ⟨E k, [], (List.append_nil _).symm, hE k hk⟩) fun _ _ _ => rfl

theorem fieldEdges_targets (fs : List CField) : (fieldEdges fs).map (·.2) = fs.flatMap (·.ty.targets) := by
  unfold fieldEdges
  rw [List.map_flatMap]
  simp only [List.map_map, Function.comp_def, List.map_id']
  rw [← List.flatMap_map Prod.fst (fun f : CField => f.ty.targets), List.zipIdx_map_fst]

theorem dense_denseOn (n : Nat) : DenseOn (edges (dense n)) n := by
  intro k hk
  have hlen : (dense n).length = n := by simp [dense]
  have hget : (dense n)[k]? = some (denseNode n k) := by
    simp [dense, hk]
  unfold edges
  rw [hget]
  simp only [hlen]
  refine Eq.trans (List.filter_map (f := fun x : Nat × Nat => x.2) (p := fun x => decide (x < n))).symm ?_
  rw [fieldEdges_targets]
  simp only [denseNode, List.flatMap_map, CTy.targets]
  rw [List.filter_eq_self.2]
  · simp
  · intro a ha
    simp only [List.mem_flatMap, List.mem_singleton, List.mem_range'_1] at ha
    obtain ⟨b, hb, rfl⟩ := ha
    simp only [decide_eq_true_eq]; omega

theorem edges_of_ge (g : Graph) (a : Nat) (h : g.length ≤ a) : edges g a = [] := by
  unfold edges; rw [List.getElem?_eq_none h]

theorem acyclic_of_increasing (E : EdgeFn) (h : ∀ a b, EStep E a b → a < b) : AcyclicE E := by
  have hup : ∀ a b, EReach E a b → a < b := by
    intro a b hr
    induction hr with
    | single hs => exact h _ _ hs
    | cons hs _ ih => exact Nat.lt_trans (h _ _ hs) ih
  exact fun a hr => Nat.lt_irrefl a (hup a a hr)

theorem dense_step_lt (n a b : Nat) (hs : EStep (edges (dense n)) a b) : a < b := by
  obtain ⟨f, hf⟩ := hs
  by_cases ha : a < n
  · have hb : b ∈ (edges (dense n) a).map (·.2) := List.mem_map.2 ⟨(f, b), hf, rfl⟩
    rw [dense_denseOn n a ha, List.mem_range'_1] at hb
    omega
  · rw [edges_of_ge _ _ (by simp [dense]; omega)] at hf; cases hf

theorem dense_edges_length (n r : Nat) : (edges (dense n) r).length ≤ n := by
  by_cases hr : r < n
  · have := congrArg List.length (dense_denseOn n r hr)
    rw [List.length_map, List.length_range'] at this
    omega
  · rw [edges_of_ge _ _ (by simp [dense]; omega)]; exact Nat.zero_le _

theorem foldl_measure {α β} (m : α → Nat) (f : α → β → α) (c : β → Nat) :
    ∀ (l : List β) (a : α), (∀ a, ∀ b ∈ l, m (f a b) = m a + c b) → m (l.foldl f a) = m a + (l.map c).sum
  | [], _, _ => rfl
  | b :: l, a, h => by
    rw [List.foldl_cons, foldl_measure m f c l _ fun a b hb => h a b (List.mem_cons_of_mem _ hb), h a b (List.mem_cons_self ..),
      List.map_cons, List.sum_cons, Nat.add_assoc]

theorem dfs_steps_of_not_on_cycle (E : EdgeFn) (n r : Nat) (hr : ¬ EReach E r r) (fuel : Nat) (st : DState) :
    (dfs E r (dependsOn E n r) (fuel + 1) [] r st).steps = st.steps + (E r).length := by
  rw [dfs_eq_dfsG, dfs_succ, foldl_measure DState.steps _ (fun _ => 1) (E r) st, List.map_const', List.sum_replicate_nat,
    Nat.mul_one]
  intro st e he
  -- an edge back to `r`, or to a node that reaches `r`, would close a cycle
  have h1 : e.2 ≠ r := by rintro rfl; exact hr (.single ⟨e.1, he⟩)
  have hnm : e.2 ∉ dependsOn E n r := fun hm => hr (.cons ⟨e.1, he⟩ (dependsOn_sound E n r e.2 hm).2)
  rw [stepG_tick st h1 (.inl (by simp [skipDeps, hnm])), tick_steps]

theorem mem_ibases {ig : IGraph} {i b : Nat} : b ∈ ibases ig i ↔ ∃ row, ig[i]? = some row ∧ b ∈ row ∧ b < ig.length := by
  rw [ibases, List.mem_filter, List.getD_eq_getElem?_getD, decide_eq_true_eq]
  cases ig[i]? <;> simp

theorem mem_ibases_lt (ig : IGraph) (i b : Nat) (h : b ∈ ibases ig i) : b < ig.length :=
  (mem_ibases.1 h).elim fun _ h => h.2.2

theorem lt_of_mem_ibases {ig : IGraph} {i b : Nat} (h : b ∈ ibases ig i) : i < ig.length :=
  (mem_ibases.1 h).elim fun _ h => (List.getElem?_eq_some_iff.1 h.1).1

theorem igEdges_step (ig : IGraph) (a b : Nat) : EStep (igEdges ig) a b ↔ b ∈ ibases ig a := by
  unfold EStep igEdges
  simp

theorem igEdges_lt (ig : IGraph) (a : Nat) (e : Nat × Nat) (h : e ∈ igEdges ig a) : e.2 < ig.length := by
  unfold igEdges at h
  obtain ⟨b, hb, rfl⟩ := List.mem_map.1 h
  exact mem_ibases_lt ig a b hb

/-- `if seen.insert(b) { all.push(b) }` on the pair (all, seen) -/
def pushAS (p : List Nat × List Nat) (b : Nat) : List Nat × List Nat :=
  if p.2.contains b then p else (p.1 ++ [b], b :: p.2)

def BState.as (st : BState) : List Nat × List Nat := (st.all, st.seen)

theorem push_eq (st : BState) (b : Nat) :
    st.push b = { st with all := (pushAS st.as b).1, seen := (pushAS st.as b).2 } := by
  unfold BState.push pushAS BState.as
  split <;> rfl

theorem pushFold_eq (bs : List Nat) : ∀ st : BState,
    bs.foldl BState.push st = { st with all := (bs.foldl pushAS st.as).1, seen := (bs.foldl pushAS st.as).2 } := by
  induction bs with
  | nil => intro st; rfl
  | cons b bs ih => intro st; rw [List.foldl_cons, List.foldl_cons, ih, push_eq]; rfl

def collectStep (ig : IGraph) (fuel : Nat) : BState → Nat → BState :=
  fun st b => if st.expanded.contains b then st else collect ig fuel b { st with expanded := b :: st.expanded }

theorem collectStep_done {ig : IGraph} {fuel b : Nat} {st : BState} (h : b ∈ st.expanded) : collectStep ig fuel st b = st :=
  if_pos (List.contains_iff_mem.2 h)

theorem collectStep_rec {ig : IGraph} {fuel b : Nat} {st : BState} (h : b ∉ st.expanded) :
    collectStep ig fuel st b = collect ig fuel b { st with expanded := b :: st.expanded } :=
  if_neg (mt List.contains_iff_mem.1 h)

theorem collect_succ (ig : IGraph) (fuel i : Nat) (st : BState) :
    collect ig (fuel + 1) i st = (ibases ig i).foldl (collectStep ig fuel) ((ibases ig i).foldl BState.push st) := rfl

/-- the nesting depth of `collect` is bounded by the number of interfaces not yet expanded -/
theorem collect_total (ig : IGraph) :
    ∀ (fuel i : Nat) (st : BState), Distinct ig.length st.expanded → ig.length + 1 ≤ st.expanded.length + fuel →
      Distinct ig.length (collect ig fuel i st).expanded ∧ st.expanded.length ≤ (collect ig fuel i st).expanded.length ∧
      (collect ig fuel i st).exhausted = st.exhausted := by
  intro fuel
  induction fuel with
  | zero => intro _ st hinv hlen; have := hinv.length_le; omega
  | succ fuel ih =>
    intro i st hinv hlen
    rw [collect_succ]
    refine List.foldlRecOn (motive := fun (s : BState) => Distinct ig.length s.expanded ∧
        st.expanded.length ≤ s.expanded.length ∧ s.exhausted = st.exhausted) _ _
      (by rw [pushFold_eq]; exact ⟨hinv, Nat.le_refl _, rfl⟩)
      fun st1 ⟨h1, h2, h3⟩ b hb => ?_
    by_cases hc : b ∈ st1.expanded
    · rw [collectStep_done hc]; exact ⟨h1, h2, h3⟩
    · rw [collectStep_rec hc]
      obtain ⟨r1, r2, r3⟩ := ih b { st1 with expanded := b :: st1.expanded }
        (h1.cons hc (mem_ibases_lt ig i b hb)) (by simp only [List.length_cons]; omega)
      exact ⟨r1, by simp only [List.length_cons] at r2; omega, r3.trans h3⟩

theorem allBases_eq (ig : IGraph) (i : Nat) : allBases ig (ig.length + 1) i = some (collect ig (ig.length + 1) i {}).all := by
  unfold allBases
  exact if_neg (by rw [(collect_total ig _ i {} (Distinct.nil _) (by simp)).2.2]; exact Bool.false_ne_true)

/-- a loop invariant may speak of the elements processed so far -/
theorem foldl_prefix_induct {α β} {f : β → α → β} (P : List α → β → Prop) {l : List α} {init : β} (h0 : P [] init)
    (hstep : ∀ pre a s, a ∈ l → P pre s → P (pre ++ [a]) (f s a)) : P l (l.foldl f init) := by
  suffices ∀ (post pre : List α) (s : β), (∀ a ∈ post, a ∈ l) → P pre s → P (pre ++ post) (post.foldl f s) from
    this l [] init (fun _ h => h) h0
  intro post
  induction post with
  | nil => intro pre s _ h; rwa [List.append_nil]
  | cons a post ih =>
    intro pre s hl h
    rw [List.append_cons]
    exact ih _ _ (fun x hx => hl x (List.mem_cons_of_mem _ hx)) (hstep pre a s (hl a (List.mem_cons_self ..)) h)

def NLinked (E : EdgeFn) : Nat → List Nat → Prop
  | _, [] => True
  | prev, x :: rest => EStep E prev x ∧ NLinked E x rest

def nlast : Nat → List Nat → Nat
  | prev, [] => prev
  | _, x :: rest => nlast x rest

theorem nlinked_reach (E : EdgeFn) : ∀ (s : List Nat) (prev : Nat), s ≠ [] → NLinked E prev s → EReach E prev (nlast prev s)
  | [], _, h, _ => absurd rfl h
  | [x], _, _, hl => .single hl.1
  | x :: y :: rest, _, _, hl => .cons hl.1 (nlinked_reach E (y :: rest) x (by simp) hl.2)

def findStep (ig : IGraph) (target fuel : Nat) : FState → Nat → FState :=
  fun st b =>
    if st.found then st
    else if b == target then { st with path := st.path ++ [b], found := true }
    else if st.seen.contains b then st
    else
      let st1 := findPath ig target fuel b { st with seen := b :: st.seen, path := st.path ++ [b] }
      if st1.found then st1 else { st1 with path := st1.path.dropLast }

theorem findPath_succ (ig : IGraph) (target fuel cur : Nat) (st : FState) :
    findPath ig target (fuel + 1) cur st = (ibases ig cur).foldl (findStep ig target fuel) st := rfl

def IClosed (ig : IGraph) (target x : Nat) (S : List Nat) : Prop := ∀ b ∈ ibases ig x, b ≠ target ∧ b ∈ S

theorem IClosed.mono {ig : IGraph} {target x : Nat} {S S' : List Nat} (h : IClosed ig target x S) (hs : ∀ y ∈ S, y ∈ S') :
    IClosed ig target x S' := fun b hb => ⟨(h b hb).1, hs b (h b hb).2⟩

/-- what a run of the loop of `find_path` over (part of) the bases `bs` of `cur` establishes, relative to the state `st`
    it started in. The idea is in `notFound`: an interface entered and left without success has all its bases entered
    and none equal to the target (`IClosed`), so a search that fails leaves a set closed under base references that
    misses the target, and `EReach.closed` turns that into "no chain back" (`checkInterface_isSome_iff`) -/
structure FindSpec (ig : IGraph) (target cur : Nat) (bs : List Nat) (st st' : FState) : Prop where
  seenOk : Distinct ig.length st'.seen
  seenExt : st.seen <:+ st'.seen
  exh : st'.exhausted = st.exhausted
  notFound : st'.found = false →
    st'.path = st.path ∧ (∀ b ∈ bs, b ≠ target ∧ b ∈ st'.seen) ∧
    (∀ x ∈ st'.seen, x ∈ st.seen ∨ IClosed ig target x st'.seen)
  found : st'.found = true →
    ∃ s, s ≠ [] ∧ st'.path = st.path ++ s ∧ NLinked (igEdges ig) cur s ∧ nlast cur s = target

theorem findPath_spec (ig : IGraph) (target : Nat) :
    ∀ (fuel cur : Nat) (st : FState), st.found = false → Distinct ig.length st.seen → ig.length + 1 ≤ st.seen.length + fuel →
      FindSpec ig target cur (ibases ig cur) st (findPath ig target fuel cur st) := by
  intro fuel
  induction fuel with
  | zero => intro cur st _ hok hlen; have := hok.length_le; omega
  | succ fuel ih =>
    intro cur st hnf hok hlen
    rw [findPath_succ]
    -- loop invariant: `FindSpec` for the bases processed so far
    refine foldl_prefix_induct (fun pre s => FindSpec ig target cur pre st s)
      ⟨hok, List.suffix_rfl, rfl, fun _ => ⟨rfl, nofun, fun x hx => .inl hx⟩, fun h => nomatch hnf.symm.trans h⟩
      fun pre b s hb r => ?_
    have hstepE : EStep (igEdges ig) cur b := (igEdges_step ig cur b).2 hb
    -- the nested call, when nothing was found yet and `b` was not entered before
    have hrec := fun (hf : ¬ s.found = true) (hc : ¬ s.seen.contains b = true) =>
      ih b { s with seen := b :: s.seen, path := s.path ++ [b] } (by simpa using hf)
        (r.seenOk.cons (by simpa using hc) (mem_ibases_lt ig cur b hb))
        (by have := r.seenExt.length_le; simp only [List.length_cons]; omega)
    fun_cases findStep ig target fuel s b
    next hf =>
      -- `return true` happened
      exact ⟨r.seenOk, r.seenExt, r.exh, fun h => (nomatch hf.symm.trans h), r.found⟩
    next hf hbt =>
      -- `id == target`: the chain is complete
      obtain ⟨p1, _, _⟩ := r.notFound (by simpa using hf)
      exact ⟨r.seenOk, r.seenExt, r.exh, fun h => (nomatch h),
        fun _ => ⟨[b], by simp, by rw [p1], ⟨hstepE, trivial⟩, beq_iff_eq.1 hbt⟩⟩
    next hf hbt hc =>
      -- already entered: nothing happens
      obtain ⟨p1, p2, p3⟩ := r.notFound (by simpa using hf)
      exact ⟨r.seenOk, r.seenExt, r.exh, fun _ => ⟨p1, List.forall_mem_append.2
        ⟨p2, List.forall_mem_singleton.2 ⟨by simpa using hbt, by simpa using hc⟩⟩, p3⟩, fun h => absurd h hf⟩
    next hf _ hc rs hrf =>
      -- found below `b`
      obtain ⟨p1, _, _⟩ := r.notFound (by simpa using hf)
      have r' : FindSpec _ _ _ _ _ rs := hrec hf hc
      obtain ⟨s', _, hs2, hs3, hs4⟩ := r'.found hrf
      exact ⟨r'.seenOk, r.seenExt.trans ((List.suffix_cons b _).trans r'.seenExt), r'.exh.trans r.exh,
        fun h => (nomatch hrf.symm.trans h), fun _ => ⟨b :: s', by simp, by rw [hs2, p1]; simp, ⟨hstepE, hs3⟩, hs4⟩⟩
    next hf hbt hc rs hrf =>
      -- not found below `b`: `path.pop()` and on to the next base
      obtain ⟨p1, p2, p3⟩ := r.notFound (by simpa using hf)
      have r' : FindSpec _ _ _ _ _ rs := hrec hf hc
      clear_value rs
      obtain ⟨q1, q2, q3⟩ := r'.notFound (by simpa using hrf)
      simp only at q1 q3
      have hsub : ∀ y ∈ s.seen, y ∈ rs.seen := fun y hy => r'.seenExt.subset (List.mem_cons_of_mem _ hy)
      refine ⟨r'.seenOk, r.seenExt.trans ((List.suffix_cons b _).trans r'.seenExt), r'.exh.trans r.exh,
        fun _ => ⟨?_, ?_, fun x hx => ?_⟩, fun h => absurd h hrf⟩
      · show rs.path.dropLast = st.path
        rw [q1, List.dropLast_concat, p1]
      · exact List.forall_mem_append.2 ⟨fun x hx => ⟨(p2 x hx).1, hsub x (p2 x hx).2⟩,
          List.forall_mem_singleton.2 ⟨by simpa using hbt, r'.seenExt.subset (List.mem_cons_self ..)⟩⟩
      · -- entered below `b`: closed there; `b` itself: all its bases were entered; entered before `b`: as it was
        rcases q3 x hx with hx' | hx'
        · rcases List.mem_cons.1 hx' with rfl | hx'
          · exact .inr q2
          · exact (p3 x hx').imp_right (·.mono hsub)
        · exact .inr hx'

theorem findPathFrom_spec (ig : IGraph) (i : Nat) :
    FindSpec ig i i (ibases ig i) { path := [i] } (findPathFrom ig i) :=
  findPath_spec ig i (ig.length + 1) i { path := [i] } rfl (Distinct.nil _) (by simp)

theorem checkInterface_sound (ig : IGraph) (i : Nat) (p : List Nat) (h : checkInterface ig i = some p) :
    ∃ s, s ≠ [] ∧ p = i :: s ∧ NLinked (igEdges ig) i s ∧ nlast i s = i := by
  unfold checkInterface at h
  cases hf : (findPathFrom ig i).found with
  | false => simp [hf] at h
  | true =>
    simp only [hf, if_true, Option.some.injEq] at h
    obtain ⟨s, h1, h2, h3, h4⟩ := (findPathFrom_spec ig i).found hf
    exact ⟨s, h1, by rw [← h, h2]; rfl, h3, h4⟩

theorem checkInterface_isSome_iff (ig : IGraph) (i : Nat) :
    (checkInterface ig i).isSome = true ↔ EReach (igEdges ig) i i := by
  constructor
  · intro h
    obtain ⟨p, hp⟩ := Option.isSome_iff_exists.1 h
    obtain ⟨s, h1, _, h3, h4⟩ := checkInterface_sound ig i p hp
    have := nlinked_reach (igEdges ig) s i h1 h3
    rwa [h4] at this
  · intro hr
    unfold checkInterface
    cases hf : (findPathFrom ig i).found with
    | true => simp [hf]
    | false =>
      exfalso
      obtain ⟨_, hbases, hclosed⟩ := (findPathFrom_spec ig i).notFound hf
      -- everything reachable from `i` was entered and is not `i`
      refine (hr.closed (S := fun d => d ≠ i ∧ d ∈ (findPathFrom ig i).seen) ?_ ?_).1 rfl
      · exact fun b hs => hbases b ((igEdges_step ig i b).1 hs)
      · intro x b hx hs
        rcases hclosed x hx.2 with h' | h'
        · cases h'
        · exact h' b ((igEdges_step ig x b).1 hs)

theorem mem_ifaceLoopErrors (ig : IGraph) (i : Nat) (p : List Nat) :
    (i, p) ∈ ifaceLoopErrors ig ↔ i < ig.length ∧ checkInterface ig i = some p := by
  unfold ifaceLoopErrors
  simp only [List.mem_filterMap, List.mem_range, Option.map_eq_some_iff, Prod.mk.injEq]
  constructor
  · rintro ⟨j, hj, q, hq, rfl, rfl⟩; exact ⟨hj, hq⟩
  · rintro ⟨hi, hp⟩; exact ⟨i, hi, p, hp, rfl, rfl⟩

theorem ifaceLoopErrors_reports_iff (ig : IGraph) (i : Nat) :
    (∃ p, (i, p) ∈ ifaceLoopErrors ig) ↔ i < ig.length ∧ EReach (igEdges ig) i i := by
  simp only [mem_ifaceLoopErrors, ← checkInterface_isSome_iff, Option.isSome_iff_exists]
  exact ⟨fun ⟨p, hi, hp⟩ => ⟨hi, p, hp⟩, fun ⟨hi, p, hp⟩ => ⟨p, hi, hp⟩⟩

theorem ifaceLoopErrors_eq_nil_iff (ig : IGraph) : ifaceLoopErrors ig = [] ↔ AcyclicE (igEdges ig) := by
  rw [List.eq_nil_iff_forall_not_mem]
  constructor
  · intro h i hr
    -- `i` has a base, so it is an interface of the graph, and it would be reported
    obtain ⟨b, hb, _⟩ := hr.head
    obtain ⟨p, hp⟩ := (ifaceLoopErrors_reports_iff ig i).2 ⟨lt_of_mem_ibases ((igEdges_step ig i b).1 hb), hr⟩
    exact h _ hp
  · exact fun hac ip hm => hac ip.1 ((ifaceLoopErrors_reports_iff ig ip.1).1 ⟨ip.2, hm⟩).2

/-! The alias gate (`revisits_anonymous_type`) is stated for any `IGraph`: on the inheritance graph the same descent decides where
  `allBasesSpec` returns (`allBasesSpec_isSome_iff`). -/

theorem revisits_succ (ag : IGraph) (fuel x : Nat) (path : List Nat) :
    revisits ag (fuel + 1) x path =
      if path.contains x then true else (ibases ag x).any fun c => revisits ag fuel c (path ++ [x]) := rfl

def ReachesCycle (ag : IGraph) (x : Nat) : Prop :=
  ∃ y, (y = x ∨ EReach (igEdges ag) x y) ∧ EReach (igEdges ag) y y

theorem ReachesCycle.base {ag : IGraph} {x : Nat} (h : ReachesCycle ag x) : ∃ c ∈ ibases ag x, ReachesCycle ag c := by
  obtain ⟨y, hy, hyy⟩ := h
  obtain ⟨c, hs, hcy⟩ : ∃ c, EStep (igEdges ag) x c ∧ (c = y ∨ EReach (igEdges ag) c y) := by
    rcases hy with rfl | hy
    · exact hyy.head
    · exact hy.head
  exact ⟨c, (igEdges_step ag x c).1 hs, y, hcy.imp_left Eq.symm, hyy⟩

theorem revisits_sound (ag : IGraph) (fuel x : Nat) (path : List Nat) (hpath : ∀ p ∈ path, EReach (igEdges ag) p x)
    (h : revisits ag fuel x path = true) : ReachesCycle ag x := by
  fun_induction revisits ag fuel x path with
  | case1 => cases h
  | case2 fuel x path hc => exact ⟨x, .inl rfl, hpath x (by simpa using hc)⟩
  | case3 fuel x path hc ih =>
    obtain ⟨c, hcm, hr⟩ := List.any_eq_true.1 h
    have hstep : EStep (igEdges ag) x c := (igEdges_step ag x c).2 hcm
    obtain ⟨y, hy, hyy⟩ := ih c (List.forall_mem_append.2
      ⟨fun p hp => (hpath p hp).trans (.single hstep), List.forall_mem_singleton.2 (.single hstep)⟩) hr
    exact ⟨y, .inr (hy.elim (· ▸ .single hstep) (.cons hstep)), hyy⟩

/-- rule induction on a descent of `revisits_anonymous_type` that finds nothing (the path keeps the frames from running out) -/
theorem revisits_false_induct (ag : IGraph) (P : Nat → Nat → Prop)
    (step : ∀ f x, (∀ c ∈ ibases ag x, P f c) → P (f + 1) x) (f x : Nat) (path : List Nat)
    (hd : Distinct ag.length path) (hlen : ag.length + 1 ≤ path.length + f) (hrev : revisits ag f x path = false) : P f x := by
  fun_induction revisits ag f x path with
  | case1 => have := hd.length_le; omega
  | case2 => cases hrev
  | case3 f x path hc ih =>
    exact step f x fun c hcm => ih c (hd.snoc (by simpa using hc) (lt_of_mem_ibases hcm))
      (by simp only [List.length_append, List.length_singleton]; omega) (by simpa using List.any_eq_false.1 hrev c hcm)

theorem revisits_complete (ag : IGraph) (fuel x : Nat) (path : List Nat) (hd : Distinct ag.length path)
    (hlen : ag.length + 1 ≤ path.length + fuel) (hcyc : ReachesCycle ag x) : revisits ag fuel x path = true := by
  cases h : revisits ag fuel x path with
  | true => rfl
  | false =>
    -- a node whose children are all clear of cycles is clear of them
    refine absurd hcyc (revisits_false_induct ag (fun _ x => ¬ ReachesCycle ag x) (fun _ x hc hx => ?_) fuel x path hd hlen h)
    obtain ⟨c, hcm, hcc⟩ := hx.base
    exact hc c hcm hcc

theorem revisits_iff (ag : IGraph) (x : Nat) : revisits ag (ag.length + 1) x [] = true ↔ ReachesCycle ag x :=
  ⟨revisits_sound ag _ x [] (by intro p hp; cases hp),
   revisits_complete ag _ x [] (Distinct.nil _) (by simp)⟩

/-- induction over the nodes from which no cycle can be reached, with a counter of nested frames: `#nodes + 1` frames are
    enough for what needs one frame more than its children -/
theorem ReachesCycle.induct_not {ag : IGraph} (P : Nat → Nat → Prop)
    (step : ∀ f x, (∀ c ∈ ibases ag x, P f c) → P (f + 1) x) {x : Nat} (h : ¬ ReachesCycle ag x) :
    P (ag.length + 1) x :=
  revisits_false_induct ag P step _ x [] (Distinct.nil _) (Nat.le_add_left _ _)
    (Bool.eq_false_iff.2 (mt (revisits_iff ag x).1 h))

theorem mem_aliasGate (ag : IGraph) (starts : List (Option Nat)) (a : Nat) :
    a ∈ aliasGate ag starts ↔ a < starts.length ∧ ∃ x, starts.getD a none = some x ∧ ReachesCycle ag x := by
  unfold aliasGate
  simp only [List.mem_filter, List.mem_range, ← revisits_iff]
  cases starts.getD a none <;> simp

/-! `allBasesSpec` models `all_base_interfaces` as it stood before 323593c (`bases ++ flat_map`, then `retain`); it is the
  specification `collect` is measured against. -/

theorem pushAS_seen {p : List Nat × List Nat} {b : Nat} (h : b ∈ p.2) : pushAS p b = p :=
  if_pos (List.contains_iff_mem.2 h)

theorem pushAS_new {p : List Nat × List Nat} {b : Nat} (h : b ∉ p.2) : pushAS p b = (p.1 ++ [b], b :: p.2) :=
  if_neg (mt List.contains_iff_mem.1 h)

theorem mem_pushAS (p : List Nat × List Nat) (b x : Nat) : x ∈ (pushAS p b).2 ↔ x = b ∨ x ∈ p.2 := by
  unfold pushAS
  split
  · rename_i hc
    exact ⟨.inr, fun h => h.elim (fun e => e ▸ by simpa using hc) id⟩
  · exact List.mem_cons

theorem mem_pushAS_fold (l : List Nat) : ∀ (p : List Nat × List Nat) (x : Nat), x ∈ (l.foldl pushAS p).2 ↔ x ∈ l ∨ x ∈ p.2 := by
  induction l with
  | nil => intro p x; simp
  | cons b l ih => intro p x; rw [List.foldl_cons, ih, mem_pushAS, List.mem_cons, or_assoc]; exact or_left_comm

theorem pushAS_noop (l : List Nat) : ∀ (p : List Nat × List Nat), (∀ x ∈ l, x ∈ p.2) → l.foldl pushAS p = p := by
  induction l with
  | nil => intro p _; rfl
  | cons b l ih =>
    intro p h
    rw [List.foldl_cons, pushAS_seen (h b (List.mem_cons_self ..))]
    exact ih p (fun x hx => h x (List.mem_cons_of_mem _ hx))

theorem pushAS_filter_seen (l : List Nat) (x : Nat) :
    ∀ (p : List Nat × List Nat), x ∈ p.2 → (l.filter (· != x)).foldl pushAS p = l.foldl pushAS p := by
  induction l with
  | nil => intro p _; rfl
  | cons b l ih =>
    intro p h
    by_cases hb : b = x
    · subst hb
      have h1 : (b :: l).filter (· != b) = l.filter (· != b) := by simp
      rw [h1, List.foldl_cons, pushAS_seen h]
      exact ih p h
    · have h1 : (b :: l).filter (· != x) = b :: l.filter (· != x) := by simp [hb]
      rw [h1, List.foldl_cons, List.foldl_cons]
      exact ih _ ((mem_pushAS p b x).2 (.inr h))

theorem pushAS_dedupKeep (l : List Nat) : ∀ (p : List Nat × List Nat), (dedupKeep l).foldl pushAS p = l.foldl pushAS p := by
  induction l with
  | nil => intro p; rfl
  | cons b l ih =>
    intro p
    simp only [dedupKeep, List.foldl_cons]
    rw [pushAS_filter_seen _ _ _ ((mem_pushAS p b b).2 (.inl rfl)), ih]

theorem pushAS_fresh (l : List Nat) :
    ∀ (p : List Nat × List Nat), l.Nodup → (∀ x ∈ l, x ∉ p.2) → (l.foldl pushAS p).1 = p.1 ++ l := by
  induction l with
  | nil => intro p _ _; exact (List.append_nil _).symm
  | cons b l ih =>
    intro p hnd h
    have hb := List.nodup_cons.1 hnd
    rw [List.foldl_cons, pushAS_new (h b (List.mem_cons_self ..)), ih _ hb.2, List.append_assoc, List.singleton_append]
    intro x hx hm
    rcases List.mem_cons.1 hm with rfl | hm
    · exact hb.1 hx
    · exact h x (List.mem_cons_of_mem _ hx) hm

theorem dedupKeep_nodup : ∀ l : List Nat, (dedupKeep l).Nodup
  | [] => List.nodup_nil
  | x :: xs => List.nodup_cons.2 ⟨fun h => by simpa using (List.mem_filter.1 h).2, (dedupKeep_nodup xs).filter _⟩

theorem mem_dedupKeep (l : List Nat) (x : Nat) : x ∈ dedupKeep l ↔ x ∈ l := by
  induction l with
  | nil => simp [dedupKeep]
  | cons b l ih =>
    simp only [dedupKeep, List.mem_cons, List.mem_filter, ih, bne_iff_ne, ne_eq]
    by_cases hx : x = b <;> simp [hx]

theorem joinBases_eq_some {acc r : Option (List Nat)} {x : List Nat} (h : joinBases acc r = some x) :
    ∃ a b, acc = some a ∧ r = some b ∧ a ++ b = x :=
  match acc, r, h with
  | some a, some b, h => ⟨a, b, rfl, rfl, Option.some.inj h⟩
  | none, _, h => nomatch h
  | some _, none, h => nomatch h

def specFold (ig : IGraph) (fuel : Nat) (bs : List Nat) (acc : Option (List Nat)) : Option (List Nat) :=
  bs.foldl (fun acc b => joinBases acc (allBasesSpec ig fuel b)) acc

theorem allBasesSpec_succ (ig : IGraph) (fuel i : Nat) :
    allBasesSpec ig (fuel + 1) i = (specFold ig fuel (ibases ig i) (some (ibases ig i))).map dedupKeep := rfl

theorem specFold_eq_some (ig : IGraph) (fuel : Nat) (bs a X : List Nat) (h : specFold ig fuel bs (some a) = some X) :
    (∀ b ∈ bs, ∃ lb, allBasesSpec ig fuel b = some lb) ∧
    X = a ++ bs.flatMap fun b => (allBasesSpec ig fuel b).getD [] := by
  -- loop invariant: the same for the bases processed so far, as long as the loop holds a list
  refine foldl_prefix_induct (fun pre acc => ∀ X, acc = some X → (∀ b ∈ pre, ∃ lb, allBasesSpec ig fuel b = some lb) ∧
    X = a ++ pre.flatMap fun b => (allBasesSpec ig fuel b).getD []) ?_ (fun pre b acc _ ih X hX => ?_) X h
  · rintro X ⟨⟩
    exact ⟨nofun, (List.append_nil _).symm⟩
  · obtain ⟨x, lb, rfl, hlb, rfl⟩ := joinBases_eq_some hX
    obtain ⟨hall, rfl⟩ := ih x rfl
    exact ⟨List.forall_mem_append.2 ⟨hall, List.forall_mem_singleton.2 ⟨lb, hlb⟩⟩, by simp [hlb]⟩

theorem specFold_some (ig : IGraph) (fuel : Nat) (bs a : List Nat)
    (h : ∀ b ∈ bs, ∃ lb, allBasesSpec ig fuel b = some lb) : ∃ X, specFold ig fuel bs (some a) = some X :=
  List.foldlRecOn (motive := fun acc => ∃ X, acc = some X) _ _ ⟨a, rfl⟩ fun acc ⟨x, hx⟩ b hb => by
    obtain ⟨lb, hlb⟩ := h b hb
    exact ⟨x ++ lb, by rw [hx, hlb]; rfl⟩

/-- `all_base_interfaces` as it stood before 323593c returns `l` for `i`. A derivation is the tree of nested calls; no frame
    counter. -/
inductive SpecReturns (ig : IGraph) : Nat → List Nat → Prop
  | mk {i : Nat} (ls : Nat → List Nat) : (∀ b ∈ ibases ig i, SpecReturns ig b (ls b)) →
      SpecReturns ig i (dedupKeep (ibases ig i ++ (ibases ig i).flatMap ls))

theorem SpecReturns.of_spec (ig : IGraph) : ∀ (fuel i : Nat) (l : List Nat), allBasesSpec ig fuel i = some l → SpecReturns ig i l
  | 0, _, _, h => nomatch h
  | fuel + 1, i, l, h => by
    rw [allBasesSpec_succ] at h
    obtain ⟨X, hX, rfl⟩ := Option.map_eq_some_iff.1 h
    obtain ⟨hall, rfl⟩ := specFold_eq_some ig fuel _ _ X hX
    refine .mk _ fun b hb => ?_
    obtain ⟨lb, hlb⟩ := hall b hb
    rw [hlb]
    exact SpecReturns.of_spec ig fuel b lb hlb

theorem SpecReturns.mem {ig : IGraph} {i : Nat} {l : List Nat} (h : SpecReturns ig i l) : ∀ d, d ∈ l ↔ EReach (igEdges ig) i d := by
  induction h with
  | @mk i ls _ ih =>
    intro d
    rw [mem_dedupKeep, List.mem_append, List.mem_flatMap]
    constructor
    · rintro (h | ⟨b, hb, h⟩)
      · exact .single ((igEdges_step ig i d).2 h)
      · exact .cons ((igEdges_step ig i b).2 hb) ((ih b hb d).1 h)
    · intro hr
      obtain ⟨b, hb, hbd⟩ := hr.head
      have hb' := (igEdges_step ig i b).1 hb
      rcases hbd with rfl | hbd
      · exact .inl hb'
      · exact .inr ⟨b, hb', (ih b hb' d).2 hbd⟩

theorem SpecReturns.not_reachesCycle {ig : IGraph} {i : Nat} {l : List Nat} (h : SpecReturns ig i l) : ¬ ReachesCycle ig i := by
  induction h with
  | mk ls _ ih =>
    intro hr
    obtain ⟨b, hb, hbb⟩ := hr.base
    exact ih b hb hbb

theorem allBasesSpec_mem (ig : IGraph) (fuel i : Nat) (l : List Nat) (h : allBasesSpec ig fuel i = some l) (d : Nat) :
    d ∈ l ↔ EReach (igEdges ig) i d :=
  (SpecReturns.of_spec ig fuel i l h).mem d

theorem allBasesSpec_nodup (ig : IGraph) (fuel i : Nat) (l : List Nat) (h : allBasesSpec ig fuel i = some l) : l.Nodup := by
  cases SpecReturns.of_spec ig fuel i l h
  exact dedupKeep_nodup _

/-- `allBasesSpec` does not return for an interface from which a loop of base references can be reached (D-05a),
    whatever the fuel -/
theorem allBasesSpec_none_of_reachesCycle (ig : IGraph) (fuel i : Nat) (hr : ReachesCycle ig i) :
    allBasesSpec ig fuel i = none := by
  cases h : allBasesSpec ig fuel i with
  | none => rfl
  | some l => exact absurd hr (SpecReturns.of_spec ig fuel i l h).not_reachesCycle

theorem allBasesSpec_none_of_loop (ig : IGraph) (fuel i : Nat) (h : EReach (igEdges ig) i i) : allBasesSpec ig fuel i = none :=
  allBasesSpec_none_of_reachesCycle ig fuel i ⟨i, .inl rfl, h⟩

def IDone (ig : IGraph) (b : Nat) (seen : List Nat) : Prop := ∀ d, EReach (igEdges ig) b d → d ∈ seen

/-- what a call of `collect` establishes when `allBasesSpec` returns `l` for the same interface; `Anc`: the ancestors still
    being expanded -/
structure CollectSpec (ig : IGraph) (Anc : Nat → Prop) (l : List Nat) (st st' : BState) : Prop where
  as : st'.as = l.foldl pushAS st.as
  done : ∀ b ∈ st'.expanded, Anc b ∨ IDone ig b st'.seen

theorem collect_spec (ig : IGraph) {i : Nat} {l : List Nat} (h : SpecReturns ig i l) :
    ∀ (F : Nat) (st : BState) (Anc : Nat → Prop),
      Distinct ig.length st.expanded → ig.length + 1 ≤ st.expanded.length + F →
      (∀ b ∈ st.expanded, Anc b ∨ IDone ig b st.seen) →
      (∀ d, EReach (igEdges ig) i d → ¬ Anc d) →
      CollectSpec ig Anc l st (collect ig F i st) := by
  induction h with
  | @mk i ls hsub ih =>
    intro F st Anc hinv hlen hdone hanc
    cases F with
    | zero => have := hinv.length_le; omega
    | succ F =>
      rw [collect_succ]
      -- loop invariant: the second loop has pushed what the specification returned for the bases processed so far
      obtain ⟨k1, _, _, k5⟩ := foldl_prefix_induct (f := collectStep ig F) (l := ibases ig i)
        (fun pre (st1 : BState) => st1.as = (pre.flatMap ls).foldl pushAS ((ibases ig i).foldl pushAS st.as) ∧
          Distinct ig.length st1.expanded ∧ st.expanded.length ≤ st1.expanded.length ∧
          ∀ b ∈ st1.expanded, Anc b ∨ IDone ig b st1.seen)
        (init := (ibases ig i).foldl BState.push st)
        (by
          rw [pushFold_eq]
          exact ⟨rfl, hinv, Nat.le_refl _, fun b hb => (hdone b hb).imp_right fun h d hd => (mem_pushAS_fold _ _ d).2 (.inr (h d hd))⟩)
        (by
          intro pre b st1 hbmem ⟨h1, h2, h3, h5⟩
          have hib : EStep (igEdges ig) i b := (igEdges_step ig i b).2 hbmem
          rw [List.flatMap_append, List.flatMap_singleton, List.foldl_append, ← h1]
          by_cases hc : b ∈ st1.expanded
          · -- expanded before (and finished, the graph below `i` being acyclic): everything below `b` is seen
            rw [collectStep_done hc]
            refine ⟨?_, h2, h3, h5⟩
            rw [pushAS_noop]
            intro x hx
            rcases h5 b hc with hA | hD
            · exact absurd hA (hanc b (.single hib))
            · exact hD x (((hsub b hbmem).mem x).1 hx)
          · have hb : b < ig.length := mem_ibases_lt ig i b hbmem
            rw [collectStep_rec hc]
            have r := ih b hbmem F { st1 with expanded := b :: st1.expanded } (fun x => Anc x ∨ x = b) (h2.cons hc hb)
              (by simp only [List.length_cons]; omega)
              (List.forall_mem_cons.2 ⟨.inl (.inr rfl), fun x hx => (h5 x hx).imp .inl id⟩)
              (by
                intro d hd hA
                rcases hA with hA | rfl
                · exact hanc d (.cons hib hd) hA
                · exact (hsub d hbmem).not_reachesCycle ⟨d, .inl rfl, hd⟩)
            obtain ⟨t1, t2, _⟩ := collect_total ig F b { st1 with expanded := b :: st1.expanded } (h2.cons hc hb)
              (by simp only [List.length_cons]; omega)
            generalize collect ig F b { st1 with expanded := b :: st1.expanded } = st2 at r t1 t2
            refine ⟨r.as, t1, by simp only [List.length_cons] at t2; omega, fun x hx => ?_⟩
            rcases r.done x hx with (hA | rfl) | hD
            · exact .inl hA
            · right
              intro d hd
              have : st2.seen = ((ls x).foldl pushAS st1.as).2 := congrArg Prod.snd r.as
              rw [this]
              exact (mem_pushAS_fold (ls x) _ d).2 (.inl (((hsub x hbmem).mem d).2 hd))
            · exact .inr hD)
      refine ⟨?_, k5⟩
      rw [k1, ← List.foldl_append, pushAS_dedupKeep]

theorem allBasesSpec_isSome_iff (ig : IGraph) (i : Nat) :
    (allBasesSpec ig (ig.length + 1) i).isSome = true ↔ ¬ ReachesCycle ig i := by
  constructor
  · intro h hr
    rw [allBasesSpec_none_of_reachesCycle ig _ i hr] at h
    cases h
  · -- the nested calls of `allBasesSpec` are those of `revisits` on the inheritance graph: it returns when it does for every base
    refine ReachesCycle.induct_not (fun f x => (allBasesSpec ig f x).isSome = true) fun f x hc => ?_
    obtain ⟨X, hX⟩ := specFold_some ig f (ibases ig x) (ibases ig x) fun b hb => Option.isSome_iff_exists.1 (hc b hb)
    rw [allBasesSpec_succ, hX]
    rfl

theorem allBasesSpec_total_of_acyclic (ig : IGraph) (hac : AcyclicE (igEdges ig)) (i : Nat) :
    ∃ l, allBasesSpec ig (ig.length + 1) i = some l :=
  Option.isSome_iff_exists.1 ((allBasesSpec_isSome_iff ig i).2 fun ⟨y, _, hyy⟩ => hac y hyy)

end Slicec.Cyc
