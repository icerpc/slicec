/-
  The items the printer produces for a well-formed file pass the separation check (`itemsOk (fileItems f)`), C02.
  Hoare-style triples over `ckRun` (`Runs P items Q`) between sets of check states (`In a es`: attribute mode `a`, end class
  among `es`), one lemma per function of Model/Print.lean and for the fragments several of them share.
-/
import SlicecVerif.Lemmas.SliceLexerLeaves

namespace Slicec.SLex

open Slicec

abbrev SP := CkSt → Prop

def Runs (P : SP) (items : List Item) (Q : SP) : Prop := ∀ st, P st → ∃ st', ckRun st items = some st' ∧ Q st'

def In (a : Bool) (es : List EndClass) : SP := fun st => st.attr = a ∧ st.last ∈ es

theorem ckRun_append (st : CkSt) (a b : List Item) :
    ckRun st (a ++ b) = (ckRun st a).bind (fun st' => ckRun st' b) := by
  induction a generalizing st with
  | nil => rfl
  | cons it r ih =>
    simp only [List.cons_append, ckRun]
    cases ckItem st it with
    | none => rfl
    | some st' => exact ih st'

theorem Runs.nil {P : SP} : Runs P [] P := fun st h => ⟨st, rfl, h⟩

theorem Runs.append {P Q R : SP} {a b : List Item} (h1 : Runs P a Q) (h2 : Runs Q b R) : Runs P (a ++ b) R := by
  intro st hp
  obtain ⟨st1, e1, q1⟩ := h1 st hp
  obtain ⟨st2, e2, q2⟩ := h2 st1 q1
  exact ⟨st2, by rw [ckRun_append, e1]; exact e2, q2⟩

theorem Runs.cons {P Q R : SP} {it : Item} {r : List Item} (h1 : ∀ st, P st → ∃ st', ckItem st it = some st' ∧ Q st')
    (h2 : Runs Q r R) : Runs P (it :: r) R := by
  intro st hp
  obtain ⟨st1, e1, q1⟩ := h1 st hp
  obtain ⟨st2, e2, q2⟩ := h2 st1 q1
  exact ⟨st2, by simp only [ckRun, e1]; exact e2, q2⟩

theorem Runs.weaken {P P' Q Q' : SP} {a : List Item} (h : Runs P a Q) (hp : ∀ st, P' st → P st) (hq : ∀ st, Q st → Q' st) :
    Runs P' a Q' := by
  intro st h'
  obtain ⟨st1, e1, q1⟩ := h st (hp st h')
  exact ⟨st1, e1, hq st1 q1⟩

theorem Runs.post {P Q Q' : SP} {a : List Item} (h : Runs P a Q) (hq : ∀ st, Q st → Q' st) : Runs P a Q' :=
  h.weaken (fun _ x => x) hq

theorem Runs.pre {P P' Q : SP} {a : List Item} (h : Runs P a Q) (hp : ∀ st, P' st → P st) : Runs P' a Q :=
  h.weaken hp (fun _ x => x)

theorem In.mono {a : Bool} {es es' : List EndClass} (h : ∀ e ∈ es, e ∈ es') : ∀ st, In a es st → In a es' st :=
  fun _ hs => ⟨hs.1, h _ hs.2⟩

theorem Runs.nil_sub {a : Bool} {es es' : List EndClass} (h : ∀ e ∈ es, e ∈ es' := by decide) : Runs (In a es) [] (In a es') :=
  Runs.nil.post (In.mono h)

theorem Runs.ite {P Q : SP} (c : Bool) {a b : List Item} (h1 : Runs P a Q) (h2 : Runs P b Q) :
    Runs P (if c then a else b) Q := by
  cases c
  · exact h2
  · exact h1

theorem Runs.flatMap {β : Type} (ps : List β) (f : β → List Item) (P : SP) (h : ∀ p ∈ ps, Runs P (f p) P) :
    Runs P (ps.flatMap f) P := by
  induction ps with
  | nil => exact Runs.nil
  | cons p r ih =>
    rw [List.flatMap_cons]
    exact Runs.append (h p (by simp)) (ih (fun q hq => h q (by simp [hq])))

theorem Runs.flatMap_idx {α : Type} (xs : List α) (f : α × Nat → List Item) (P : SP) (h : ∀ x ∈ xs, ∀ i, Runs P (f (x, i)) P) :
    Runs P (xs.zipIdx.flatMap f) P :=
  Runs.flatMap _ f P fun (x, i) hp => h x (List.fst_mem_of_mem_zipIdx hp) i

/-- the way Model/Print.lean writes a separated list; `P'` holds in front of every element -/
theorem Runs.sepBy {α : Type} (xs : List α) (first sep : List Item) (g : α × Nat → List Item) {P P' Q : SP}
    (hPQ : ∀ st, P st → Q st) (h0 : Runs P first P') (hsep : Runs Q sep P') (hg : ∀ x ∈ xs, ∀ i, Runs P' (g (x, i)) Q) :
    Runs P (xs.zipIdx.flatMap fun p => (if p.2 == 0 then first else sep) ++ g p) Q := by
  cases xs with
  | nil => exact Runs.nil.post hPQ
  | cons x r =>
    rw [List.zipIdx_cons, List.flatMap_cons]
    refine Runs.append (Runs.append h0 (hg x (by simp) 0)) (Runs.flatMap _ _ Q fun (y, i) hp => ?_)
    have hi : (i == 0) = false := beq_eq_false_iff_ne.mpr (Nat.ne_of_gt (List.le_snd_of_mem_zipIdx hp))
    simp only [hi, Bool.false_eq_true, if_false]
    exact Runs.append hsep (hg y (by simp [List.fst_mem_of_mem_zipIdx hp]) i)

theorem Runs.op {P Q : SP} {p : String} {r : List Item} (h : Runs P r Q) : Runs P (.op p :: r) Q :=
  Runs.cons (fun st hp => ⟨st, rfl, hp⟩) h
theorem Runs.cl {P Q : SP} {p : String} {r : List Item} (h : Runs P r Q) : Runs P (.cl p :: r) Q :=
  Runs.cons (fun st hp => ⟨st, rfl, hp⟩) h
theorem Runs.glue {P Q : SP} {r : List Item} (h : Runs P r Q) : Runs P (.glue :: r) Q :=
  Runs.cons (fun st hp => ⟨st, rfl, hp⟩) h
theorem Runs.sp {a : Bool} {es : List EndClass} {Q : SP} {r : List Item} (h : Runs (In a [.closed]) r Q) :
    Runs (In a es) (.sp :: r) Q :=
  Runs.cons (fun st hp => ⟨⟨st.attr, .closed⟩, rfl, hp.1, by simp⟩) h
theorem Runs.nl {a : Bool} {es : List EndClass} {n : Nat} {Q : SP} {r : List Item} (h : Runs (In a [.closed]) r Q) :
    Runs (In a es) (.nl n :: r) Q :=
  Runs.cons (fun st hp => ⟨⟨st.attr, .closed⟩, rfl, hp.1, by simp⟩) h

theorem Runs.optComma {a : Bool} {es : List EndClass} {Q : SP} {r : List Item} (hes : ∀ e ∈ es, e ∈ [EndClass.closed, .word])
    (h : Runs (In a es) r Q) : Runs (In a es) (.optComma :: r) Q := by
  refine Runs.cons (fun st hp => ⟨st, ?_, hp⟩) h
  have he := hes _ hp.2
  simp only [List.mem_cons, List.mem_nil_iff, or_false] at he
  simp only [ckItem]
  rcases he with e | e <;> rw [e] <;> rfl

theorem Runs.const (s : String) {a a' : Bool} {es : List EndClass} {e' : EndClass} {Q : SP} {r : List Item}
    (htbl : ∀ e ∈ es, ckText ⟨a, e⟩ s.toList false = some ⟨a', e'⟩) (h : Runs (In a' [e']) r Q) :
    Runs (In a es) (.tok s :: r) Q := by
  refine Runs.cons (fun st hp => ?_) h
  obtain ⟨a0, e0⟩ := st
  obtain ⟨ha, he⟩ := hp
  simp only at ha he
  subst ha
  exact ⟨⟨a', e'⟩, htbl e0 he, rfl, by simp⟩

theorem tbl_closed : ∀ s ∈ ["(", ")", "{", "}", "<", ">", ",", "=", "?", "->"], ∀ a ∈ [true, false],
    ∀ e ∈ [EndClass.closed, .word], ckText ⟨a, e⟩ s.toList false = some ⟨a, .closed⟩ := by decide +kernel

theorem tbl_lbracket : ∀ e ∈ [EndClass.closed], ckText ⟨false, e⟩ "[".toList false = some ⟨true, .afterLBracket⟩ := by decide +kernel
theorem tbl_rbracket : ∀ e ∈ [EndClass.closed, .word], ckText ⟨true, e⟩ "]".toList false = some ⟨false, .afterRBracket⟩ := by decide +kernel
theorem tbl_dlbracket : ∀ e ∈ [EndClass.closed], ckText ⟨false, e⟩ "[[".toList false = some ⟨true, .closed⟩ := by decide +kernel
theorem tbl_drbracket : ∀ e ∈ [EndClass.closed, .word], ckText ⟨true, e⟩ "]]".toList false = some ⟨false, .closed⟩ := by decide +kernel
theorem tbl_colon : ∀ e ∈ [EndClass.closed, .word], ckText ⟨false, e⟩ ":".toList false = some ⟨false, .afterColon⟩ := by decide +kernel
theorem tbl_minus : ∀ e ∈ [EndClass.closed], ckText ⟨false, e⟩ "-".toList false = some ⟨false, .afterMinus⟩ := by decide +kernel

theorem Runs.punct (s : String) {a : Bool} {es : List EndClass} {Q : SP} {r : List Item} (h : Runs (In a [.closed]) r Q)
    (hs : s ∈ ["(", ")", "{", "}", "<", ">", ",", "=", "?", "->"] := by decide)
    (hes : ∀ e ∈ es, e ∈ [EndClass.closed, .word] := by decide) : Runs (In a es) (.tok s :: r) Q :=
  .const s (fun e he => tbl_closed s hs a (by cases a <;> simp) e (hes e he)) h

theorem Runs.text (s : String) {a a' : Bool} {es : List EndClass} {items : List LexItem} {e' : EndClass} {Q : SP}
    {r : List Item} (hrun : lexRun a s.toList = ⟨items, a', e'⟩) (hne : s.toList ≠ [])
    (hc : ∀ e ∈ es, compat e s.toList = true) (hok : noErr items = true) (herr : e' ≠ .err) (hline : e' ≠ .line)
    (h : Runs (In a' [e']) r Q) : Runs (In a es) (.tok s :: r) Q := by
  refine Runs.cons (fun st hs => ⟨_, ckText_eq_some.mpr ⟨hne, hc _ hs.2, ?_, ?_, fun _ => ?_, rfl⟩, ?_⟩) h
  all_goals rw [hs.1, hrun]
  · exact hok
  · exact herr
  · exact hline
  · exact ⟨rfl, by simp⟩

theorem compat_closed_mem (w : List Char) : ∀ e ∈ [EndClass.closed], compat e w = true :=
  fun e he => by rw [List.mem_singleton.mp he]; exact compat_closed w

theorem Runs.word (s : String) {a : Bool} {Q : SP} {r : List Item} (hid : isIdentText s.toList = true)
    (h : Runs (In a [.word]) r Q) : Runs (In a [.closed]) (.tok s :: r) Q :=
  .text s (lexRun_word a _ hid) (isIdentText_ne_nil hid) (compat_closed_mem _) rfl (by decide) (by decide) h

theorem Runs.int (s : String) {a : Bool} {Q : SP} {r : List Item} (hid : isIntText s.toList = true)
    (h : Runs (In a [.word]) r Q) : Runs (In a [.closed, .afterMinus]) (.tok s :: r) Q := by
  refine .text s (lexRun_int a _ hid) (fun e => by rw [e] at hid; cases hid) (fun e he => ?_) rfl (by decide) (by decide) h
  cases hw : s.toList with
  | nil => rw [hw] at hid; cases hid
  | cons c r =>
    rw [hw] at hid
    simp only [isIntText, Bool.and_eq_true] at hid
    have h9 := beq_false_of_pred Char.isDigit c '>' (by decide) hid.1
    simp only [List.mem_cons, List.mem_nil_iff, or_false] at he
    rcases he with rfl | rfl <;> simp [compat, bne, h9]

theorem Runs.quoted (x : String) {a : Bool} {Q : SP} {r : List Item} (h : x.toList.contains '\n' = false)
    (hr : Runs (In a [.closed]) r Q) : Runs (In a [.closed]) (.tok ("\"" ++ escapeStrLit x ++ "\"") :: r) Q := by
  have hrun : lexRun a ("\"" ++ escapeStrLit x ++ "\"").toList = ⟨[.tok (.strLit (escL x.toList))], a, .closed⟩ := by
    rw [quoted_toList]; exact lexRun_quoted a _ h
  exact .text _ hrun (by rw [quoted_toList]; exact List.cons_ne_nil _ _) (compat_closed_mem _) rfl (by decide) (by decide) hr

theorem Runs.name (s : String) {a : Bool} {es : List EndClass} {Q : SP} {r : List Item} (h : nameTextOk a s.toList = true)
    (hes : ∀ e ∈ es, e ∈ [EndClass.closed, .afterLBracket]) (hr : Runs (In a [.word]) r Q) :
    Runs (In a es) (.tok s :: r) Q := by
  obtain ⟨items, hrun, hitems, hcomp⟩ := nameTextOk_iff.mp h
  refine .text s hrun (fun e => by rw [e] at hrun; cases hrun) (fun e he => ?_) (noErr_of_nameItems hitems) (by decide)
    (by decide) hr
  have := hes e he
  simp only [List.mem_cons, List.mem_nil_iff, or_false] at this
  rcases this with rfl | rfl
  · exact compat_closed _
  · exact hcomp

theorem Runs.docLine (s : String) {a : Bool} {Q : SP} {r : List Item} (h : s.toList.contains '\n' = false)
    (hr : Runs (In a [.line]) r Q) : Runs (In a [.closed]) (.docLine s :: r) Q := by
  refine Runs.cons (fun st hs => ⟨⟨st.attr, .line⟩, ckText_eq_some.mpr ?_, hs.1, by simp⟩) hr
  rw [toList_docLine, lexRun_docLine st.attr _ h, List.mem_singleton.mp hs.2]
  refine ⟨List.cons_ne_nil _ _, rfl, ?_, fun e => (nomatch e), fun e => (nomatch e), rfl⟩
  show noErr (if _ then _ else _) = true
  split <;> rfl

/-- after a separator or a self-delimiting token, outside attributes -/
abbrev F : SP := In false [.closed]
/-- after a complete element outside attributes: a word or a self-delimiting token -/
abbrev G : SP := In false [.closed, .word]
/-- at the start of an attribute: after `[` or `[[` -/
abbrev AS : SP := In true [.closed, .afterLBracket]
/-- `G` and `F` inside an attribute -/
abbrev AG : SP := In true [.closed, .word]
abbrev AF : SP := In true [.closed]

theorem F_G : ∀ st, F st → G st := In.mono (by decide)

theorem Runs.arg (x : String) (hx : x.toList.contains '\n' = false) {Q : SP} {r : List Item} (h : Runs AG r Q) :
    Runs AF ((if isIdentLike x && !(keywords.contains x) then Item.tok x else Item.tok ("\"" ++ escapeStrLit x ++ "\"")) :: r) Q := by
  split
  · rename_i hc
    simp only [Bool.and_eq_true] at hc
    exact .word x (by rw [← isIdentLike_eq]; exact hc.1) (h.pre (In.mono (by decide)))
  · exact .quoted x hx (h.pre (In.mono (by decide)))

theorem runs_attr (path : String) (a : Attr) (h : attrOk a = true) : Runs AS (attrItems path a) AG := by
  unfold attrItems
  refine Runs.append (Runs.append (.op (.name _ (attrOk_dir a h) (by decide) .nil))
    (Runs.ite _ Runs.nil_sub ?_)) (.cl .nil)
  refine Runs.append (Runs.append (.glue (.punct "(" .nil))
    (Runs.sepBy a.args _ _ _ (In.mono (by decide)) (.glue .nil) (.glue (.punct "," (.sp .nil)))
      fun x hx _ => .arg x (attrOk_args a h x hx) .nil))
    (.glue (.punct ")" Runs.nil_sub))

theorem runs_localAttrsWith (sfx path : String) (as : List Attr) (sep : Item) (h : as.all attrOk = true)
    (hsep : sep = .sp ∨ ∃ n, sep = .nl n) : Runs F (localAttrsWith sfx path as sep) F := by
  have hsep' : Runs (In false [.afterRBracket]) [sep] F := by
    rcases hsep with rfl | ⟨n, rfl⟩
    · exact .sp .nil
    · exact .nl .nil
  unfold localAttrsWith
  refine Runs.flatMap_idx _ _ F fun a ha i => ?_
  exact Runs.append (Runs.append (.const "[" tbl_lbracket (.glue Runs.nil_sub))
    (runs_attr _ a (List.all_eq_true.mp h a ha))) (.glue (.const "]" tbl_rbracket hsep'))

theorem runs_localAttrs (path : String) (as : List Attr) (sep : Item) (h : as.all attrOk = true)
    (hsep : sep = .sp ∨ ∃ n, sep = .nl n) : Runs F (localAttrs path as sep) F :=
  runs_localAttrsWith ".a" path as sep h hsep

theorem runs_generic_open (kw : String) (hid : isIdentText kw.toList = true) :
    Runs F [.tok kw, .glue, .tok "<", .glue] F :=
  .word kw hid (.glue (.punct "<" (.glue .nil)))

theorem runs_close_chevron : Runs G [.glue, .tok ">"] G :=
  .glue (.punct ">" Runs.nil_sub)

theorem runs_comma_sp : Runs G [.glue, .tok ",", .sp] F :=
  .glue (.punct "," (.sp .nil))

mutual
theorem runs_ty : ∀ (path : String) (t : TyExpr), tyOk t = true → Runs F (tyItems path t) G
  | path, .prim p, _ => by
    simp only [tyItems]
    exact .word _ (prim_kw_ident p) Runs.nil_sub
  | path, .named id, h => by
    simp only [tyItems]
    simp only [tyOk] at h
    exact .name _ h (by decide) Runs.nil_sub
  | path, .seq e, h => by
    simp only [tyItems]
    simp only [tyOk] at h
    exact Runs.append (Runs.append (runs_generic_open "Sequence" (by decide +kernel)) (runs_tref _ e h)) runs_close_chevron
  | path, .dict k v, h => by
    simp only [tyItems]
    simp only [tyOk, Bool.and_eq_true] at h
    exact Runs.append (Runs.append (Runs.append (Runs.append (runs_generic_open "Dictionary" (by decide +kernel))
      (runs_tref _ k h.1)) runs_comma_sp) (runs_tref _ v h.2)) runs_close_chevron
  | path, .result s f, h => by
    simp only [tyItems]
    simp only [tyOk, Bool.and_eq_true] at h
    exact Runs.append (Runs.append (Runs.append (Runs.append (runs_generic_open "Result" (by decide +kernel))
      (runs_tref _ s h.1)) runs_comma_sp) (runs_tref _ f h.2)) runs_close_chevron
theorem runs_tref : ∀ (path : String) (t : TRef), trefOk t = true → Runs F (trefItems path t) G
  | path, .mk attrs ty opt, h => by
    simp only [trefItems]
    simp only [trefOk, Bool.and_eq_true] at h
    exact Runs.append (Runs.append (Runs.append (Runs.append (.op .nil) (runs_localAttrsWith _ _ _ _ h.1 (Or.inl rfl)))
      (runs_ty path ty h.2)) (Runs.ite opt (.glue (.punct "?" Runs.nil_sub)) .nil))
      (.cl .nil)
end

theorem runs_minus (neg : Bool) : Runs F (if neg then [Item.tok "-", .glue] else []) (In false [.closed, .afterMinus]) :=
  Runs.ite neg (.const "-" tbl_minus (.glue Runs.nil_sub)) Runs.nil_sub

theorem runs_tag (path : String) (t : Option IntLit) (h : tagOk t = true) : Runs F (tagItems path t) F := by
  cases t with
  | none => exact .nil
  | some l =>
    simp only [tagItems]
    exact Runs.append (Runs.append
      (.word "tag" (by decide +kernel) (.glue (.punct "(" (.glue (.op .nil))))) (runs_minus _))
      (.int _ (magText_int l h) (.cl (.glue (.punct ")" (.sp .nil)))))

theorem runs_doc (doc : List String) (indent : Nat) (h : docOk doc = true) : Runs F (docItems doc indent) F := by
  unfold docItems
  refine Runs.flatMap _ _ F fun l hl => .docLine l ?_ (.nl .nil)
  simp only [docOk, List.all_eq_true, Bool.not_eq_true'] at h
  exact h l hl

theorem runs_ident (path name : String) (h : identOk name = true) : Runs F (identItems path name) (In false [.word]) := by
  refine .op (Runs.cons (fun st hs => ⟨⟨st.attr, .word⟩, ?_, hs.1, by simp⟩) (.cl .nil))
  simp [ckItem, show isIdentText name.toList = true from h, List.mem_singleton.mp hs.2, compat_closed]

theorem runs_colon_sp {es : List EndClass} (hes : ∀ e ∈ es, e ∈ [EndClass.closed, .word]) :
    Runs (In false es) [.tok ":", .sp] F :=
  .const ":" (fun e he => tbl_colon e (hes e he)) (.sp .nil)

theorem runs_field (path : String) (indent : Nat) (inl : Bool) (f : Field) (h : fieldOk f = true) :
    Runs F (fieldItems path indent inl f) G := by
  simp only [fieldOk, Bool.and_eq_true] at h
  obtain ⟨⟨⟨⟨hdoc, hattrs⟩, htag⟩, hname⟩, hty⟩ := h
  unfold fieldItems
  exact Runs.append (Runs.append (Runs.append (Runs.append (Runs.append (Runs.append (Runs.append
    (runs_doc _ _ hdoc) (runs_localAttrs _ _ _ hattrs (sep_inl inl indent))) (.op .nil)) (runs_tag _ _ htag))
    (runs_ident _ _ hname)) (.glue (runs_colon_sp (by decide)))) (runs_tref _ _ hty)) (.cl .nil)

theorem runs_flag (b : Bool) (kw : String) (hid : isIdentText kw.toList = true) :
    Runs F (if b then [Item.tok kw, .sp] else []) F :=
  Runs.ite b (.word kw hid (.sp .nil)) .nil

theorem runs_param (path : String) (p : Param) (h : paramOk p = true) : Runs F (paramItems path p) G := by
  simp only [paramOk, Bool.and_eq_true] at h
  obtain ⟨⟨⟨hattrs, htag⟩, hname⟩, hty⟩ := h
  unfold paramItems
  exact Runs.append (Runs.append (Runs.append (Runs.append (Runs.append (Runs.append (Runs.append
    (runs_localAttrs _ _ _ hattrs (Or.inl rfl)) (.op .nil)) (runs_tag _ _ htag))
    (runs_ident _ _ hname)) (.glue (runs_colon_sp (by decide)))) (runs_flag _ "stream" (by decide +kernel)))
    (runs_tref _ _ hty)) (.cl .nil)

theorem runs_commaSep (xs : List (List Item)) (h : ∀ x ∈ xs, Runs F x G) : Runs F (commaSep xs) G := by
  unfold commaSep
  exact Runs.sepBy xs [] _ _ F_G .nil (.glue (.optComma (by decide) (.sp .nil))) fun x hx _ => h x hx

theorem runs_zipIdx_map {α : Type} (xs : List α) (g : α × Nat → List Item) (ok : α → Bool) (hok : xs.all ok = true)
    (h : ∀ x i, ok x = true → Runs F (g (x, i)) G) : ∀ m ∈ xs.zipIdx.map g, Runs F m G := by
  intro m hm
  obtain ⟨⟨x, i⟩, hp, rfl⟩ := List.mem_map.mp hm
  exact h x i (List.all_eq_true.mp hok x (List.fst_mem_of_mem_zipIdx hp))

theorem runs_lparen {es : List EndClass} (hes : ∀ e ∈ es, e ∈ [EndClass.closed, .word]) :
    Runs (In false es) [.glue, .tok "(", .glue] F :=
  .glue (.punct "(" (.glue .nil) (hes := hes))

theorem runs_rparen : Runs G [.glue, .tok ")"] F := .glue (.punct ")" .nil)

theorem runs_ret (path : String) (r : Ret) (h : retOk r = true) : Runs F (retItems path r) G := by
  cases r with
  | none => exact Runs.nil_sub
  | single tag stream ty =>
    simp only [retOk, Bool.and_eq_true] at h
    simp only [retItems]
    exact Runs.append (Runs.append (Runs.append (Runs.append
      (.sp (.punct "->" (.sp (.op .nil)))) (runs_tag _ _ h.1))
      (runs_flag _ "stream" (by decide +kernel))) (runs_tref _ _ h.2)) (.cl .nil)
  | tuple ps =>
    simp only [retOk] at h
    simp only [retItems]
    exact Runs.append (Runs.append
      (.sp (.punct "->" (.sp (.punct "(" (.glue .nil)))))
      (runs_commaSep _ (runs_zipIdx_map ps _ paramOk h fun p i hp => runs_param _ p hp))) (runs_rparen.post F_G)

theorem runs_op (path : String) (o : Op) (h : opOk o = true) : Runs F (opItems path o) G := by
  simp only [opOk, Bool.and_eq_true] at h
  obtain ⟨⟨⟨⟨hdoc, hattrs⟩, hname⟩, hparams⟩, hret⟩ := h
  unfold opItems
  exact Runs.append (Runs.append (Runs.append (Runs.append (Runs.append (Runs.append (Runs.append (Runs.append (Runs.append
    (runs_doc _ _ hdoc) (runs_localAttrs _ _ _ hattrs (Or.inr ⟨1, rfl⟩))) (.op .nil))
    (runs_flag _ "idempotent" (by decide +kernel))) (runs_ident _ _ hname)) (runs_lparen (by decide)))
    (runs_commaSep _ (runs_zipIdx_map o.params _ paramOk hparams fun p i hp => runs_param _ p hp))) runs_rparen)
    (runs_ret _ _ hret)) (.cl .nil)

theorem runs_cl_word {p : String} : Runs (In false [.word]) [.cl p] G := .cl Runs.nil_sub

theorem runs_enumerator (path : String) (e : Enumerator) (h : enumeratorOk e = true) : Runs F (enumeratorItems path e) G := by
  simp only [enumeratorOk, Bool.and_eq_true] at h
  obtain ⟨⟨⟨⟨hdoc, hattrs⟩, hname⟩, hfields⟩, hval⟩ := h
  unfold enumeratorItems
  refine Runs.append (Runs.append (Runs.append (Runs.append (Runs.append (Runs.append
    (runs_doc _ _ hdoc) (runs_localAttrs _ _ _ hattrs (Or.inr ⟨1, rfl⟩))) (.op .nil)) (runs_ident _ _ hname))
    (?fields : Runs (In false [.word]) _ G)) (?value : Runs G _ G)) (.cl .nil)
  case fields =>
    cases hf : e.fields with
    | none => exact Runs.nil_sub
    | some fs =>
      rw [hf] at hfields
      exact Runs.append (Runs.append (runs_lparen (by decide))
        (runs_commaSep _ (runs_zipIdx_map fs _ fieldOk hfields fun f i hf => runs_field _ 1 true f hf))) (runs_rparen.post F_G)
  case value =>
    cases hv : e.value with
    | none => exact .nil
    | some l =>
      rw [hv] at hval
      exact Runs.append (Runs.append (.sp (.punct "=" (.sp (.op .nil)))) (runs_minus _))
        (.int _ (magText_int l hval) runs_cl_word)

theorem runs_open_brace : Runs G [.sp, .tok "{"] G := .sp (.punct "{" Runs.nil_sub)

theorem runs_close_brace : Runs G [.nl 0, .tok "}"] G := .nl (.punct "}" Runs.nil_sub)

theorem runs_membersBlock (ms : List (List Item)) (h : ∀ m ∈ ms, Runs F m G) : Runs G (membersBlock ms) G := by
  unfold membersBlock
  refine Runs.append (Runs.append runs_open_brace (Runs.flatMap _ _ G fun m hm => ?_)) runs_close_brace
  exact Runs.append (Runs.append (.nl .nil) (h m hm)) (.glue (.optComma (by decide) .nil))

theorem runs_def_head (path : String) (doc : List String) (attrs : List Attr) (hdoc : docOk doc = true)
    (hattrs : attrs.all attrOk = true) : Runs F (docItems doc 0 ++ localAttrs path attrs (.nl 0)) F :=
  Runs.append (runs_doc _ _ hdoc) (runs_localAttrs _ _ _ hattrs (Or.inr ⟨0, rfl⟩))

theorem runs_kw_sp (kw : String) (hid : isIdentText kw.toList = true) : Runs F [.tok kw, .sp] F :=
  .word kw hid (.sp .nil)

theorem runs_def (path : String) (d : Def) (h : defOk d = true) : Runs F (defItems path d) G := by
  cases d with
  | struct doc attrs compact name fields =>
    simp only [defOk, Bool.and_eq_true] at h
    obtain ⟨⟨⟨hdoc, hattrs⟩, hname⟩, hfields⟩ := h
    simp only [defItems]
    exact Runs.append (Runs.append (Runs.append (Runs.append (Runs.append (Runs.append
      (runs_def_head path doc attrs hdoc hattrs) (.op .nil)) (runs_flag compact "compact" (by decide +kernel)))
      (runs_kw_sp "struct" (by decide +kernel))) (runs_ident _ _ hname)) runs_cl_word)
      (runs_membersBlock _ (runs_zipIdx_map fields _ fieldOk hfields fun f i hf => runs_field _ 1 false f hf))
  | iface doc attrs name bases ops =>
    simp only [defOk, Bool.and_eq_true] at h
    obtain ⟨⟨⟨⟨hdoc, hattrs⟩, hname⟩, hbases⟩, hops⟩ := h
    simp only [defItems]
    refine Runs.append (Runs.append (Runs.append (Runs.append (Runs.append (Runs.append (Runs.append
      (runs_def_head path doc attrs hdoc hattrs) (.op (runs_kw_sp "interface" (by decide +kernel)))) (runs_ident _ _ hname))
      runs_cl_word) (?bases : Runs G _ G)) runs_open_brace) (?ops : Runs G _ G)) runs_close_brace
    case bases =>
      exact Runs.ite _ .nil (Runs.append (.sp (runs_colon_sp (by decide)))
        (Runs.sepBy bases _ _ _ F_G .nil runs_comma_sp fun b hb _ => runs_tref _ b (List.all_eq_true.mp hbases b hb)))
    case ops =>
      exact Runs.flatMap_idx _ _ G fun o ho i => Runs.append (.nl .nil) (runs_op _ o (List.all_eq_true.mp hops o ho))
  | enum doc attrs compact unchecked name underlying es =>
    simp only [defOk, Bool.and_eq_true] at h
    obtain ⟨⟨⟨⟨hdoc, hattrs⟩, hname⟩, hund⟩, hes⟩ := h
    simp only [defItems]
    refine Runs.append (Runs.append (Runs.append (Runs.append (Runs.append (Runs.append (Runs.append (Runs.append
      (runs_def_head path doc attrs hdoc hattrs) (.op .nil)) (runs_flag compact "compact" (by decide +kernel)))
      (runs_flag unchecked "unchecked" (by decide +kernel))) (runs_kw_sp "enum" (by decide +kernel)))
      (runs_ident _ _ hname)) runs_cl_word) (?underlying : Runs G _ G))
      (runs_membersBlock _ (runs_zipIdx_map es _ enumeratorOk hes fun e i he => runs_enumerator _ e he))
    case underlying =>
      cases underlying with
      | none => exact .nil
      | some u => exact Runs.append (.sp (runs_colon_sp (by decide))) (runs_tref _ u hund)
  | custom doc attrs name =>
    simp only [defOk, Bool.and_eq_true] at h
    obtain ⟨⟨hdoc, hattrs⟩, hname⟩ := h
    simp only [defItems]
    exact Runs.append (Runs.append (Runs.append (runs_def_head path doc attrs hdoc hattrs)
      (.op (runs_kw_sp "custom" (by decide +kernel)))) (runs_ident _ _ hname)) runs_cl_word
  | alias doc attrs name ty =>
    simp only [defOk, Bool.and_eq_true] at h
    obtain ⟨⟨⟨hdoc, hattrs⟩, hname⟩, hty⟩ := h
    simp only [defItems]
    exact Runs.append (Runs.append (Runs.append (Runs.append (Runs.append (runs_def_head path doc attrs hdoc hattrs)
      (.op (runs_kw_sp "typealias" (by decide +kernel)))) (runs_ident _ _ hname)) runs_cl_word)
      (.sp (.punct "=" (.sp .nil)))) (runs_tref _ _ hty)

theorem runs_file (f : SFile) (h : fileOk f = true) : Runs F (fileItems f) F := by
  simp only [fileOk, Bool.and_eq_true] at h
  obtain ⟨⟨hfa, hmod⟩, hdefs⟩ := h
  unfold fileItems
  refine Runs.append (Runs.append (?fileAttrs : Runs F _ F) (?module : Runs F _ F)) (?defs : Runs F _ F)
  case fileAttrs =>
    refine Runs.flatMap_idx _ _ F fun a ha i => ?_
    exact Runs.append (Runs.append (.const "[[" tbl_dlbracket (.glue Runs.nil_sub))
      (runs_attr _ a (List.all_eq_true.mp hfa a ha))) (.glue (.const "]]" tbl_drbracket (.nl .nil)))
  case module =>
    cases hm : f.module with
    | none => exact .nil
    | some m =>
      rw [hm] at hmod
      simp only [Bool.and_eq_true] at hmod
      exact Runs.append (runs_localAttrs _ _ _ hmod.1 (Or.inr ⟨0, rfl⟩))
        (.op (.word "module" (by decide +kernel) (.sp (.op (.name _ hmod.2 (by decide) (.cl (.cl (.nl .nil))))))))
  case defs =>
    exact Runs.flatMap_idx _ _ F fun d hd i =>
      Runs.append (Runs.append (.nl .nil) (runs_def _ d (List.all_eq_true.mp hdefs d hd))) (.nl .nil)

/-- C02's `printer_respects_separation`: no two spellings that a layout may write without a separator can merge or split
    differently, every spelling lexes cleanly on its own, every identifier is an identifier. -/
theorem itemsOk_fileItems (f : SFile) (h : fileOk f = true) : itemsOk (fileItems f) = true := by
  obtain ⟨st', hrun, _⟩ := runs_file f h ⟨false, .closed⟩ ⟨rfl, by simp⟩
  simp [itemsOk, hrun]

end Slicec.SLex
