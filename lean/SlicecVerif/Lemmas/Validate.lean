/-
  Helper lemmas for C04: the list algorithms the validators use (hash-map scan, sort-and-window, split_last)
  against their declarative meaning, and the plumbing of rules / phases.
-/
import SlicecVerif.Model.Validate

namespace Slicec.Validate

open Slicec

theorem count_repeats {α} [BEq α] [LawfulBEq α] (a : α) : ∀ (xs s : List α),
    (repeats s xs).count a = if s.contains a then xs.count a else xs.count a - 1 := by
  intro xs
  induction xs with
  | nil => intro s; simp [repeats]
  | cons x xs ih =>
    intro s
    unfold repeats
    by_cases hxa : x = a
    · subst hxa
      by_cases hx : x ∈ s
      · simp [hx, ih]
      · simp [hx, ih]
    · have h1 : (x == a) = false := by simpa using hxa
      have h2 : (a == x) = false := by simpa using fun e : a = x => hxa e.symm
      by_cases hx : x ∈ s
      · simp [hx, ih, List.count_cons, h1]
      · simp [hx, ih, List.count_cons, h1, h2]

theorem repeats_nil_iff {α} [BEq α] [LawfulBEq α] (xs : List α) :
    ∀ seen : List α, repeats seen xs = [] ↔ xs.Nodup ∧ ∀ x ∈ xs, x ∉ seen := by
  intro seen
  have key : repeats seen xs = [] ↔ ∀ a, (if seen.contains a then xs.count a else xs.count a - 1) = 0 := by
    rw [List.eq_nil_iff_forall_not_mem]
    exact forall_congr' fun a => by rw [← List.count_eq_zero, count_repeats]
  rw [key, List.nodup_iff_count]
  constructor
  · intro h
    refine ⟨fun a => ?_, fun x hx hs => ?_⟩
    · have := h a
      split at this
      · exact this ▸ Nat.zero_le _
      · exact Nat.le_of_sub_eq_zero this
    · have := h x
      rw [if_pos (List.contains_iff_mem.mpr hs)] at this
      exact Nat.ne_of_gt (List.count_pos_iff.mpr hx) this
  · intro ⟨h1, h2⟩ a
    split
    · rename_i hs
      exact List.count_eq_zero.mpr fun hx => h2 a hx (List.contains_iff_mem.mp hs)
    · exact Nat.sub_eq_zero_of_le (h1 a)

theorem repeats_nil_iff_nodup {α} [BEq α] [LawfulBEq α] (xs : List α) : repeats [] xs = [] ↔ xs.Nodup := by
  rw [repeats_nil_iff]; simp

/-- `ins` inserts in front of the first element the test `c x ·` accepts: the shape of `insertSorted` and `insertSortedS` -/
theorem ins_perm_sorted {α} {c le : α → α → Prop} [DecidableRel c] (ins : α → List α → List α)
    (hnil : ∀ x, ins x [] = [x]) (hcons : ∀ x y ys, ins x (y :: ys) = if c x y then x :: y :: ys else y :: ins x ys)
    (htrans : ∀ a b d, le a b → le b d → le a d) (hc : ∀ x y, c x y → le x y) (hnc : ∀ x y, ¬ c x y → le y x) (x : α) :
    ∀ l : List α, (ins x l).Perm (x :: l) ∧ (l.Pairwise le → (ins x l).Pairwise le)
  | [] => by rw [hnil]; exact ⟨.refl _, fun _ => List.pairwise_singleton _ _⟩
  | y :: ys => by
    obtain ⟨ihp, ihs⟩ := ins_perm_sorted ins hnil hcons htrans hc hnc x ys
    rw [hcons]
    split
    · rename_i hxy
      exact ⟨.refl _, fun h => List.pairwise_cons.mpr ⟨fun z hz => (List.mem_cons.mp hz).elim (· ▸ hc _ _ hxy)
        fun hz => htrans _ _ _ (hc _ _ hxy) ((List.pairwise_cons.mp h).1 z hz), h⟩⟩
    · rename_i hxy
      refine ⟨(ihp.cons y).trans (.swap x y ys), fun h => ?_⟩
      rw [List.pairwise_cons] at h
      exact List.pairwise_cons.mpr ⟨fun z hz => (List.mem_cons.mp (ihp.mem_iff.mp hz)).elim (· ▸ hnc _ _ hxy) (h.1 z), ihs h.2⟩

theorem insertSorted_spec (x : Nat) (l : List Nat) :
    (insertSorted x l).Perm (x :: l) ∧ (l.Pairwise (· ≤ ·) → (insertSorted x l).Pairwise (· ≤ ·)) :=
  ins_perm_sorted (c := (· < ·)) (le := (· ≤ ·)) insertSorted (fun _ => rfl) (fun _ _ _ => rfl) (fun _ _ _ => Nat.le_trans)
    (fun _ _ => Nat.le_of_lt) (fun _ _ => Nat.le_of_not_lt) x l

theorem sortNat_perm : ∀ l : List Nat, (sortNat l).Perm l
  | [] => .refl _
  | x :: xs => (insertSorted_spec x (sortNat xs)).1.trans ((sortNat_perm xs).cons x)

theorem sortNat_sorted : ∀ l : List Nat, (sortNat l).Pairwise (· ≤ ·)
  | [] => .nil
  | x :: xs => (insertSorted_spec x (sortNat xs)).2 (sortNat_sorted xs)

theorem windowDups_nil_iff (l : List Nat) (h : l.Pairwise (· ≤ ·)) : windowDups l = [] ↔ l.Nodup := by
  induction l with
  | nil => simp [windowDups]
  | cons a t ih =>
    cases t with
    | nil => simp [windowDups]
    | cons b rest =>
      rw [List.pairwise_cons] at h
      have ih' := ih h.2
      have hab : a ≤ b := h.1 b (by simp)
      have hb := (List.pairwise_cons.mp h.2).1
      unfold windowDups
      rw [List.append_eq_nil_iff, ih']
      constructor
      · intro ⟨h1, h2⟩
        refine List.nodup_cons.mpr ⟨?_, h2⟩
        have hne : a ≠ b := by
          intro e; subst e; simp at h1
        intro hm
        rcases List.mem_cons.mp hm with e | hm
        · exact hne e
        · have := hb a hm; omega
      · intro hn
        obtain ⟨h1, h2⟩ := List.nodup_cons.mp hn
        refine ⟨?_, h2⟩
        have hne : a ≠ b := fun e => h1 (by simp [e])
        simp [hne]

theorem stream_checks_nil_iff (ss : List Bool) :
    streamLastCheck ss ++ multiStreamCheck ss = [] ↔ ∀ b ∈ ss.dropLast, b = false := by
  unfold streamLastCheck multiStreamCheck
  rcases List.eq_nil_or_concat ss with rfl | ⟨L, b, rfl⟩
  · simp
  · simp only [List.concat_eq_append, List.dropLast_concat, List.append_eq_nil_iff, List.map_eq_nil_iff, List.filter_eq_nil_iff]
    constructor
    · intro ⟨h, _⟩ x hx; simpa using h x hx
    · intro h
      have hL : L.filter id = [] := by
        rw [List.filter_eq_nil_iff]; intro x hx; simp [h x hx]
      refine ⟨fun x hx => by simp [h x hx], ?_⟩
      simp only [List.filter_append, hL, List.nil_append]
      cases b <;> simp

theorem dropLast_all_false_iff (ss : List Bool) :
    (∀ b ∈ ss.dropLast, b = false) ↔ ∀ i, ss[i]? = some true → i + 1 = ss.length := by
  rcases List.eq_nil_or_concat ss with rfl | ⟨L, b, rfl⟩
  · simp
  · simp only [List.concat_eq_append, List.dropLast_concat, List.length_append, List.length_cons, List.length_nil]
    constructor
    · intro h i hi
      rcases Nat.lt_or_ge i L.length with hl | hl
      · rw [List.getElem?_append_left hl] at hi
        have hm : true ∈ L := List.mem_of_getElem? hi
        exact absurd (h true hm) (by simp)
      · obtain ⟨hlt, _⟩ := List.getElem?_eq_some_iff.mp hi
        simp at hlt; omega
    · intro h x hx
      cases x with
      | false => rfl
      | true =>
        obtain ⟨i, hi, hxi⟩ := List.mem_iff_getElem.mp hx
        have : (L ++ [b])[i]? = some true := by
          rw [List.getElem?_append_left hi, List.getElem?_eq_getElem hi, hxi]
        have := h i this
        omega

theorem keyCheck_none_iff (env : KEnv) : ∀ (n : Nat) (k : KRef), keyCheck env n k = none ↔ legalKeyB env n k = true := by
  intro n
  induction n with
  | zero => intro k; simp [keyCheck, legalKeyB]
  | succ n ih =>
    intro k
    unfold keyCheck legalKeyB
    cases hopt : k.opt with
    | true => simp
    | false =>
      simp only [Bool.false_eq_true, if_false, Bool.not_false, Bool.true_and]
      cases hty : k.ty with
      | prim p => cases h : legalKeyPrim p <;> simp [h]
      | custom => simp
      | anon => simp
      | other => simp
      | «enum» key => cases h : env.enumBacked key <;> simp [h]
      | «struct» key =>
        cases hs : env.structOf key with
        | none => simp [hs]
        | some cf =>
          obtain ⟨compact, fields⟩ := cf
          have hf : (List.filterMap (keyCheck env n) fields).isEmpty = true ↔ fields.all (legalKeyB env n) = true := by
            rw [List.isEmpty_iff, List.filterMap_eq_nil_iff, List.all_eq_true]
            exact ⟨fun h x hx => (ih x).mp (h x hx), fun h x hx => (ih x).mpr (h x hx)⟩
          cases compact with
          | false => simp [hs]
          | true =>
            simp only [hs, Bool.not_true, Bool.false_eq_true, if_false, Bool.true_and]
            rw [← hf]
            cases (List.filterMap (keyCheck env n) fields).isEmpty <;> simp

theorem legalKeyB_sound (env : KEnv) : ∀ (n : Nat) (k : KRef), legalKeyB env n k = true → LegalKey env k := by
  intro n
  induction n with
  | zero => intro k h; simp [legalKeyB] at h
  | succ n ih =>
    intro k h
    obtain ⟨opt, ty⟩ := k
    unfold legalKeyB at h
    simp only [Bool.and_eq_true, Bool.not_eq_true'] at h
    obtain ⟨ho, h⟩ := h
    have ho' : opt = false := ho
    subst ho'
    cases ty with
    | prim p => exact LegalKey.prim p h
    | custom => exact LegalKey.custom
    | anon => simp at h
    | other => simp at h
    | «enum» key => exact LegalKey.enum key h
    | «struct» key =>
      cases hs : env.structOf key with
      | none => simp [hs] at h
      | some cf =>
        obtain ⟨compact, fields⟩ := cf
        simp only [hs, Bool.and_eq_true, List.all_eq_true] at h
        obtain ⟨hc, hf⟩ := h
        subst hc
        exact LegalKey.struct key fields hs (fun f hf' => ih f (hf f hf'))

def krank (rank : String → Nat) (k : KRef) : Nat :=
  match k.ty with
  | .struct key => rank key + 1
  | _ => 0

/-- the ranking decreases from a compact struct to the structs its fields name: the struct graph is acyclic -/
def Ranked (env : KEnv) (rank : String → Nat) : Prop :=
  ∀ key fields, env.structOf key = some (true, fields) → ∀ f ∈ fields, krank rank f ≤ rank key

theorem legalKeyB_complete (env : KEnv) (rank : String → Nat) (hr : Ranked env rank) (k : KRef) (h : LegalKey env k) :
    ∀ n, krank rank k < n → legalKeyB env n k = true := by
  induction h with
  | prim p hp => intro n hn; cases n with | zero => omega | succ n => simp [legalKeyB, hp]
  | custom => intro n hn; cases n with | zero => omega | succ n => simp [legalKeyB]
  | «enum» key hk => intro n hn; cases n with | zero => omega | succ n => simp [legalKeyB, hk]
  | «struct» key fields hs _ ih =>
    intro n hn
    cases n with
    | zero => omega
    | succ n =>
      simp only [krank] at hn
      simp only [legalKeyB, hs, Bool.not_false, Bool.true_and, List.all_eq_true]
      intro f hf
      exact ih f hf n (by have := hr key fields hs f hf; omega)

def RuleOK (r : Rule) : Prop :=
  (∀ x, r.check x = [] ↔ r.Spec x) ∧ (∀ x c, c ∈ r.check x → ∃ k ∈ r.kinds, c = code k)

theorem rule_codes_nil_iff {r : Rule} (h : RuleOK r) (P : Program) : r.codes P = [] ↔ r.Holds P := by
  unfold Rule.codes Rule.Holds
  rw [List.flatMap_eq_nil_iff]
  exact ⟨fun hh x hx => (h.1 x).mp (hh x hx), fun hh x hx => (h.1 x).mpr (hh x hx)⟩

theorem rule_codes_sound {r : Rule} (h : RuleOK r) (P : Program) (c : String) (hc : c ∈ r.codes P) :
    (∃ k ∈ r.kinds, c = code k) ∧ ¬ r.Holds P := by
  unfold Rule.codes at hc
  obtain ⟨x, hx, hcx⟩ := List.mem_flatMap.mp hc
  refine ⟨h.2 x c hcx, ?_⟩
  intro hh
  have := (h.1 x).mpr (hh x hx)
  rw [this] at hcx; cases hcx

theorem rules_codes_nil_iff {rs : List Rule} (h : ∀ r ∈ rs, RuleOK r) (P : Program) :
    rs.flatMap (·.codes P) = [] ↔ ∀ r ∈ rs, r.Holds P :=
  List.flatMap_eq_nil_iff.trans (forall_congr' fun r => forall_congr' fun hr => rule_codes_nil_iff (h r hr) P)

theorem rules_codes_sound {rs : List Rule} (h : ∀ r ∈ rs, RuleOK r) (P : Program) (c : String)
    (hc : c ∈ rs.flatMap (·.codes P)) : ∃ r ∈ rs, (∃ k ∈ r.kinds, c = code k) ∧ ¬ r.Holds P :=
  let ⟨r, hr, hcr⟩ := List.mem_flatMap.mp hc
  ⟨r, hr, rule_codes_sound (h r hr) P c hcr⟩

theorem phases_flatten (P : Program) :
    (phases P).flatten = parseCodes P ++ (gatedRules Gen.unvisitedTypeRefAttrsValidated).flatMap (·.codes P) := by
  simp [phases, gatedRules]

theorem firstNonEmpty_nil_iff (ls : List (List String)) : firstNonEmpty ls = [] ↔ ∀ l ∈ ls, l = [] := by
  induction ls with
  | nil => simp [firstNonEmpty]
  | cons l rest ih =>
    rw [List.forall_mem_cons, ← ih]
    cases l <;> simp [firstNonEmpty]

theorem firstNonEmpty_mem (ls : List (List String)) (c : String) (h : c ∈ firstNonEmpty ls) : ∃ l ∈ ls, c ∈ l := by
  induction ls with
  | nil => cases h
  | cons l rest ih =>
    unfold firstNonEmpty at h
    split at h
    · obtain ⟨l', hl', hc⟩ := ih h; exact ⟨l', List.mem_cons_of_mem _ hl', hc⟩
    · exact ⟨l, List.mem_cons_self .., h⟩

theorem firstNonEmpty_eq (pre : List (List String)) (l : List String) (post : List (List String))
    (hpre : ∀ x ∈ pre, x = []) (hl : l ≠ []) : firstNonEmpty (pre ++ l :: post) = l := by
  induction pre with
  | nil =>
    cases l with
    | nil => exact absurd rfl hl
    | cons => rfl
  | cons p pre ih =>
    obtain rfl := hpre p (List.mem_cons_self ..)
    exact ih fun x hx => hpre x (List.mem_cons_of_mem _ hx)

end Slicec.Validate
