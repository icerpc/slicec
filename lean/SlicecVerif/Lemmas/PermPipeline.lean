/-
  Order independence of the three checks `validateFull` adds to `validate` (for Props/C15.lean).

  * the shape check is per file: its codes are permuted with the files;
  * the inheritance check: C05's model numbers the interfaces in AST order (positions). With pairwise distinct definition keys
    "the key at position `i`" carries the inheritance graph on positions onto the graph on KEYS (`Validate.directBases`, the
    by-name graph the shadowing rule of C04 already walks), step for step (`igStep_iff`, `igReach_iff`); so a position lies on
    a loop exactly when its key does, and the graph on keys is the same function for both orders;
  * the alias gate: C05's model numbers the anonymous types written in alias definitions in AST order. In a program whose
    references resolve and whose definition keys are distinct, the gate reports alias `a` exactly when the flattening descent
    into `a`'s underlying type does not end (`trefWithin`, the table-driven descent; the count of reports is
    `aliasGateErrors_length`; both in Lemmas/AliasGraph.lean), and the descent is the same function on both tables.
  For both gates the NUMBER of reports is position-free and order independent; the verdict is the case "none".
-/
import SlicecVerif.Lemmas.Accepted
import SlicecVerif.Lemmas.PermValidate
import SlicecVerif.Lemmas.Pipeline

namespace Slicec

open Slicec.Validate

theorem parseCodesFull_perm {P P' : Program} (hp : P.Perm P') : (parseCodesFull P).Perm (parseCodesFull P') :=
  hp.flatMap_right _

/-- reachability in one or more steps of a relation `R` on keys: the order-free side of C15's `inheritance_loop_iff_key_loop`,
    with `R := BaseStep P` (a loop through a key `k` is `KReach (BaseStep P) k k`) -/
inductive KReach (R : String → String → Prop) : String → String → Prop
  | single {a b} : R a b → KReach R a b
  | cons {a b c} : R a b → KReach R b c → KReach R a c

theorem KReach.head {R : String → String → Prop} {a c : String} (h : KReach R a c) : ∃ b, R a b := by
  cases h with
  | single h => exact ⟨_, h⟩
  | cons h _ => exact ⟨_, h⟩

def BaseStep (P : Program) (a b : String) : Prop := b ∈ directBases P (buildTable P) a

def iKeys (P : Program) : List String := (Cyc.ifaceDefs P).map (·.1)

theorem igraph_length (P : Program) : (Cyc.igraphOfProgram P).length = (iKeys P).length := by
  unfold Cyc.igraphOfProgram iKeys
  simp only [List.length_map]

theorem BaseStep.mem_iKeys {P : Program} {a b : String} (h : BaseStep P a b) : a ∈ iKeys P := by
  unfold BaseStep at h
  rw [directBases_eq] at h
  split at h
  · rename_i ms doc attrs name bases ops hf
    obtain ⟨hm, hk⟩ := findDef_mem P a _ hf
    exact List.mem_map.mpr ⟨_, allDefs_mem_ifaceDefs P ms doc attrs name bases ops hm, hk⟩
  · cases h

theorem baseStep_iff (P : Program) (hnd : ((allDefs P).map defKey).Nodup) {a ms : String} {bases : List TRef}
    (h : (a, ms, bases) ∈ Cyc.ifaceDefs P) (b : String) :
    BaseStep P a b ↔ ∃ b0 ∈ bases, baseKeyOf (buildTable P) ms b0 = some b := by
  obtain ⟨doc, attrs, name, ops, hall, hkey⟩ := ifaceDefs_mem_allDefs P a ms bases h
  have hfd := findDef_of_mem P hnd _ hall
  rw [hkey] at hfd
  unfold BaseStep
  rw [directBases_eq, hfd]
  exact List.mem_filterMap

theorem igraph_get (P : Program) (i : Nat) (k ms : String) (bases : List TRef) (h : (Cyc.ifaceDefs P)[i]? = some (k, ms, bases)) :
    (Cyc.igraphOfProgram P)[i]? = some (bases.filterMap fun b =>
      (baseKeyOf (buildTable P) ms b).bind fun key => if (iKeys P).contains key then some ((iKeys P).idxOf key) else none) := by
  unfold Cyc.igraphOfProgram
  simp only [List.getElem?_map, h, Option.map_some, Option.some.injEq]
  congr 1
  funext b
  unfold baseKeyOf iKeys
  cases b.ty with
  | named id =>
    simp only
    cases resolveNamed (buildTable P) .interface id ms with
    | error e => rfl
    | ok v =>
      obtain ⟨tgt, extra⟩ := v
      cases tgt <;> rfl
  | _ => rfl

/-- the position graph stores `(iKeys P).idxOf key` for the key of each base, and with distinct definition keys both graphs read
    the bases off the same definition -/
theorem igStep_iff (P : Program) (hnd : ((allDefs P).map defKey).Nodup) (i j : Nat) :
    Cyc.EStep (Cyc.igEdges (Cyc.igraphOfProgram P)) i j ↔
      ∃ a b, (iKeys P)[i]? = some a ∧ (iKeys P)[j]? = some b ∧ BaseStep P a b := by
  have hknd : (iKeys P).Nodup := (ifaceKeys_sublist P).nodup hnd
  rw [Cyc.igEdges_step, Cyc.mem_ibases]
  cases hi : (Cyc.ifaceDefs P)[i]? with
  | none => simp only [Cyc.igraphOfProgram, iKeys, List.getElem?_map, hi, Option.map_none, reduceCtorEq, false_and, exists_false]
  | some e =>
    obtain ⟨a, ms, bases⟩ := e
    have hk : (iKeys P)[i]? = some a := by simp only [iKeys, List.getElem?_map, hi, Option.map_some]
    have hstep := baseStep_iff P hnd (List.mem_of_getElem? hi)
    simp only [igraph_get P i a ms bases hi, Option.some.injEq, exists_eq_left', List.mem_filterMap]
    constructor
    · rintro ⟨⟨b0, hb0, hj⟩, _⟩
      obtain ⟨b, hkb, hj⟩ := Option.bind_eq_some_iff.mp hj
      obtain ⟨hc, hj⟩ := Option.ite_none_right_eq_some.mp hj
      cases hj
      exact ⟨a, b, hk, (getElem?_eq_some_iff_idxOf hknd).mpr ⟨by simpa using hc, rfl⟩, (hstep b).mpr ⟨b0, hb0, hkb⟩⟩
    · rintro ⟨a', b, ha', hb, hab⟩
      cases hk.symm.trans ha'
      obtain ⟨hbm, rfl⟩ := (getElem?_eq_some_iff_idxOf hknd).mp hb
      obtain ⟨b0, hb0, hkb⟩ := (hstep b).mp hab
      refine ⟨⟨b0, hb0, ?_⟩, ?_⟩
      · rw [hkb, Option.bind_some, if_pos (by simpa using hbm)]
      · rw [igraph_length]
        simpa using List.idxOf_lt_length_of_mem hbm

theorem igReach_iff (P : Program) (hnd : ((allDefs P).map defKey).Nodup) (i j : Nat) :
    Cyc.EReach (Cyc.igEdges (Cyc.igraphOfProgram P)) i j ↔
      ∃ a b, (iKeys P)[i]? = some a ∧ (iKeys P)[j]? = some b ∧ KReach (BaseStep P) a b := by
  constructor
  · intro h
    induction h with
    | single hs =>
      obtain ⟨a, b, ha, hb, hab⟩ := (igStep_iff P hnd _ _).mp hs
      exact ⟨a, b, ha, hb, .single hab⟩
    | cons hs _ ih =>
      obtain ⟨a, b, ha, hb, hab⟩ := (igStep_iff P hnd _ _).mp hs
      obtain ⟨b', c, hb', hc, hbc⟩ := ih
      cases hb.symm.trans hb'
      exact ⟨a, c, ha, hc, .cons hab hbc⟩
  · rintro ⟨a, b, ha, hb, h⟩
    induction h generalizing i with
    | single hs => exact .single ((igStep_iff P hnd _ _).mpr ⟨_, _, ha, hb, hs⟩)
    | cons hs hr ih =>
      obtain ⟨c, hc⟩ := hr.head
      obtain ⟨m, hm⟩ := List.getElem?_of_mem hc.mem_iKeys
      exact .cons ((igStep_iff P hnd _ _).mpr ⟨_, _, ha, hm, hs⟩) (ih m hm hb)

theorem igLoop_iff (P : Program) (hnd : ((allDefs P).map defKey).Nodup) {i : Nat} {a : String} (ha : (iKeys P)[i]? = some a) :
    Cyc.EReach (Cyc.igEdges (Cyc.igraphOfProgram P)) i i ↔ KReach (BaseStep P) a a := by
  rw [igReach_iff P hnd]
  refine ⟨fun ⟨a', b', ha', hb', h⟩ => ?_, fun h => ⟨a, a, ha, ha, h⟩⟩
  cases ha.symm.trans ha'
  cases ha.symm.trans hb'
  exact h

open Classical in
theorem ifaceLoopErrors_length (P : Program) (hnd : ((allDefs P).map defKey).Nodup) :
    (Cyc.ifaceLoopErrors (Cyc.igraphOfProgram P)).length =
      (Cyc.ifaceDefs P).countP fun d => decide (KReach (BaseStep P) d.1 d.1) := by
  unfold Cyc.ifaceLoopErrors
  rw [List.length_filterMap_eq_countP, List.countP_eq_length_filter]
  rw [igraph_length, iKeys, List.length_map]
  apply filter_range_length
  intro i hi
  have hki : (iKeys P)[i]? = some (Cyc.ifaceDefs P)[i].1 := by
    simp only [iKeys, List.getElem?_map, List.getElem?_eq_getElem hi, Option.map_some]
  rw [Option.isSome_map, Bool.eq_iff_iff, decide_eq_true_iff, Cyc.checkInterface_isSome_iff]
  exact igLoop_iff P hnd hki

theorem ifaceDefs_perm {P P' : Program} (hp : P.Perm P') : (Cyc.ifaceDefs P).Perm (Cyc.ifaceDefs P') :=
  hp.flatMap_right _

theorem baseStep_fun {P P' : Program} (he : SameEnv P P') : BaseStep P = BaseStep P' := by
  funext a b
  unfold BaseStep
  rw [directBases_fun he]

theorem defKeys_nodup_perm {P P' : Program} (hp : P.Perm P') (h : ((allDefs P).map defKey).Nodup) :
    ((allDefs P').map defKey).Nodup :=
  (((allDefs_perm hp).map defKey).nodup_iff).mp h

theorem ifaceLoopErrors_length_perm {P P' : Program} (hp : P.Perm P') (he : SameEnv P P')
    (hnd : ((allDefs P).map defKey).Nodup) :
    (Cyc.ifaceLoopErrors (Cyc.igraphOfProgram P)).length = (Cyc.ifaceLoopErrors (Cyc.igraphOfProgram P')).length := by
  rw [ifaceLoopErrors_length P hnd, ifaceLoopErrors_length P' (defKeys_nodup_perm hp hnd), (ifaceDefs_perm hp).countP_eq,
    baseStep_fun he]

theorem ifaceLoop_nil_perm {P P' : Program} (hp : P.Perm P') (he : SameEnv P P') (hnd : ((allDefs P).map defKey).Nodup) :
    Cyc.ifaceLoopErrors (Cyc.igraphOfProgram P) = [] ↔ Cyc.ifaceLoopErrors (Cyc.igraphOfProgram P') = [] := by
  rw [← List.length_eq_zero_iff, ← List.length_eq_zero_iff, ifaceLoopErrors_length_perm hp he hnd]

theorem flat_sim (t1 t2 : Table) (h : TableSim t1 t2) (scope : String) (r : TRef) : r.flat t1 scope = r.flat t2 scope := by
  obtain ⟨a, ty, o⟩ := r
  cases ty with
  | named id =>
    simp only [TRef.flat]
    rcases resolveNamed_sim_cases t1 t2 h .type id scope with e | ⟨m1, m2, a, r1, r2, _⟩
    · rw [e]
    · rw [r1, r2]
  | _ => rfl

theorem within_sim (t1 t2 : Table) (h : TableSim t1 t2) : ∀ fuel : Nat,
    (∀ (scope : String) (r : TRef), trefWithin t1 scope fuel r = trefWithin t2 scope fuel r) ∧
    (∀ (scope : String) (e : TyExpr), tyWithin t1 scope fuel e = tyWithin t2 scope fuel e) := by
  intro fuel
  induction fuel with
  | zero => exact ⟨fun _ _ => by simp [trefWithin], fun _ _ => by simp [tyWithin]⟩
  | succ fuel ih =>
    obtain ⟨ihT, ihE⟩ := ih
    constructor
    · intro scope r
      rw [Bool.eq_iff_iff, trefWithin_succ, trefWithin_succ, flat_sim t1 t2 h]
      simp only [ihE]
    · intro scope e
      rw [tyWithin_succ, tyWithin_succ]
      exact List.all_congr rfl (ihT scope)

theorem trefWithin_fun (t1 t2 : Table) (h : TableSim t1 t2) : trefWithin t1 = trefWithin t2 := by
  funext scope fuel r
  exact (within_sim t1 t2 h fuel).1 scope r

theorem aliasDefs_perm {P P' : Program} (hp : P.Perm P') : (Cyc.aliasDefs P).Perm (Cyc.aliasDefs P') :=
  hp.flatMap_right _

/-- `hr`: the gate is only reached when the references resolve -/
theorem aliasGateErrors_length_perm {P P' : Program} (hp : P.Perm P') (he : SameEnv P P')
    (hnd : ((allDefs P).map defKey).Nodup) (hr : resolveCodes P = []) :
    (Cyc.aliasGateErrors P).length = (Cyc.aliasGateErrors P').length := by
  have hr' := resolveCodes_perm hp he
  rw [hr, List.nil_perm] at hr'
  rw [aliasGateErrors_length P (.of_defKeys hnd) (.of_codes hr),
    aliasGateErrors_length P' (.of_defKeys (defKeys_nodup_perm hp hnd)) (.of_codes hr')]
  rw [(aliasDefs_perm hp).countP_eq, trefWithin_fun _ _ (he.table)]

theorem aliasGate_nil_perm {P P' : Program} (hp : P.Perm P') (he : SameEnv P P') (hacc : validate P = []) :
    Cyc.aliasGateErrors P = [] ↔ Cyc.aliasGateErrors P' = [] := by
  rw [← List.length_eq_zero_iff, ← List.length_eq_zero_iff, aliasGateErrors_length_perm hp he (accepted_defKeys_nodup P hacc)
    (validate_nil_resolve P hacc)]

theorem map_const_perm {α β} (l l' : List α) (c : β) (h : l.length = l'.length) :
    (l.map fun _ => c).Perm (l'.map fun _ => c) := by
  rw [List.map_const', List.map_const', h]

/-- the definition keys are to be pairwise distinct because the two gates are modelled on positions -/
theorem validateFull_perm {P P' : Program} (hp : P.Perm P') (he : SameEnv P P') (hnd : ((allDefs P).map defKey).Nodup) :
    (validateFull P).Perm (validateFull P') := by
  unfold validateFull phasesFull
  refine firstNonEmpty_cons_perm (parseCodesFull_perm hp) ?_
  refine firstNonEmpty_cons_perm (attrPatch_codes_perm hp) ?_
  refine firstNonEmpty_cons_perm' (resolve_codes_perm hp he) ?_
  intro hr
  have hr0 : resolveCodes P = [] := by simpa [Rule.codes, resolveRule] using hr
  refine firstNonEmpty_cons_perm (map_const_perm _ _ _ (aliasGateErrors_length_perm hp he hnd hr0)) ?_
  refine firstNonEmpty_cons_perm
    ((map_const_perm _ _ _ (ifaceLoopErrors_length_perm hp he hnd)).append (cycle_codes_perm hp he)) ?_
  refine firstNonEmpty_cons_perm (names_codes_perm P P' hp) ?_
  refine firstNonEmpty_cons_perm (visitor_codes_perm _ hp he) ?_
  exact List.Perm.refl _

theorem validateFull_nil_perm {P P' : Program} (hp : P.Perm P') (he : SameEnv P P') (h : validateFull P = []) :
    validateFull P' = [] := by
  have hperm := validateFull_perm hp he (accepted_defKeys_nodup P ((validateFull_nil_iff P).mp h).1)
  rw [h] at hperm
  exact hperm.nil_eq.symm

end Slicec
