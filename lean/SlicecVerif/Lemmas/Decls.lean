/-
  The definitions of a program as a list (`Validate.allDefs`, of which C05's `Cyc.aliasDefs` and `Cyc.ifaceDefs` are selections
  that keep the key) and their entries in the name table, for the groups that need both (DESIGN.md §13.6). The module scope of
  a file is one function written several times in the model (`SFile.modPath`, `Validate.fileScope`, `fileModScope` of the
  lints, `Visit.fileScope`, and inline in `Cyc.typeDefs`, `programRefs`, `aliasDefs`, `ifaceDefs`); the one equation stated
  here is `fileScope_eq_modPath` (`Validate.fileScope f = f.modPath`).
-/
import SlicecVerif.Model.Validate
import SlicecVerif.Lemmas.Resolve
import SlicecVerif.Model.Cycles

namespace Slicec

open Slicec.Validate

theorem fileScope_eq_modPath (f : SFile) : Validate.fileScope f = f.modPath := rfl

def Validate.fileDefs (f : SFile) : List (String × Def) := f.defs.map fun d => (fileScope f, d)

theorem Validate.allDefs_eq (P : Program) : allDefs P = P.flatMap fileDefs := rfl

theorem mem_allDefs {P : Program} {sd : String × Def} : sd ∈ allDefs P ↔ ∃ f ∈ P, ∃ d ∈ f.defs, sd = (f.modPath, d) := by
  simp only [allDefs, List.mem_flatMap, List.mem_map, fileScope_eq_modPath, eq_comm]

theorem mem_allDefs_of {P : Program} {f : SFile} {d : Def} (hf : f ∈ P) (hd : d ∈ f.defs) : (f.modPath, d) ∈ allDefs P :=
  mem_allDefs.mpr ⟨f, hf, d, hd, rfl⟩

/-- the shape of `Cyc.typeDefs`, `Cyc.aliasDefs` and `Cyc.ifaceDefs`: a selection from `allDefs`, file by file -/
theorem flatMap_defs_filterMap {β} (sel : String × Def → Option β) (P : Program) :
    (P.flatMap fun f => f.defs.filterMap fun d => sel (f.modPath, d)) = (allDefs P).filterMap sel := by
  simp only [allDefs, List.filterMap_flatMap, List.filterMap_map, fileScope_eq_modPath, Function.comp_def]

def Keyed {β} (sel : String × Def → Option (String × β)) : Prop := ∀ sd x, sel sd = some x → x.1 = defKey sd

theorem Keyed.sublist {β} {sel : String × Def → Option (String × β)} (h : Keyed sel) (P : Program) :
    (((allDefs P).filterMap sel).map (·.1)).Sublist ((allDefs P).map defKey) := by
  rw [List.map_filterMap]
  exact filterMap_sublist_map _ _ (fun sd k hk => by
    obtain ⟨x, hx, rfl⟩ := Option.map_eq_some_iff.mp hk
    exact h sd x hx) _

/-- an alias definition as `Cyc.aliasDefs` lists it: key, module scope, underlying type -/
def aliasEntry : String × Def → Option (String × String × TRef)
  | (ms, .alias _ _ name ty) => some (scopedId name ms, ms, ty)
  | _ => none

/-- an interface definition as `Cyc.ifaceDefs` lists it: key, module scope, written bases -/
def ifaceEntry : String × Def → Option (String × String × List TRef)
  | (ms, .iface _ _ name bases _) => some (scopedId name ms, ms, bases)
  | _ => none

theorem aliasDefs_eq (P : Program) : Cyc.aliasDefs P = (allDefs P).filterMap aliasEntry := by
  rw [← flatMap_defs_filterMap]
  unfold Cyc.aliasDefs
  dsimp only
  congr 1; funext f; congr 1; funext d
  cases d <;> rfl

theorem ifaceDefs_eq (P : Program) : Cyc.ifaceDefs P = (allDefs P).filterMap ifaceEntry := by
  rw [← flatMap_defs_filterMap]
  unfold Cyc.ifaceDefs
  dsimp only
  congr 1; funext f; congr 1; funext d
  cases d <;> rfl

theorem aliasEntry_keyed : Keyed aliasEntry := by
  rintro ⟨ms, d⟩ x h
  cases d <;> cases h
  rfl

theorem ifaceEntry_keyed : Keyed ifaceEntry := by
  rintro ⟨ms, d⟩ x h
  cases d <;> cases h
  rfl

theorem aliasKeys_sublist (P : Program) :
    ((Cyc.aliasDefs P).map (·.1)).Sublist ((Validate.allDefs P).map Validate.defKey) :=
  aliasDefs_eq P ▸ aliasEntry_keyed.sublist P

theorem ifaceKeys_sublist (P : Program) :
    ((Cyc.ifaceDefs P).map (·.1)).Sublist ((allDefs P).map defKey) :=
  ifaceDefs_eq P ▸ ifaceEntry_keyed.sublist P

theorem mem_aliasDefs {p : Program} {k s : String} {u : TRef} (h : (k, s, u) ∈ Cyc.aliasDefs p) :
    ∃ f ∈ p, ∃ doc attrs name, Def.alias doc attrs name u ∈ f.defs ∧ s = f.modPath ∧ k = scopedId name f.modPath := by
  rw [aliasDefs_eq] at h
  obtain ⟨⟨ms, d⟩, hm, he⟩ := List.mem_filterMap.mp h
  obtain ⟨f, hf, d', hd, hsd⟩ := mem_allDefs.mp hm
  cases hsd
  cases d <;> cases he
  exact ⟨f, hf, _, _, _, hd, rfl, rfl⟩

theorem ifaceDefs_mem_allDefs (P : Program) (k ms : String) (bases : List TRef) (h : (k, ms, bases) ∈ Cyc.ifaceDefs P) :
    ∃ doc attrs name ops, (ms, Def.iface doc attrs name bases ops) ∈ allDefs P ∧
      defKey (ms, Def.iface doc attrs name bases ops) = k := by
  rw [ifaceDefs_eq] at h
  obtain ⟨⟨ms', d⟩, hm, he⟩ := List.mem_filterMap.mp h
  cases d <;> cases he
  exact ⟨_, _, _, _, hm, rfl⟩

theorem allDefs_mem_ifaceDefs (P : Program) (ms : String) (doc : List String) (attrs : List Attr) (name : String)
    (bases : List TRef) (ops : List Op) (h : (ms, Def.iface doc attrs name bases ops) ∈ allDefs P) :
    (scopedId name ms, ms, bases) ∈ Cyc.ifaceDefs P :=
  ifaceDefs_eq P ▸ List.mem_filterMap.mpr ⟨_, h, rfl⟩

theorem findDef_of_mem (P : Program) (hnd : ((allDefs P).map defKey).Nodup) (sd : String × Def) (h : sd ∈ allDefs P) :
    findDef P (defKey sd) = some sd :=
  find?_of_unique (List.mem_reverse.mpr h) (beq_self_eq_true _) fun _ hy hk =>
    eq_of_nodup_map defKey hnd (List.mem_reverse.mp hy) h (eq_of_beq hk)

theorem findDef_mem (P : Program) (k : String) (sd : String × Def) (h : findDef P k = some sd) :
    sd ∈ allDefs P ∧ defKey sd = k :=
  ⟨List.mem_reverse.mp (List.mem_of_find?_eq_some h), eq_of_beq (List.find?_some (p := fun sd => defKey sd == k) h)⟩

theorem buildTable_origin (p : Program) (e : String × NodeInfo) (he : e ∈ buildTable p) :
    (e.2.kind = .primitive ∧ e.2.isAlias = false ∧ ∃ pr ∈ Prim.all, e.2.ident = pr.kw) ∨
    (e.2.kind = .module ∧ e.2.isAlias = false) ∨
    ∃ f ∈ p, ∃ i, ∃ d ∈ f.defs, e ∈ defEntries i f.modPath d := by
  simp only [buildTable, List.mem_append, List.mem_flatMap] at he
  rcases he with he | ⟨⟨f, i⟩, hfi, he⟩
  · simp only [primTable, List.mem_map] at he
    obtain ⟨pr, hpr, rfl⟩ := he
    exact Or.inl ⟨rfl, rfl, pr, hpr, rfl⟩
  · simp only [fileEntries, List.mem_append, List.mem_flatMap] at he
    rcases he with ⟨d, hd, he⟩ | he
    · exact Or.inr (Or.inr ⟨f, List.fst_mem_of_mem_zipIdx hfi, i, d, hd, he⟩)
    · cases hm : f.module with
      | none => rw [hm] at he; simp at he
      | some m =>
        rw [hm] at he
        simp only [List.mem_singleton] at he
        subst he
        exact Or.inr (Or.inl ⟨rfl, rfl⟩)

theorem defEntries_entity (f : SFile) (i : Nat) (d : Def) (hd : d ∈ f.defs)
    (e : String × NodeInfo) (he : e ∈ defEntries i f.modPath d) :
    (e.2.kind = .parameter ∨ EntityOf f e.2.key e.2.kind e.2.ident) ∧ e.2.isAlias = (e.2.kind == .alias) := by
  -- `dsimp only` projects the entry's fields first, and `(EntityOf.defn _ hd :)` finds its definition from `hd` before it meets
  -- the goal: left to the unifier, the nested `scopedId`s are unfolded and compared
  cases d with
  | struct doc attrs compact name fields =>
    simp only [defEntries, List.mem_append, List.mem_singleton, fieldEntries, List.mem_map] at he
    rcases he with ⟨x, hx, rfl⟩ | rfl <;> dsimp only
    · exact ⟨Or.inr (EntityOf.field doc attrs compact name fields x hd hx), rfl⟩
    · exact ⟨Or.inr (EntityOf.defn _ hd :), rfl⟩
  | iface doc attrs name bases ops =>
    simp only [defEntries, List.mem_append, List.mem_singleton, List.mem_flatMap, opEntries, paramEntries, List.mem_map] at he
    rcases he with ⟨o, ho, (⟨x, _, rfl⟩ | ⟨x, _, rfl⟩) | rfl⟩ | rfl <;> dsimp only
    · exact ⟨Or.inl rfl, rfl⟩
    · exact ⟨Or.inl rfl, rfl⟩
    · exact ⟨Or.inr (EntityOf.operation doc attrs name bases ops o hd ho), rfl⟩
    · exact ⟨Or.inr (EntityOf.defn _ hd :), rfl⟩
  | enum doc attrs compact unchecked name underlying es =>
    simp only [defEntries, List.mem_append, List.mem_singleton, List.mem_flatMap, enumeratorEntries, fieldEntries, List.mem_map] at he
    rcases he with ⟨x, hx, ⟨y, hy, rfl⟩ | rfl⟩ | rfl <;> dsimp only
    · cases hfs : x.fields with
      | none => rw [hfs] at hy; simp at hy
      | some fs =>
        rw [hfs] at hy
        exact ⟨Or.inr (EntityOf.enumeratorField doc attrs compact unchecked name underlying es x fs y hd hx hfs hy), rfl⟩
    · exact ⟨Or.inr (EntityOf.enumerator doc attrs compact unchecked name underlying es x hd hx), rfl⟩
    · exact ⟨Or.inr (EntityOf.defn _ hd :), rfl⟩
  | custom | alias =>
    simp only [defEntries, List.mem_singleton] at he
    subst he
    dsimp only
    exact ⟨Or.inr (EntityOf.defn _ hd :), rfl⟩

theorem buildTable_entity (p : Program) (e : String × NodeInfo) (he : e ∈ buildTable p)
    (hk : e.2.kind ≠ .module ∧ e.2.kind ≠ .parameter ∧ e.2.kind ≠ .primitive) :
    ∃ f ∈ p, EntityOf f e.2.key e.2.kind e.2.ident := by
  rcases buildTable_origin p e he with h | h | ⟨f, hf, i, d, hd, hde⟩
  · exact absurd h.1 hk.2.2
  · exact absurd h.1 hk.1
  · rcases (defEntries_entity f i d hd e hde).1 with h | h
    · exact absurd h hk.2.1
    · exact ⟨f, hf, h⟩

theorem buildTable_isAlias (p : Program) (e : String × NodeInfo) (he : e ∈ buildTable p) :
    e.2.isAlias = (e.2.kind == .alias) := by
  rcases buildTable_origin p e he with ⟨hk, ha, _⟩ | ⟨hk, ha⟩ | ⟨f, _, i, d, hd, hde⟩
  · rw [ha, hk]; rfl
  · rw [ha, hk]; rfl
  · exact (defEntries_entity f i d hd e hde).2

theorem EntityOf.kind_cases {f : SFile} {key : String} {kind : NodeKind} {ident : String} (h : EntityOf f key kind ident) :
    (∃ d ∈ f.defs, kind = d.nodeKind ∧ key = scopedId d.name f.modPath) ∨
    kind = .field ∨ kind = .operation ∨ kind = .enumerator := by
  cases h with
  | defn d hd => exact Or.inl ⟨d, hd, rfl, rfl⟩
  | field => exact Or.inr (Or.inl rfl)
  | operation => exact Or.inr (Or.inr (Or.inl rfl))
  | enumerator => exact Or.inr (Or.inr (Or.inr rfl))
  | enumeratorField => exact Or.inr (Or.inl rfl)

theorem EntityOf.has_def {f : SFile} {key : String} {kind : NodeKind} {ident : String} (h : EntityOf f key kind ident) :
    ∃ d, d ∈ f.defs := by
  cases h <;> exact ⟨_, ‹_ ∈ f.defs›⟩

def EntryOK (p : Program) (n : NodeInfo) : Prop :=
  (n.kind = .primitive → ∃ pr ∈ Prim.all, n.ident = pr.kw) ∧
  (n.kind = .struct ∨ n.kind = .enum ∨ n.kind = .custom ∨ n.kind = .interface →
    ∃ f ∈ p, ∃ d ∈ f.defs, n.kind = d.nodeKind ∧ n.key = scopedId d.name f.modPath)

theorem buildTable_entry (p : Program) (e : String × NodeInfo) (he : e ∈ buildTable p) : EntryOK p e.2 := by
  rcases buildTable_origin p e he with ⟨hk, _, hpr⟩ | ⟨hk, _⟩ | ⟨f, hf, i, d, hd, hde⟩
  · unfold EntryOK
    rw [hk]
    exact ⟨fun _ => hpr, by simp⟩
  · unfold EntryOK
    rw [hk]
    exact ⟨by simp, by simp⟩
  · obtain ⟨hent, _⟩ := defEntries_entity f i d hd e hde
    refine ⟨fun h => ?_, fun h => ?_⟩
    · rcases hent with h' | h'
      · rw [h] at h'; cases h'
      · rcases h'.kind_cases with ⟨d', _, hk', _⟩ | h' | h' | h'
        · rw [h] at hk'; cases d' <;> cases hk'
        all_goals (rw [h] at h'; cases h')
    · rcases hent with h' | h'
      · rw [h'] at h; simp at h
      · rcases h'.kind_cases with ⟨d', hd', hk', hkey⟩ | h' | h' | h'
        · exact ⟨f, hf, d', hd', hk', hkey⟩
        all_goals (rw [h'] at h; simp at h)

/-- key, module scope and underlying type of an alias entry of the name table: what `Cyc.aliasDefs` lists for the definition -/
def aliasTriple (e : String × NodeInfo) : Option (String × String × TRef) :=
  e.2.aliasOf.map fun u => (e.2.key, e.2.modScope, u)

theorem defEntries_aliasTriples (i : Nat) (ms : String) (d : Def) :
    (defEntries i ms d).filterMap aliasTriple = (aliasEntry (ms, d)).toList := by
  cases d with
  | struct doc attrs compact name fields =>
    refine List.filterMap_eq_nil_iff.mpr fun e he => ?_
    simp only [defEntries, List.mem_append, List.mem_singleton, fieldEntries, List.mem_map] at he
    rcases he with ⟨x, _, rfl⟩ | rfl <;> rfl
  | iface doc attrs name bases ops =>
    refine List.filterMap_eq_nil_iff.mpr fun e he => ?_
    simp only [defEntries, List.mem_append, List.mem_singleton, List.mem_flatMap, opEntries, paramEntries, List.mem_map] at he
    rcases he with ⟨o, _, (⟨x, _, rfl⟩ | ⟨x, _, rfl⟩) | rfl⟩ | rfl <;> rfl
  | «enum» doc attrs compact unchecked name underlying es =>
    refine List.filterMap_eq_nil_iff.mpr fun e he => ?_
    simp only [defEntries, List.mem_append, List.mem_singleton, List.mem_flatMap, enumeratorEntries, fieldEntries, List.mem_map] at he
    rcases he with ⟨x, _, ⟨y, _, rfl⟩ | rfl⟩ | rfl <;> rfl
  | custom doc attrs name => rfl
  | alias doc attrs name ty => rfl

theorem filterMap_flatMap_toList {α β γ} (g : α → List β) (f : β → Option γ) (k : α → Option γ)
    (h : ∀ a, (g a).filterMap f = (k a).toList) : ∀ l : List α, (l.flatMap g).filterMap f = l.filterMap k
  | [] => rfl
  | a :: l => by
    rw [List.flatMap_cons, List.filterMap_append, h, filterMap_flatMap_toList g f k h l, List.filterMap_cons]
    cases k a <;> rfl

theorem buildTable_aliasTriples (p : Program) : (buildTable p).filterMap aliasTriple = Cyc.aliasDefs p := by
  have hprim : primTable.filterMap aliasTriple = [] := List.filterMap_eq_nil_iff.mpr fun e he => by
    obtain ⟨pr, _, rfl⟩ := List.mem_map.mp he
    rfl
  have hfile : ∀ fi : SFile × Nat,
      (fileEntries fi.2 fi.1).filterMap aliasTriple = fi.1.defs.filterMap fun d => aliasEntry (fi.1.modPath, d) := by
    intro fi
    rw [fileEntries, List.filterMap_append, filterMap_flatMap_toList _ _ _ (defEntries_aliasTriples fi.2 fi.1.modPath)]
    cases fi.1.module <;> exact List.append_nil _
  rw [buildTable, List.filterMap_append, hprim, List.nil_append, List.filterMap_flatMap]
  show p.zipIdx.flatMap (fun fi => (fileEntries fi.2 fi.1).filterMap aliasTriple) = _
  simp only [hfile]
  rw [zipIdx_flatMap_fst p 0 fun f => f.defs.filterMap fun d => aliasEntry (f.modPath, d), aliasDefs_eq, ← flatMap_defs_filterMap]

theorem buildTable_alias_entry (p : Program) (e : String × NodeInfo) (u : TRef) (he : e ∈ buildTable p)
    (ha : e.2.aliasOf = some u) : e.2.kind = .alias ∧ (e.2.key, e.2.modScope, u) ∈ Cyc.aliasDefs p := by
  refine ⟨eq_of_beq ((buildTable_isAlias p e he).symm.trans (by rw [NodeInfo.isAlias, ha]; rfl)), ?_⟩
  rw [← buildTable_aliasTriples]
  exact List.mem_filterMap.mpr ⟨e, he, by rw [aliasTriple, ha]; rfl⟩

theorem numAliases_buildTable (p : Program) : numAliases (buildTable p) = (Cyc.aliasDefs p).length := by
  rw [← buildTable_aliasTriples, List.length_filterMap_eq_countP, numAliases, aliasKeys, List.length_map,
    ← List.countP_eq_length_filter]
  simp only [aliasTriple, Option.isSome_map, NodeInfo.isAlias]

theorem AliasPath.expr_origin {t : Table} {cur : NodeInfo} {links : List TRef} {tgt : Target}
    (h : AliasPath t cur links tgt) : (∃ k, (k, cur) ∈ t) → ∀ e s, tgt = .expr e s →
    ∃ (last : NodeInfo) (u : TRef), (∃ k, (k, last) ∈ t) ∧ last.aliasOf = some u ∧ u.ty = e ∧ last.modScope = s := by
  induction h with
  | endNode _ _ _ _ => intro _ e s ht; cases ht
  | @endExpr cur u hu _ =>
    intro hc e s ht
    cases ht
    exact ⟨cur, u, hc, hu, rfl, rfl⟩
  | step _ _ hf _ _ ih =>
    intro _ e s ht
    exact ih (findNodeWithScope_mem _ _ _ _ hf) e s ht

theorem resolveNamed_expr_origin (p : Program) (w : Want) (id scope : String) (e : TyExpr) (s : String) (extra : List Attr)
    (h : resolveNamed (buildTable p) w id scope = .ok (.expr e s, extra)) :
    ∃ f ∈ p, ∃ doc attrs name a o, Def.alias doc attrs name (.mk a e o) ∈ f.defs ∧ s = f.modPath := by
  obtain ⟨n0, hf, _, ⟨_, ht, _⟩ | ⟨_, links, hp, _⟩⟩ := resolveNamed_ok_path h
  · cases ht
  · obtain ⟨last, ⟨a, ty, o⟩, ⟨k, hk⟩, hu, rfl, rfl⟩ := hp.expr_origin (findNodeWithScope_mem _ _ _ _ hf) _ _ rfl
    obtain ⟨f, hfp, doc, attrs, name, hd, hms, _⟩ := mem_aliasDefs (buildTable_alias_entry p (k, last) _ hk hu).2
    exact ⟨f, hfp, doc, attrs, name, a, o, hd, hms⟩

end Slicec
