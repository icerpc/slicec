/-
  C19. The character loop `scan` is a token loop behind the un-escaping tokenizer, the look-ahead test of its separator
  arm being "drop one trailing comma" (`scan_eq_scanU`); the token loop is the split-based specification (`scanU_spec`).
  `parse_written`: the parser on a written specification is `finish` on what was written. For `C19.rejects_iff`, the
  argument pass of the specification in closed form (`segKey`, `specArgs_eq`).
-/
import SlicecVerif.Model.PluginSpec

namespace Slicec.PluginSpec

theorem isEscapable_iff (c : Char) : isEscapable c = true ↔ (c = ',' ∨ c = '=') := by
  simp [isEscapable, Gen.pluginEscapable]

theorem isEscapable_false_iff (c : Char) : isEscapable c = false ↔ ¬ (c = ',' ∨ c = '=') := by
  rw [← isEscapable_iff]; simp

theorem tokenize_cons (c : Char) (rest : List Char) : tokenize (c :: rest) =
    if c = '\\' then
      match rest with
      | n :: rest' => if n = ',' ∨ n = '=' then .lit n :: tokenize rest' else .lit c :: tokenize (n :: rest')
      | [] => [.lit c]
    else if c = ',' then .comma :: tokenize rest
    else if c = '=' then .eq :: tokenize rest
    else .lit c :: tokenize rest := by
  rw [tokenize.eq_def]; rfl

theorem scan_cons (st : PSt) (c : Char) (rest : List Char) : scan st (c :: rest) =
    if c = '\\' then
      match rest with
      | n :: rest' => if isEscapable n then scan (st.push n) rest' else scan (st.push c) (n :: rest')
      | [] => .ok (st.push c)
    else if c = ',' then
      if rest.isEmpty then scan st rest else scan st.newArg rest
    else if c = '=' then
      match st with
      | .path _ => scan (st.push '=') rest
      | .key p d k => scan (.value p d k []) rest
      | .value _ _ _ _ => .error .secondEq
    else scan (st.push c) rest := by
  rw [scan.eq_def]; rfl

/-- the loop of `plugin_parser` on tokens, without the look-ahead test of the separator arm (every comma starts a pair) -/
def scanU (st : PSt) : List Tok → Except PErr PSt
  | [] => .ok st
  | .lit c :: ts => scanU (st.push c) ts
  | .comma :: ts => scanU st.newArg ts
  | .eq :: ts =>
    match st with
    | .path _ => scanU (st.push '=') ts
    | .key p d k => scanU (.value p d k []) ts
    | .value _ _ _ _ => .error .secondEq

theorem tokenize_isEmpty (s : List Char) : (tokenize s).isEmpty = s.isEmpty := by
  fun_induction tokenize s <;> rfl

theorem dropTrailingComma_cons (t : Tok) (ts : List Tok) :
    dropTrailingComma (t :: ts) = if t = .comma ∧ ts.isEmpty = true then [] else t :: dropTrailingComma ts := by
  cases ts with
  | nil => cases t <;> rfl
  | cons u ts =>
    simp only [dropTrailingComma, List.getLast?_cons_cons]
    split <;> simp

theorem scan_eq_scanU (st : PSt) (s : List Char) : scan st s = scanU st (dropTrailingComma (tokenize s)) := by
  fun_induction tokenize s generalizing st with
  | case1 => rfl
  | case2 n rest h ih =>
    rw [scan_cons, if_pos rfl, dropTrailingComma_cons, if_neg (fun h => nomatch h.1)]
    simp only [(isEscapable_iff n).2 h, if_true, scanU, ih]
  | case3 n rest h ih =>
    rw [scan_cons, if_pos rfl, dropTrailingComma_cons, if_neg (fun h => nomatch h.1)]
    simp only [(isEscapable_false_iff n).2 h, Bool.false_eq_true, if_false, scanU, ih]
  | case4 => rfl
  | case5 rest h ih =>
    rw [scan_cons, if_neg h, if_pos rfl, dropTrailingComma_cons, tokenize_isEmpty]
    cases rest with
    | nil => rfl
    | cons c cs => exact ih _
  | case6 rest h1 h2 ih =>
    rw [scan_cons, if_neg h1, if_neg h2, if_pos rfl, dropTrailingComma_cons, if_neg (fun h => nomatch h.1)]
    cases st <;> simp only [scanU, ih]
  | case7 c rest h1 h2 h3 ih =>
    rw [scan_cons, if_neg h1, if_neg h2, if_neg h3, dropTrailingComma_cons, if_neg (fun h => nomatch h.1), scanU, ih]

@[simp] theorem isEq_lit (c : Char) : isEq (.lit c) = false := by simp [isEq]
@[simp] theorem isEq_comma : isEq .comma = false := by simp [isEq]
@[simp] theorem isEq_eq : isEq .eq = true := by simp [isEq]

theorem specArg_nil : specArg [] = pure ([], []) := by simp [specArg, pure, Except.pure]

theorem specArg_lit (c : Char) (seg : List Tok) :
    specArg (.lit c :: seg) = specArg seg >>= fun a => pure (c :: a.1, a.2) := by
  unfold specArg
  simp only [List.takeWhile_cons, List.dropWhile_cons, isEq_lit, Bool.not_false, if_true]
  split <;> simp [Tok.char, bind, Except.bind, pure, Except.pure]

theorem specArg_eq (seg : List Tok) :
    specArg (.eq :: seg) = if seg.any isEq then .error .secondEq else pure ([], seg.map Tok.char) := by
  unfold specArg
  simp [pure, Except.pure]

theorem specArgs_cons (seg : List Tok) (segs : List (List Tok)) :
    specArgs (seg :: segs) = specArg seg >>= fun a => specArgs segs >>= fun as => pure (a :: as) := by
  rw [specArgs]
  cases specArg seg with
  | error e => rfl
  | ok a => cases specArgs segs <;> rfl

theorem newArg_eq (st : PSt) : st.newArg = .key st.fin.1 st.fin.2 [] := by
  cases st <;> simp [PSt.newArg, PSt.fin]

namespace PSt

/-- what the state holds once the piece it is in has been read to its end, `seg` being the rest of that piece -/
def close : PSt → List Tok → Except PErr (List Char × List Arg)
  | .path p, seg => pure (p ++ seg.map Tok.char, [])
  | .key p d k, seg => specArg seg >>= fun a => pure (p, d ++ [(k ++ a.1, a.2)])
  | .value p d k v, seg => if seg.any isEq then .error .secondEq else pure (p, d ++ [(k, v ++ seg.map Tok.char)])

theorem close_nil (st : PSt) : st.close [] = pure st.fin := by
  cases st <;> simp only [close, fin, specArg_nil, pure_bind, List.map_nil, List.append_nil, List.any_nil] <;> rfl

end PSt

theorem scanU_spec (ts : List Tok) : ∀ st, PSt.fin <$> scanU st ts =
    st.close (splitCommas ts).1 >>= fun r => specArgs (splitCommas ts).2 >>= fun as => pure (r.1, r.2 ++ as) := by
  induction ts with
  | nil =>
    intro st
    rw [scanU, splitCommas, PSt.close_nil, specArgs]
    exact congrArg Except.ok (by rw [List.append_nil])
  | cons t ts ih =>
    intro st
    cases t with
    | lit c =>
      rw [scanU, ih]
      cases st <;>
        simp only [PSt.push, splitCommas, PSt.close, specArg_lit, Tok.char, List.map_cons, List.any_cons, isEq_lit,
          Bool.false_or, bind_assoc, pure_bind, List.append_assoc, List.singleton_append]
    | comma =>
      -- the piece ends here: the state is closed on nothing, and the next piece opens a key
      rw [scanU, ih, newArg_eq]
      simp only [splitCommas, PSt.close_nil, PSt.close.eq_2, specArgs_cons, bind_assoc, pure_bind, List.nil_append,
        List.append_assoc, List.singleton_append]
    | eq =>
      cases st with
      | path p =>
        rw [scanU, ih]
        simp only [PSt.push, splitCommas, PSt.close, Tok.char, List.map_cons, List.append_assoc, List.singleton_append]
      | key p d k =>
        simp only [scanU, splitCommas, ih, PSt.close, specArg_eq]
        split <;> simp <;> rfl
      | value p d k v => simp [scanU, splitCommas, PSt.close]; rfl

theorem trim_nil : trim [] = [] := by simp [trim, trimStart, trimEnd]

theorem finish_eq (raw : List Char × List Arg) : finish raw =
    if trim raw.1 = [] then .error .missingPath
    else if ∃ a ∈ raw.2.map trimArg, a.1 = [] then .error .missingKey
    else .ok (trim raw.1, raw.2.map trimArg) := by
  simp only [finish, List.isEmpty_iff, List.any_eq_true]

theorem pluginParser_eq_scanU (s : List Char) : pluginParser s =
    PSt.fin <$> scanU (.path []) (dropTrailingComma (tokenize s)) >>= finish := by
  unfold pluginParser
  rw [scan_eq_scanU]
  cases scanU (.path []) (dropTrailingComma (tokenize s)) with
  | error e => rfl
  | ok st => exact (pure_bind st.fin finish).symm

def startsSep : List Char → Bool
  | n :: _ => n = ',' ∨ n = '='
  | [] => false

/-- every component is free of a trailing backslash, except possibly the last one when no separator follows: a
    backslash in front of a separator is read as its escape, so such a component cannot be written -/
def compsOk (sepAfter : Bool) : List (List Char) → Prop
  | [] => True
  | c :: cs => (endsBs c = false ∨ (cs = [] ∧ sepAfter = false)) ∧ compsOk sepAfter cs

theorem endsBs_cons_cons (c d : Char) (cs : List Char) : endsBs (c :: d :: cs) = endsBs (d :: cs) := by
  simp [endsBs, List.getLast?_cons_cons]

theorem endsBs_single (c : Char) : endsBs [c] = decide (c = '\\') := by
  simp [endsBs]

theorem startsSep_escape_append (c : Char) (cs rest : List Char) : startsSep (escape (c :: cs) ++ rest) = false := by
  simp only [escape]
  split
  · simp [startsSep]
  · rename_i h; simpa [startsSep] using h

theorem endsBs_tail (c : Char) (s : List Char) (h : endsBs (c :: s) = false) : endsBs s = false := by
  cases s with
  | nil => rfl
  | cons d ds => rwa [endsBs_cons_cons] at h

/-- unless the seam is an escape: a final backslash of `s` in front of a separator that opens `t` -/
theorem tokenize_append (s t : List Char) (h : endsBs s = false ∨ startsSep t = false) :
    tokenize (s ++ t) = tokenize s ++ tokenize t := by
  fun_induction tokenize s with
  | case1 => rfl
  | case2 n rest hn ih =>
    rw [List.cons_append, List.cons_append, tokenize_cons, if_pos rfl]
    simp only [hn, if_true]
    rw [ih (h.imp_left fun h => endsBs_tail _ _ (endsBs_tail _ _ h))]; rfl
  | case3 n rest hn ih =>
    rw [List.cons_append, List.cons_append, tokenize_cons, if_pos rfl]
    simp only [hn, if_false]
    rw [← List.cons_append, ih (h.imp_left (endsBs_tail _ _))]; rfl
  | case4 =>
    have ht : startsSep t = false := h.resolve_left (by decide)
    rw [List.cons_append, List.nil_append, tokenize_cons, if_pos rfl]
    cases t with
    | nil => rfl
    | cons n r => simp only [show ¬ (n = ',' ∨ n = '=') by simpa [startsSep] using ht, if_false]; rfl
  | case5 rest h1 ih => rw [List.cons_append, tokenize_cons, if_neg h1, if_pos rfl, ih (h.imp_left (endsBs_tail _ _))]; rfl
  | case6 rest h1 h2 ih =>
    rw [List.cons_append, tokenize_cons, if_neg h1, if_neg h2, if_pos rfl, ih (h.imp_left (endsBs_tail _ _))]; rfl
  | case7 c rest h1 h2 h3 ih =>
    rw [List.cons_append, tokenize_cons, if_neg h1, if_neg h2, if_neg h3, ih (h.imp_left (endsBs_tail _ _))]; rfl

theorem tokenize_snoc_comma (s : List Char) (h : endsBs s = false) :
    tokenize (s ++ [',']) = tokenize s ++ [.comma] :=
  tokenize_append s [','] (Or.inl h)

theorem tokenize_escape_append (comp rest : List Char) (h : endsBs comp = false ∨ startsSep rest = false) :
    tokenize (escape comp ++ rest) = comp.map .lit ++ tokenize rest := by
  fun_induction escape comp with
  | case1 => rfl
  | case2 c cs hc ih =>
    rw [List.cons_append, List.cons_append, tokenize_cons, if_pos rfl]
    simp only [hc, if_true]
    rw [ih (h.imp_left (endsBs_tail c cs))]; rfl
  | case3 c cs hc ih =>
    -- `c` is written as itself; if it is a backslash, what follows it does not open with a separator
    have hX : endsBs [c] = false ∨ startsSep (escape cs ++ rest) = false := by
      cases cs with
      | nil => exact h
      | cons d ds => exact Or.inr (startsSep_escape_append d ds rest)
    have hc1 : tokenize [c] = [.lit c] := by
      by_cases hb : c = '\\'
      · rw [hb]; rfl
      · rw [tokenize_cons, if_neg hb, if_neg (mt Or.inl hc), if_neg (mt Or.inr hc)]; rfl
    exact (tokenize_append [c] _ hX).trans (by rw [hc1, ih (h.imp_left (endsBs_tail c cs))]; rfl)

theorem startsSep_renderArgs (bare : Bool) (a : Arg) (as : List Arg) (rest : List Char) :
    startsSep (renderArgs bare (a :: as) ++ rest) = true := by
  simp [renderArgs, startsSep]

/-- the seam behind a component that is followed by the written arguments `as` and then, if `tc`, a last comma -/
theorem seam_renderArgs (bare tc : Bool) (as : List Arg) (c : List Char)
    (h : endsBs c = false ∨ (as.flatMap (fun a => [a.1, a.2]) = [] ∧ tc = false)) :
    endsBs c = false ∨ startsSep (renderArgs bare as ++ (if tc then [','] else [])) = false := by
  cases as with
  | nil => exact h.imp_right fun e => by rw [e.2]; rfl
  | cons b bs => exact Or.inl (h.resolve_right fun e => List.cons_ne_nil _ _ e.1)

theorem dropTrailingComma_lits (l : List Char) (ts : List Tok) :
    dropTrailingComma (l.map .lit ++ ts) = l.map .lit ++ dropTrailingComma ts := by
  induction l with
  | nil => rfl
  | cons c cs ih => rw [List.map_cons, List.cons_append, dropTrailingComma_cons, if_neg (fun h => nomatch h.1), ih]; rfl

theorem scanU_lits (l : List Char) : ∀ st ts, scanU st (l.map .lit ++ ts) = scanU (l.foldl PSt.push st) ts := by
  induction l with
  | nil => intro st ts; rfl
  | cons c cs ih => intro st ts; exact ih _ ts

theorem foldl_push (l : List Char) : ∀ st : PSt, l.foldl PSt.push st =
    match st with
    | .path p => .path (p ++ l)
    | .key p d k => .key p d (k ++ l)
    | .value p d k v => .value p d k (v ++ l) := by
  induction l with
  | nil => intro st; cases st <;> simp
  | cons c cs ih => intro st; cases st <;> simp [PSt.push, ih]

theorem scan_escape (st : PSt) (comp rest : List Char) (h : endsBs comp = false ∨ startsSep rest = false) :
    scan st (escape comp ++ rest) = scan (comp.foldl PSt.push st) rest := by
  rw [scan_eq_scanU, tokenize_escape_append comp rest h, dropTrailingComma_lits, scanU_lits, ← scan_eq_scanU]

/-- a comma opens a pair only when a character follows it (a last comma is ignored): hence the non-empty key `c :: cs` -/
theorem scan_comma_escape (st : PSt) (c : Char) (cs rest : List Char)
    (h : endsBs (c :: cs) = false ∨ startsSep rest = false) :
    scan st (',' :: (escape (c :: cs) ++ rest)) = scan (.key st.fin.1 st.fin.2 (c :: cs)) rest := by
  have hne : (escape (c :: cs) ++ rest).isEmpty = false := by rw [escape]; split <;> rfl
  rw [scan_cons, if_neg (by decide), if_pos rfl, hne, if_neg Bool.false_ne_true, scan_escape _ _ _ h, newArg_eq, foldl_push]
  rfl

theorem scan_renderArgs (bare tc : Bool) (as : List Arg) :
    ∀ st, compsOk tc (as.flatMap (fun a => [a.1, a.2])) → (∀ a ∈ as, a.1 ≠ []) →
    ∃ st', scan st (renderArgs bare as ++ (if tc then [','] else [])) = .ok st' ∧
      st'.fin = (st.fin.1, st.fin.2 ++ as) := by
  induction as with
  | nil =>
    intro st _ _
    exact ⟨st, by cases tc <;> rfl, by simp⟩
  | cons a as ih =>
    intro st h hne
    obtain ⟨k, v⟩ := a
    obtain ⟨hk, hv, hrest⟩ : compsOk tc (k :: v :: as.flatMap (fun a : Arg => [a.1, a.2])) := h
    have hk : endsBs k = false := hk.resolve_right fun e => List.cons_ne_nil _ _ e.1
    have hv := seam_renderArgs bare tc as v hv
    obtain ⟨c, cs, rfl⟩ := List.exists_cons_of_ne_nil (hne (k, v) (by simp))
    have hne' : ∀ a ∈ as, a.1 ≠ [] := fun a ha => hne a (by simp [ha])
    simp only [renderArgs, renderArg, List.cons_append, List.append_assoc]
    by_cases hb : (bare = true ∧ v = [])
    · obtain ⟨st', h1, h2⟩ := ih (.key st.fin.1 st.fin.2 (c :: cs)) hrest hne'
      refine ⟨st', ?_, by rw [h2, hb.2]; simp [PSt.fin]⟩
      rw [if_pos hb, scan_comma_escape st c cs _ (Or.inl hk), h1]
    · obtain ⟨st', h1, h2⟩ := ih (.value st.fin.1 st.fin.2 (c :: cs) ([] ++ v)) hrest hne'
      refine ⟨st', ?_, by rw [h2]; simp [PSt.fin]⟩
      rw [if_neg hb, List.append_assoc, scan_comma_escape st c cs _ (Or.inl hk), List.cons_append, scan_cons,
        if_neg (by decide), if_neg (by decide), if_pos rfl]
      dsimp only
      rw [scan_escape _ v _ hv, foldl_push, h1]

theorem finish_ok (path : List Char) (args : List Arg) (hp : trim path ≠ []) (hk : ∀ a ∈ args, trim a.1 ≠ []) :
    finish (path, args) = .ok (trim path, args.map trimArg) := by
  rw [finish_eq, if_neg hp, if_neg]
  rintro ⟨a, ha, h⟩
  obtain ⟨b, hb, rfl⟩ := List.mem_map.1 ha
  exact hk b hb h

theorem compsOk_of_all (s : Bool) (cs : List (List Char)) (h : ∀ c ∈ cs, endsBs c = false) : compsOk s cs := by
  induction cs with
  | nil => trivial
  | cons c cs ih => exact ⟨Or.inl (h c (by simp)), ih fun x hx => h x (by simp [hx])⟩

theorem compsOk_of_dropLast (cs : List (List Char)) (h : ∀ c ∈ cs.dropLast, endsBs c = false) : compsOk false cs := by
  induction cs with
  | nil => trivial
  | cons c cs ih =>
    cases cs with
    | nil => exact ⟨Or.inr ⟨rfl, rfl⟩, trivial⟩
    | cons d ds => exact ⟨Or.inl (h c (by simp [List.dropLast])), ih fun x hx => h x (by simp [hx])⟩

theorem parse_written (bare tc : Bool) (path : List Char) (args : List Arg) (hk : ∀ a ∈ args, a.1 ≠ [])
    (hb : compsOk tc (components path args)) :
    pluginParser (escape path ++ renderArgs bare args ++ (if tc then [','] else [])) = finish (path, args) := by
  obtain ⟨st', h1, h2⟩ := scan_renderArgs bare tc args (path.foldl PSt.push (.path [])) hb.2 hk
  unfold pluginParser
  rw [List.append_assoc, scan_escape _ path _ (seam_renderArgs bare tc args path hb.1), h1]
  have h3 : st'.fin = (path, args) := by rw [h2, foldl_push]; simp [PSt.fin]
  simp only [h3]

theorem parse_render_gen (bare tc : Bool) (path : List Char) (args : List Arg)
    (hp : trim path ≠ []) (hk : ∀ a ∈ args, trim a.1 ≠ [])
    (hb : compsOk tc (components path args)) :
    pluginParser (escape path ++ renderArgs bare args ++ (if tc then [','] else [])) =
      .ok (trim path, args.map trimArg) :=
  (parse_written bare tc path args (fun a ha h => hk a ha (by rw [h, trim_nil])) hb).trans (finish_ok path args hp hk)

/-- text of the key of a piece: everything before its first unescaped `=` -/
def segKey (seg : List Tok) : List Char := (seg.takeWhile (fun t => !isEq t)).map Tok.char

/-- text of the value of a piece: everything after its first unescaped `=` -/
def segVal (seg : List Tok) : List Char := ((seg.dropWhile (fun t => !isEq t)).drop 1).map Tok.char

theorem any_isEq_iff (l : List Tok) : l.any isEq = true ↔ 1 ≤ l.count .eq := by
  rw [show isEq = (· == Tok.eq) from rfl, List.any_beq', List.contains_iff_mem, ← List.count_pos_iff]
  exact Iff.rfl

theorem secondEq_iff_count (seg : List Tok) :
    ((seg.dropWhile (fun t => !isEq t)).drop 1).any isEq = true ↔ 2 ≤ seg.count .eq := by
  induction seg with
  | nil => simp
  | cons t seg ih =>
    cases t with
    | lit c => simpa [List.dropWhile_cons, List.count_cons] using ih
    | comma => simpa [List.dropWhile_cons, List.count_cons] using ih
    | eq =>
      simp only [List.dropWhile_cons, isEq_eq, Bool.not_true, Bool.false_eq_true, if_false, List.drop_succ_cons,
        List.drop_zero, List.count_cons_self]
      rw [any_isEq_iff]; omega

theorem specArg_spec (seg : List Tok) :
    specArg seg = if 2 ≤ seg.count .eq then .error .secondEq else .ok (segKey seg, segVal seg) := by
  unfold specArg segKey segVal
  simp only [← secondEq_iff_count]

theorem specArgs_eq (segs : List (List Tok)) :
    specArgs segs =
      if ∃ seg ∈ segs, 2 ≤ seg.count .eq then .error .secondEq
      else .ok (segs.map fun seg => (segKey seg, segVal seg)) := by
  induction segs with
  | nil => simp [specArgs]
  | cons seg segs ih =>
    rw [specArgs, specArg_spec, ih]
    by_cases h1 : 2 ≤ seg.count .eq
    · simp [h1]
    · by_cases h2 : ∃ seg ∈ segs, 2 ≤ seg.count .eq <;> simp [h1, h2]

theorem exists_error_ite {ε α : Type} (c : Prop) [Decidable c] (e0 : ε) (x : Except ε α) :
    (∃ e, (if c then .error e0 else x) = .error e) ↔ c ∨ ∃ e, x = .error e := by
  by_cases h : c <;> simp [h]

end Slicec.PluginSpec
