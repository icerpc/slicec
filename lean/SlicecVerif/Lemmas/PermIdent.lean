/-
  C15 — for programs whose names are identifiers (everything a source text can produce) the side condition `UniqueKeys`
  follows from acceptance: a key shared by two different files is either a definition declared twice or a definition that
  shares its scoped name with a (declared or enclosing) module, and both are rejected by the redefinition rule.

  Every key a definition enters into the table is a nesting of `scopedId`s over names it declares (`defEntries_key`, no side
  condition), which for identifiers is a joined segment list (`nest_join`); a clash of two keys is then a matter of list
  prefixes (`key_clash_cases`).
-/
import SlicecVerif.Lemmas.PermTable
import SlicecVerif.Lemmas.Decls

namespace Slicec.Validate

open Slicec

def defNames : Def → List String
  | .struct _ _ _ name fields => name :: fields.map (·.name)
  | .iface _ _ name _ ops => name :: ops.flatMap fun o => o.name :: (o.params.map (·.name) ++ (retParams o.ret).map (·.name))
  | .enum _ _ _ _ name _ es => name :: es.flatMap fun e => e.name :: (e.fields.getD []).map (·.name)
  | .custom _ _ name => [name]
  | .alias _ _ name _ => [name]

def PathIdent (p : String) : Prop := PathOK (splitSegs p) ∧ joinSegs (splitSegs p) = p

instance (s : String) : Decidable (SegOK s) := by unfold SegOK; infer_instance
instance (l : List String) : Decidable (PathOK l) := by unfold PathOK; infer_instance
instance (p : String) : Decidable (PathIdent p) := by unfold PathIdent; infer_instance

def FileIdents (f : SFile) : Prop :=
  (match f.module with | some m => PathIdent m.path | none => True) ∧ ∀ d ∈ f.defs, ∀ n ∈ defNames d, SegOK n

instance (f : SFile) : Decidable (FileIdents f) := by unfold FileIdents; split <;> infer_instance

/-- every name of the program is an identifier (no `:` inside, not empty), every module path a `::`-separated list of
    identifiers — true of every program the parser produces -/
def IdentNames (P : Program) : Prop := ∀ f ∈ P, FileIdents f

instance (P : Program) : Decidable (IdentNames P) := by unfold IdentNames; infer_instance

theorem name_mem_defNames (d : Def) : d.name ∈ defNames d := by
  cases d <;> exact List.mem_cons_self ..

theorem IdentNames.perm {P P' : Program} (hp : P.Perm P') (h : IdentNames P) : IdentNames P' :=
  fun f hf => h f (hp.mem_iff.mpr hf)

/-- the key of the element reached from `scope` by descending through the members `l` -/
def nest (scope : String) (l : List String) : String := l.foldl (fun k n => scopedId n k) scope

theorem nest_join : ∀ (l : List String) (msegs : List String), (∀ s ∈ msegs ++ l, SegOK s) →
    nest (joinSegs msegs) l = joinSegs (msegs ++ l) := by
  intro l
  induction l with
  | nil => intro msegs _; simp [nest]
  | cons a l ih =>
    intro msegs h
    have h' : ∀ s ∈ (msegs ++ [a]) ++ l, SegOK s := by simpa using h
    show nest (scopedId a (joinSegs msegs)) l = _
    rw [scopedId_join msegs a fun s hs => h s (List.mem_append_left _ hs), ih _ h', List.append_assoc]
    rfl

theorem defEntries_key (i : Nat) (ms : String) (d : Def) :
    ∀ e ∈ defEntries i ms d, ∃ l, (∀ n ∈ l, n ∈ defNames d) ∧ e.1 = nest ms (d.name :: l) := by
  intro e he
  cases d with
  | struct doc attrs compact name fields =>
    simp only [defEntries, fieldEntries, List.mem_append, List.mem_map, List.mem_singleton] at he
    rcases he with ⟨f, hf, rfl⟩ | rfl
    -- the key equations hold by `rfl`, which is very slow to check: the unifier unfolds the `scopedId`s before it unfolds `nest`
    · exact ⟨[f.name], List.forall_mem_singleton.mpr (List.mem_cons_of_mem _ (List.mem_map.mpr ⟨f, hf, rfl⟩)), by simp only [nest, List.foldl_cons, List.foldl_nil, Def.name]⟩
    · exact ⟨[], nofun, by simp only [nest, List.foldl_cons, List.foldl_nil, Def.name]⟩
  | iface doc attrs name bases ops =>
    simp only [defEntries, opEntries, paramEntries, List.mem_append, List.mem_flatMap, List.mem_map, List.mem_singleton] at he
    have hon : ∀ o ∈ ops, ∀ n ∈ o.name :: (o.params.map (·.name) ++ (retParams o.ret).map (·.name)),
        n ∈ defNames (.iface doc attrs name bases ops) :=
      fun o ho n hn => List.mem_cons_of_mem _ (List.mem_flatMap.mpr ⟨o, ho, hn⟩)
    rcases he with ⟨o, ho, (⟨p, hp, rfl⟩ | ⟨p, hp, rfl⟩) | rfl⟩ | rfl
    · exact ⟨[o.name, p.name], List.forall_mem_cons.mpr ⟨hon o ho _ (List.mem_cons_self ..), List.forall_mem_singleton.mpr
        (hon o ho _ (List.mem_cons_of_mem _ (List.mem_append_left _ (List.mem_map.mpr ⟨p, hp, rfl⟩))))⟩, by simp only [nest, List.foldl_cons, List.foldl_nil, Def.name]⟩
    · exact ⟨[o.name, p.name], List.forall_mem_cons.mpr ⟨hon o ho _ (List.mem_cons_self ..), List.forall_mem_singleton.mpr
        (hon o ho _ (List.mem_cons_of_mem _ (List.mem_append_right _ (List.mem_map.mpr ⟨p, hp, rfl⟩))))⟩, by simp only [nest, List.foldl_cons, List.foldl_nil, Def.name]⟩
    · exact ⟨[o.name], List.forall_mem_singleton.mpr (hon o ho _ (List.mem_cons_self ..)), by simp only [nest, List.foldl_cons, List.foldl_nil, Def.name]⟩
    · exact ⟨[], nofun, by simp only [nest, List.foldl_cons, List.foldl_nil, Def.name]⟩
  | enum doc attrs compact unchecked name underlying es =>
    simp only [defEntries, enumeratorEntries, fieldEntries, List.mem_append, List.mem_flatMap, List.mem_map, List.mem_singleton] at he
    have hon : ∀ en ∈ es, ∀ n ∈ en.name :: (en.fields.getD []).map (·.name),
        n ∈ defNames (.enum doc attrs compact unchecked name underlying es) :=
      fun en hen n hn => List.mem_cons_of_mem _ (List.mem_flatMap.mpr ⟨en, hen, hn⟩)
    rcases he with ⟨en, hen, ⟨f, hf, rfl⟩ | rfl⟩ | rfl
    · exact ⟨[en.name, f.name], List.forall_mem_cons.mpr ⟨hon en hen _ (List.mem_cons_self ..), List.forall_mem_singleton.mpr
        (hon en hen _ (List.mem_cons_of_mem _ (List.mem_map.mpr ⟨f, hf, rfl⟩)))⟩, by simp only [nest, List.foldl_cons, List.foldl_nil, Def.name]⟩
    · exact ⟨[en.name], List.forall_mem_singleton.mpr (hon en hen _ (List.mem_cons_self ..)), by simp only [nest, List.foldl_cons, List.foldl_nil, Def.name]⟩
    · exact ⟨[], nofun, by simp only [nest, List.foldl_cons, List.foldl_nil, Def.name]⟩
  | custom doc attrs name =>
    simp only [defEntries, List.mem_singleton] at he
    exact ⟨[], nofun, by simp only [he, nest, List.foldl_cons, List.foldl_nil, Def.name]⟩
  | «alias» doc attrs name ty =>
    simp only [defEntries, List.mem_singleton] at he
    exact ⟨[], nofun, by simp only [he, nest, List.foldl_cons, List.foldl_nil, Def.name]⟩

theorem pathPrefixes_run (a : List Char) (ha : ':' ∉ a) (tail : List Char) : ∀ acc : List Char,
    pathPrefixes acc (a ++ tail) = pathPrefixes (a.reverse ++ acc) tail := by
  induction a with
  | nil => intro acc; rfl
  | cons c a ih =>
    intro acc
    have hc : c ≠ ':' := fun h => ha (by rw [h]; simp)
    rw [List.cons_append, pathPrefixes.eq_3 _ _ _ (fun _ h _ => hc h), ih (fun h => ha (List.mem_cons_of_mem _ h))]
    simp

theorem pathPrefixes_mem : ∀ (pre rest : List String), pre ≠ [] → (∀ s ∈ pre ++ rest, ':' ∉ s.toList) → ∀ acc : List Char,
    acc.reverse ++ (joinSegs pre).toList ∈ pathPrefixes acc (joinSegs (pre ++ rest)).toList := by
  intro pre
  induction pre with
  | nil => intro _ h; exact absurd rfl h
  | cons a pre ih =>
    intro rest _ hs acc
    have ha : ':' ∉ a.toList := hs a (by simp)
    -- after the first segment the scan is at the end of the path, or at a separator, where it reports what it has read so far
    have sep : ∀ b r, pathPrefixes acc (joinSegs (a :: b :: r)).toList =
        (acc.reverse ++ a.toList) :: pathPrefixes (':' :: ':' :: (a.toList.reverse ++ acc)) (joinSegs (b :: r)).toList := fun b r => by
      rw [joinSegs_cons2, String.toList_append, String.toList_append, toList_dcolon, List.append_assoc, pathPrefixes_run _ ha]
      simp [pathPrefixes]
    cases pre with
    | nil =>
      cases rest with
      | nil =>
        have := pathPrefixes_run _ ha [] acc
        simp only [List.append_nil] at this
        simp [joinSegs, this, pathPrefixes]
      | cons b r => rw [List.singleton_append, sep]; exact List.mem_cons_self ..
    | cons b pre =>
      rw [List.cons_append, List.cons_append, sep]
      refine List.mem_cons_of_mem _ ?_
      have := ih rest (by simp) (fun s h => hs s (List.mem_cons_of_mem _ h)) (':' :: ':' :: (a.toList.reverse ++ acc))
      rw [joinSegs_cons2, String.toList_append, String.toList_append, toList_dcolon]
      simpa using this

theorem modulePrefixes_mem (P : Program) (g : SFile) (hg : g ∈ P) (m : ModDecl) (hm : g.module = some m)
    (pre rest : List String) (hp : m.path = joinSegs (pre ++ rest)) (hok : ∀ s ∈ pre ++ rest, SegOK s) (hne : pre ≠ []) :
    joinSegs pre ∈ modulePrefixes P := by
  unfold modulePrefixes
  refine List.mem_flatMap.mpr ⟨g, hg, ?_⟩
  rw [hm]
  simp only
  refine List.mem_map.mpr ⟨(joinSegs pre).toList, ?_, String.ofList_toList⟩
  rw [hp]
  have := pathPrefixes_mem pre rest hne (fun s h => (hok s h).2) []
  simpa using this

theorem fileScope_of_module (f : SFile) (m : ModDecl) (h : f.module = some m) : fileScope f = m.path := by
  unfold fileScope; rw [h]

structure FileSegs (f : SFile) (msegs : List String) : Prop where
  path : f.modPath = joinSegs msegs
  segs : ∀ s ∈ msegs, SegOK s
  names : ∀ d ∈ f.defs, ∀ n ∈ defNames d, SegOK n
  mod : ∀ m, f.module = some m → msegs ≠ []

theorem declKeys_form (f : SFile) (msegs : List String) (h : FileSegs f msegs) (k : String) (hk : k ∈ f.declKeys) :
    ∃ d ∈ f.defs, ∃ path, PathOK path ∧ msegs ++ [d.name] <+: path ∧ k = joinSegs path := by
  unfold SFile.declKeys declTable at hk
  obtain ⟨e, he, rfl⟩ := List.mem_map.mp hk
  obtain ⟨d, hd, hed⟩ := List.mem_flatMap.mp he
  obtain ⟨l, hl, hkl⟩ := defEntries_key 0 _ d e hed
  have hok : ∀ s ∈ msegs ++ d.name :: l, SegOK s := List.forall_mem_append.mpr ⟨h.segs, List.forall_mem_cons.mpr
    ⟨h.names d hd _ (name_mem_defNames d), fun s hs => h.names d hd s (hl s hs)⟩⟩
  refine ⟨d, hd, msegs ++ d.name :: l, ⟨by simp, hok⟩, ⟨l, by simp⟩, ?_⟩
  rw [hkl, h.path]
  exact nest_join _ _ hok

theorem defKey_segs (f : SFile) (msegs : List String) (h : FileSegs f msegs) (d : Def) :
    defKey (fileScope f, d) = joinSegs (msegs ++ [d.name]) := by
  unfold defKey
  simp only
  rw [fileScope_eq_modPath, h.path]
  exact scopedId_join msegs d.name h.segs

theorem defKey_mem_modulePrefixes (P : Program) (f g : SFile) (hg : g ∈ P) (mf mg : List String) (hfs : FileSegs f mf)
    (hgs : FileSegs g mg) (m : ModDecl) (hm : g.module = some m) (d : Def) (h : mf ++ [d.name] <+: mg) :
    defKey (fileScope f, d) ∈ modulePrefixes P := by
  obtain ⟨rest, h⟩ := h
  rw [defKey_segs f mf hfs]
  have hpath : m.path = joinSegs mg := by rw [← modPath_of_module g m hm]; exact hgs.path
  exact modulePrefixes_mem P g hg m hm _ rest (by rw [hpath, h]) (by rw [h]; exact hgs.segs) (by simp)

theorem key_clash_cases (P : Program) (f g : SFile) (hf : f ∈ P) (hg : g ∈ P) (mf mg : List String)
    (hfs : FileSegs f mf) (hgs : FileSegs g mg) (hfm : f.defs ≠ [] → f.module.isSome = true) (hgm : g.defs ≠ [] → g.module.isSome = true)
    (k : String) (hkf : k ∈ f.declKeys) (hkg : k ∈ g.allKeys) :
    (∃ d ∈ f.defs, defKey (fileScope f, d) ∈ modulePrefixes P) ∨
    (∃ d ∈ g.defs, defKey (fileScope g, d) ∈ modulePrefixes P) ∨
    (∃ d ∈ f.defs, ∃ d' ∈ g.defs, defKey (fileScope f, d) = defKey (fileScope g, d')) := by
  obtain ⟨d, hd, path, ok, hpre, hk⟩ := declKeys_form f mf hfs k hkf
  -- where does `g` declare `k`?
  rcases mem_allKeys.mp hkg with hkg | ⟨mdg, hmg, rfl⟩
  · -- by a definition `d'` of `g`: the paths of `d` and `d'` begin the same list, so one begins the other; it is the whole
    -- of the other, or it begins the other's module path
    obtain ⟨d', hd', path', ok', hpre', hk'⟩ := declKeys_form g mg hgs k hkg
    cases joinSegs_inj _ _ ok ok' (hk.symm.trans hk')
    obtain ⟨mdf, hmdf⟩ := Option.isSome_iff_exists.mp (hfm (List.ne_nil_of_mem hd))
    obtain ⟨mdg, hmdg⟩ := Option.isSome_iff_exists.mp (hgm (List.ne_nil_of_mem hd'))
    have same : mf ++ [d.name] = mg ++ [d'.name] → defKey (fileScope f, d) = defKey (fileScope g, d') := fun h => by
      rw [defKey_segs f mf hfs, defKey_segs g mg hgs, h]
    rcases List.prefix_or_prefix_of_prefix hpre hpre' with h | h <;> rcases List.prefix_concat_iff.mp h with h | h
    · exact .inr (.inr ⟨d, hd, d', hd', same h⟩)
    · exact .inl ⟨d, hd, defKey_mem_modulePrefixes P f g hg mf mg hfs hgs mdg hmdg d h⟩
    · exact .inr (.inr ⟨d, hd, d', hd', same h.symm⟩)
    · exact .inr (.inl ⟨d', hd', defKey_mem_modulePrefixes P g f hf mg mf hgs hfs mdf hmdf d' h⟩)
  · -- as the module of `g`: the path of `d` begins the module path of `g`
    have hgpath : mdg.path = joinSegs mg := by rw [← modPath_of_module g mdg hmg]; exact hgs.path
    cases joinSegs_inj _ _ ok ⟨hgs.mod mdg hmg, hgs.segs⟩ (by rw [← hk, hgpath])
    exact .inl ⟨d, hd, defKey_mem_modulePrefixes P f g hg mf mg hfs hgs mdg hmg d hpre⟩

theorem fileSegs_of_idents (f : SFile) (h : FileIdents f) : ∃ msegs, FileSegs f msegs := by
  cases hm : f.module with
  | none =>
    refine ⟨[], ?_, by simp, h.2, fun m hm' => by rw [hm] at hm'; cases hm'⟩
    unfold SFile.modPath; rw [hm]; rfl
  | some m =>
    have h1 := h.1
    rw [hm] at h1
    simp only at h1
    exact ⟨splitSegs m.path, by rw [modPath_of_module f m hm]; exact h1.2.symm, h1.1.2, h.2, fun _ _ => h1.1.1⟩

theorem defKey_mem_allDefs {P : Program} {f : SFile} (hf : f ∈ P) {d : Def} (hd : d ∈ f.defs) :
    defKey (fileScope f, d) ∈ (allDefs P).map defKey :=
  List.mem_map.mpr ⟨_, mem_allDefs_of hf hd, rfl⟩

theorem declKeys_not_allKeys (P : Program) (hid : IdentNames P) (hmod : ∀ f ∈ P, f.defs ≠ [] → f.module.isSome = true)
    (hnm : ∀ x ∈ (allDefs P).map defKey, x ∉ modulePrefixes P) (f g : SFile) (hf : f ∈ P) (hg : g ∈ P)
    (hne : ∀ d ∈ f.defs, ∀ d' ∈ g.defs, defKey (fileScope f, d) ≠ defKey (fileScope g, d')) :
    ∀ k ∈ f.declKeys, k ∉ g.allKeys := by
  intro k h1 h2
  obtain ⟨mf, hfs⟩ := fileSegs_of_idents f (hid f hf)
  obtain ⟨mg, hgs⟩ := fileSegs_of_idents g (hid g hg)
  rcases key_clash_cases P f g hf hg mf mg hfs hgs (hmod f hf) (hmod g hg) k h1 h2 with
    ⟨d, hd, hp⟩ | ⟨d, hd, hp⟩ | ⟨d, hd, d', hd', he⟩
  · exact hnm _ (defKey_mem_allDefs hf hd) hp
  · exact hnm _ (defKey_mem_allDefs hg hd) hp
  · exact hne d hd d' hd' he

theorem uniqueKeys_of_names (P : Program) (hid : IdentNames P) (hmod : ∀ f ∈ P, f.defs ≠ [] → f.module.isSome = true)
    (hnd : ((allDefs P).map defKey).Nodup) (hnm : ∀ x ∈ (allDefs P).map defKey, x ∉ modulePrefixes P) : UniqueKeys P := by
  -- the definition keys are distinct file against file
  rw [allDefs_eq, List.map_flatMap, List.nodup_iff_pairwise_ne, List.pairwise_flatMap] at hnd
  refine hnd.2.imp_of_mem fun {f g} hf hg hne => ?_
  have hne' : ∀ d ∈ f.defs, ∀ d' ∈ g.defs, defKey (fileScope f, d) ≠ defKey (fileScope g, d') := fun d hd d' hd' =>
    hne _ (List.mem_map.mpr ⟨_, List.mem_map.mpr ⟨d, hd, rfl⟩, rfl⟩) _ (List.mem_map.mpr ⟨_, List.mem_map.mpr ⟨d', hd', rfl⟩, rfl⟩)
  exact ⟨declKeys_not_allKeys P hid hmod hnm f g hf hg hne',
    declKeys_not_allKeys P hid hmod hnm g f hg hf fun d' hd' d hd e => hne' d hd d' hd' e.symm⟩

theorem uniqueKeys_of_rules (P : Program) (hid : IdentNames P) (hpo : ParseOK P) (hn : namesRule.Holds P) : UniqueKeys P := by
  have h := hn (modulePrefixes P, (allDefs P).map defKey) (List.mem_append_left _ (List.mem_singleton_self _))
  exact uniqueKeys_of_names P hid (fun f hf => (hpo f hf).2.2.2) h.1 h.2

end Slicec.Validate
