/-
  C15: a table whose keys are pairwise distinct (`t.keys.Nodup`) is a finite map: `Table.find` gives the same result on
  any permutation of it (`Table.find_perm`). The scope loop, the alias walk and `resolveNamed` read a table only through
  `find` and the number of aliases (`resolveNamed_congr`), so they do too. `buildTable` of two files that re-open one module
  does not satisfy the hypothesis; for such programs see `TableSim` in Lemmas/PermTable.lean.
-/
import SlicecVerif.Lemmas.Resolve

namespace Slicec

def Table.keys (t : Table) : List String := t.map (·.1)

theorem Table.value_unique (t : Table) (k : String) (v1 v2 : NodeInfo) (hnd : t.keys.Nodup)
    (h1 : (k, v1) ∈ t) (h2 : (k, v2) ∈ t) : (k, v1) = (k, v2) :=
  eq_of_nodup_map (fun e : String × NodeInfo => e.1) hnd h1 h2 rfl

theorem Table.mem_keys_of_find {t : Table} {k : String} {n : NodeInfo} (h : t.find k = some n) : k ∈ t.keys :=
  List.mem_map.mpr ⟨(k, n), Table.find_mem h, rfl⟩

theorem Table.find_none_of_not_mem (t : Table) (k : String) (h : k ∉ t.keys) : t.find k = none := by
  cases hf : t.find k with
  | none => rfl
  | some n => exact absurd (Table.mem_keys_of_find hf) h

theorem Table.find_perm (t1 t2 : Table) (hp : t1.Perm t2) (hnd : t1.keys.Nodup) (k : String) :
    t1.find k = t2.find k := by
  have hnd2 : t2.keys.Nodup := (hp.map _).nodup_iff.mp hnd
  by_cases hk : k ∈ t1.keys
  · obtain ⟨⟨ek, ev⟩, he, rfl⟩ := List.mem_map.mp hk
    rw [Table.find_of_nodup t1 hnd ek ev he, Table.find_of_nodup t2 hnd2 ek ev (hp.mem_iff.mp he)]
  · have hk2 : k ∉ t2.keys := fun h => hk ((hp.map _).mem_iff.mpr h)
    rw [Table.find_none_of_not_mem t1 k hk, Table.find_none_of_not_mem t2 k hk2]

theorem firstSome_congr {α β} (f g : α → Option β) (l : List α) (h : ∀ x, f x = g x) : firstSome f l = firstSome g l := by
  induction l with
  | nil => rfl
  | cons x xs ih => simp [firstSome, h x, ih]

theorem scopeLoop_congr {t1 t2 : Table} (h : ∀ k, t1.find k = t2.find k) (id : String) (m : List String) :
    scopeLoop t1 id m = scopeLoop t2 id m := by
  induction m using scopesOutward.induct with
  | case1 => simp [scopeLoop]
  | case2 a m ih => rw [scopeLoop, scopeLoop, h, ih]

theorem findNodeWithScope_congr {t1 t2 : Table} (h : ∀ k, t1.find k = t2.find k) (id scope : String) :
    findNodeWithScope t1 id scope = findNodeWithScope t2 id scope := by
  simp only [findNodeWithScope, h, scopeLoop_congr h]

theorem walkAlias_congr {t1 t2 : Table} (h : ∀ k, t1.find k = t2.find k) (fuel : Nat) :
    ∀ chain attrs cur, walkAlias t1 fuel chain attrs cur = walkAlias t2 fuel chain attrs cur := by
  induction fuel with
  | zero => intro _ _ _; rfl
  | succ f ih => intro _ _ _; simp only [walkAlias, findNodeWithScope_congr h, ih]

theorem resolveNamed_congr {t1 t2 : Table} (h : ∀ k, t1.find k = t2.find k) (hn : numAliases t1 = numAliases t2)
    (w : Want) (id scope : String) : resolveNamed t1 w id scope = resolveNamed t2 w id scope := by
  simp only [resolveNamed, findNodeWithScope_congr h, walkAlias_congr h, hn]

theorem numAliases_perm (t1 t2 : Table) (hp : t1.Perm t2) : numAliases t1 = numAliases t2 := by
  unfold numAliases aliasKeys
  exact ((hp.filter _).map _).length_eq

end Slicec
