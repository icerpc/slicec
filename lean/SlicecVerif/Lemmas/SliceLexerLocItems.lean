/-
  Everything the printer writes for a well-formed, tight file is a tight text (C09): `itemsTight (fileItems f)`.
  Same walk over the printer functions as Lemmas/SliceLexerItems.lean, with the context-free predicate `itemTight`.
  After it, the syntactic criterion for the name conditions of `fileTight`: identifiers joined by `::` are tight.
-/
import SlicecVerif.Lemmas.SliceLexerLoc
import SlicecVerif.Lemmas.SliceLexerLeaves
import SlicecVerif.Lemmas.SliceLexerNames

namespace Slicec.SLex

open Slicec

theorem tight_nil : itemsTight [] = true := rfl

theorem tight_cons {it : Item} {r : List Item} (h1 : itemTight it = true) (h2 : itemsTight r = true) :
    itemsTight (it :: r) = true := by
  simp only [itemsTight, List.all_cons, Bool.and_eq_true]; exact ⟨h1, h2⟩

theorem tight_append {a b : List Item} (ha : itemsTight a = true) (hb : itemsTight b = true) : itemsTight (a ++ b) = true := by
  simp only [itemsTight, List.all_append, Bool.and_eq_true] at *; exact ⟨ha, hb⟩

theorem tight_flatMap {β : Type} (xs : List β) (f : β → List Item) (h : ∀ x ∈ xs, itemsTight (f x) = true) :
    itemsTight (xs.flatMap f) = true := by
  unfold itemsTight
  rw [List.all_flatMap, List.all_eq_true]
  exact h

theorem tight_flatMap_zipIdx {α : Type} (xs : List α) (g : α × Nat → List Item)
    (h : ∀ x ∈ xs, ∀ i, itemsTight (g (x, i)) = true) : itemsTight (xs.zipIdx.flatMap g) = true :=
  tight_flatMap _ _ fun ⟨x, i⟩ hp => h x (List.fst_mem_of_mem_zipIdx hp) i

theorem tight_zipIdx_map {α : Type} (xs : List α) (g : α × Nat → List Item)
    (h : ∀ x ∈ xs, ∀ i, itemsTight (g (x, i)) = true) : ∀ m ∈ xs.zipIdx.map g, itemsTight m = true := by
  intro m hm
  obtain ⟨⟨x, i⟩, hp, rfl⟩ := List.mem_map.mp hm
  exact h x (List.fst_mem_of_mem_zipIdx hp) i

theorem tight_ite (c : Bool) {a b : List Item} (ha : itemsTight a = true) (hb : itemsTight b = true) :
    itemsTight (if c then a else b) = true := by
  cases c
  · exact hb
  · exact ha

theorem isWordChar_of_isDigit (c : Char) (h : c.isDigit = true) : isWordChar c = true := by
  simp [isWordChar, Char.isAlphanum, h]

theorem tightText_int (w : List Char) (h : isIntText w = true) : tightText w = true := by
  cases w with
  | nil => cases h
  | cons c r =>
    simp only [isIntText, Bool.and_eq_true] at h
    exact tightText_wordChars c r (isWordChar_of_isDigit c h.1) h.2

theorem tight_word (s : String) (h : isIdentText s.toList = true) : itemTight (.tok s) = true := tightText_ident s.toList h

theorem tight_quoted (x : String) : itemTight (.tok ("\"" ++ escapeStrLit x ++ "\"")) = true := by
  show tightText ("\"" ++ escapeStrLit x ++ "\"").toList = true
  rw [quoted_toList]
  exact tightText_append_mid ['"'] _ ['"'] (by decide +kernel) (by decide +kernel)

theorem tight_arg (x : String) :
    itemTight (if isIdentLike x && !(keywords.contains x) then Item.tok x else Item.tok ("\"" ++ escapeStrLit x ++ "\"")) = true := by
  split
  · rename_i hc
    simp only [Bool.and_eq_true] at hc
    exact tight_word x (by rw [← isIdentLike_eq]; exact hc.1)
  · exact tight_quoted x

/-! Each proof unfolds one `…Items` function of Model/Print.lean and is a single term whose `tight_append` / `tight_cons` /
  `tight_ite` / `tight_flatMap_zipIdx` nesting is the nesting of `++`, `::`, `if` and `flatMap` in that function, one
  argument per summand in the order it is written there; when the printer function changes, the argument that no longer
  fits is where the term fails to elaborate. The literal pieces are tight by evaluation: `decide +kernel` where the piece
  is closed, `rfl` where a marker in it carries a path (`itemTight` does not look at it). -/

theorem tight_attr (path : String) (a : Attr) (h : attrTight a = true) : itemsTight (attrItems path a) = true := by
  unfold attrItems
  refine tight_append (tight_append (tight_cons rfl (tight_cons h tight_nil)) ?_) rfl
  refine tight_ite _ tight_nil (tight_append (tight_append (by decide +kernel) (tight_flatMap_zipIdx _ _ ?_)) (by decide +kernel))
  intro x _ i
  exact tight_append (tight_ite _ (by decide +kernel) (by decide +kernel)) (tight_cons (tight_arg x) tight_nil)

theorem tight_localAttrsWith (sfx path : String) (as : List Attr) (sep : Item) (h : as.all attrTight = true)
    (hsep : itemTight sep = true) : itemsTight (localAttrsWith sfx path as sep) = true :=
  tight_flatMap_zipIdx _ _ fun a ha _ => tight_append (tight_append (by decide +kernel) (tight_attr _ a (List.all_eq_true.mp h a ha)))
    (tight_cons rfl (tight_cons (by decide +kernel) (tight_cons hsep tight_nil)))

theorem tight_localAttrs (path : String) (as : List Attr) (sep : Item) (h : as.all attrTight = true)
    (hsep : itemTight sep = true) : itemsTight (localAttrs path as sep) = true :=
  tight_localAttrsWith ".a" path as sep h hsep

mutual
theorem tight_ty : ∀ (path : String) (t : TyExpr), tyTight t = true → itemsTight (tyItems path t) = true
  | path, .prim p, _ => by
    simp only [tyItems]
    exact tight_cons (tight_word _ (prim_kw_ident p)) tight_nil
  | path, .named id, h => by
    simp only [tyItems]
    simp only [tyTight] at h
    exact tight_cons h tight_nil
  | path, .seq e, h => by
    simp only [tyItems]
    simp only [tyTight] at h
    exact tight_append (tight_append (by decide +kernel) (tight_tref _ e h)) (by decide +kernel)
  | path, .dict k v, h | path, .result k v, h => by
    simp only [tyItems]
    simp only [tyTight, Bool.and_eq_true] at h
    exact tight_append (tight_append (tight_append (tight_append (by decide +kernel) (tight_tref _ k h.1)) (by decide +kernel))
      (tight_tref _ v h.2)) (by decide +kernel)
theorem tight_tref : ∀ (path : String) (t : TRef), trefTight t = true → itemsTight (trefItems path t) = true
  | path, .mk attrs ty opt, h => by
    simp only [trefItems]
    simp only [trefTight, Bool.and_eq_true] at h
    exact tight_append (tight_append (tight_append (tight_append rfl (tight_localAttrsWith _ _ _ _ h.1 rfl))
      (tight_ty path ty h.2)) (tight_ite _ (by decide +kernel) tight_nil)) rfl
end

theorem tight_minus_int (l : IntLit) (hl : intLitOk l = true) (pre r : List Item) (hpre : itemsTight pre = true)
    (hr : itemsTight r = true) :
    itemsTight (pre ++ (if l.neg then [Item.tok "-", .glue] else []) ++ (.tok l.magText :: r)) = true :=
  tight_append (tight_append hpre (tight_ite _ (by decide +kernel) tight_nil))
    (tight_cons (tightText_int _ (magText_int l hl)) hr)

theorem tight_tag (path : String) (t : Option IntLit) (h : tagOk t = true) : itemsTight (tagItems path t) = true := by
  cases t with
  | none => rfl
  | some l => exact tight_minus_int l h _ _ rfl rfl

theorem tight_doc (doc : List String) (indent : Nat) (h : docOk doc = true) (ht : docTight doc = true) :
    itemsTight (docItems doc indent) = true := by
  unfold docItems
  refine tight_flatMap _ _ ?_
  intro l hl
  have h1 : l.toList.contains '\n' = false := by
    simp only [docOk, List.all_eq_true, Bool.not_eq_true'] at h
    exact h l hl
  have h2 := List.all_eq_true.mp ht l hl
  refine tight_cons ?_ rfl
  simp only [itemTight, h1, Bool.not_false, Bool.and_true]
  exact h2

theorem tight_ident (path name : String) : itemsTight (identItems path name) = true := by
  unfold identItems; rfl

theorem tight_field (path : String) (indent : Nat) (inl : Bool) (f : Field) (h : fieldOk f = true) (ht : fieldTight f = true) :
    itemsTight (fieldItems path indent inl f) = true := by
  simp only [fieldOk, Bool.and_eq_true] at h
  obtain ⟨⟨⟨⟨hdoc, _⟩, htag⟩, _⟩, _⟩ := h
  simp only [fieldTight, Bool.and_eq_true] at ht
  obtain ⟨⟨tdoc, tattrs⟩, tty⟩ := ht
  unfold fieldItems
  exact tight_append (tight_append (tight_append (tight_append (tight_append (tight_append (tight_append
    (tight_doc _ _ hdoc tdoc) (tight_localAttrs _ _ _ tattrs (by cases inl <;> rfl))) rfl) (tight_tag _ _ htag))
    (tight_ident _ _)) (by decide +kernel)) (tight_tref _ _ tty)) rfl

theorem tight_param (path : String) (p : Param) (h : paramOk p = true) (ht : paramTight p = true) :
    itemsTight (paramItems path p) = true := by
  simp only [paramOk, Bool.and_eq_true] at h
  obtain ⟨⟨⟨_, htag⟩, _⟩, _⟩ := h
  simp only [paramTight, Bool.and_eq_true] at ht
  unfold paramItems
  exact tight_append (tight_append (tight_append (tight_append (tight_append (tight_append (tight_append
    (tight_localAttrs _ _ _ ht.1 rfl) rfl) (tight_tag _ _ htag))
    (tight_ident _ _)) (by decide +kernel)) (tight_ite _ (by decide +kernel) tight_nil)) (tight_tref _ _ ht.2)) rfl

theorem tight_commaSep (xs : List (List Item)) (h : ∀ x ∈ xs, itemsTight x = true) : itemsTight (commaSep xs) = true :=
  tight_flatMap_zipIdx _ _ fun x hx _ => tight_append (tight_ite _ tight_nil (by decide +kernel)) (h x hx)

theorem tight_params (path : String) (sfx : String) (ps : List Param) (h : ps.all paramOk = true) (ht : ps.all paramTight = true) :
    itemsTight (commaSep (ps.zipIdx.map fun (p, i) => paramItems (path ++ sfx ++ toString i) p)) = true :=
  tight_commaSep _ (tight_zipIdx_map ps _ fun p hp _ => tight_param _ p (List.all_eq_true.mp h p hp) (List.all_eq_true.mp ht p hp))

theorem tight_ret (path : String) (r : Ret) (h : retOk r = true) (ht : retTight r = true) : itemsTight (retItems path r) = true := by
  fun_cases retItems path r with
  | case1 => rfl
  | case2 tag stream ty =>
    simp only [retOk, Bool.and_eq_true] at h
    simp only [retTight] at ht
    exact tight_append (tight_append (tight_append (tight_append rfl (tight_tag _ _ h.1)) (tight_ite _ (by decide +kernel) tight_nil))
      (tight_tref _ _ ht)) rfl
  | case3 ps =>
    simp only [retOk] at h
    simp only [retTight] at ht
    exact tight_append (tight_append (by decide +kernel) (tight_params path ".r" ps h ht)) (by decide +kernel)

theorem tight_op (path : String) (o : Op) (h : opOk o = true) (ht : opTight o = true) : itemsTight (opItems path o) = true := by
  simp only [opOk, Bool.and_eq_true] at h
  obtain ⟨⟨⟨⟨hdoc, _⟩, _⟩, hparams⟩, hret⟩ := h
  simp only [opTight, Bool.and_eq_true] at ht
  obtain ⟨⟨⟨tdoc, tattrs⟩, tparams⟩, tret⟩ := ht
  unfold opItems
  exact tight_append (tight_append (tight_append (tight_append (tight_append (tight_append (tight_append (tight_append (tight_append
    (tight_doc _ _ hdoc tdoc) (tight_localAttrs _ _ _ tattrs rfl)) rfl) (tight_ite _ (by decide +kernel) tight_nil))
    (tight_ident _ _)) (by decide +kernel)) (tight_params path ".p" o.params hparams tparams)) (by decide +kernel))
    (tight_ret _ _ hret tret)) rfl

theorem tight_enumerator (path : String) (e : Enumerator) (h : enumeratorOk e = true) (ht : enumeratorTight e = true) :
    itemsTight (enumeratorItems path e) = true := by
  simp only [enumeratorOk, Bool.and_eq_true] at h
  obtain ⟨⟨⟨⟨hdoc, _⟩, _⟩, hfields⟩, hval⟩ := h
  simp only [enumeratorTight, Bool.and_eq_true] at ht
  obtain ⟨⟨tdoc, tattrs⟩, tfields⟩ := ht
  unfold enumeratorItems
  refine tight_append (tight_append (tight_append (tight_append (tight_append (tight_append
    (tight_doc _ _ hdoc tdoc) (tight_localAttrs _ _ _ tattrs rfl)) rfl) (tight_ident _ _)) ?_) ?_) rfl
  · cases hf : e.fields with
    | none => rfl
    | some fs =>
      rw [hf] at hfields tfields
      exact tight_append (tight_append (by decide +kernel) (tight_commaSep _ (tight_zipIdx_map fs _ fun f hf _ =>
        tight_field _ 1 true f (List.all_eq_true.mp hfields f hf) (List.all_eq_true.mp tfields f hf)))) (by decide +kernel)
  · cases hv : e.value with
    | none => rfl
    | some l =>
      rw [hv] at hval
      exact tight_minus_int l hval _ _ rfl rfl

theorem tight_membersBlock (ms : List (List Item)) (h : ∀ m ∈ ms, itemsTight m = true) : itemsTight (membersBlock ms) = true := by
  unfold membersBlock
  refine tight_append (tight_append (by decide +kernel) (tight_flatMap _ _ ?_)) (by decide +kernel)
  intro m hm
  exact tight_append (tight_append (by decide +kernel) (h m hm)) (by decide +kernel)

theorem tight_def_head (path : String) (doc : List String) (attrs : List Attr) (hdoc : docOk doc = true) (tdoc : docTight doc = true)
    (tattrs : attrs.all attrTight = true) : itemsTight (docItems doc 0 ++ localAttrs path attrs (.nl 0)) = true :=
  tight_append (tight_doc _ _ hdoc tdoc) (tight_localAttrs _ _ _ tattrs rfl)

theorem tight_def (path : String) (d : Def) (h : defOk d = true) (ht : defTight d = true) : itemsTight (defItems path d) = true := by
  fun_cases defItems path d with
  | case1 doc attrs compact name fields =>
    simp only [defOk, Bool.and_eq_true] at h
    obtain ⟨⟨⟨hdoc, _⟩, _⟩, hfields⟩ := h
    simp only [defTight, Bool.and_eq_true] at ht
    obtain ⟨⟨tdoc, tattrs⟩, tfields⟩ := ht
    exact tight_append (tight_append (tight_append (tight_append (tight_append (tight_append
      (tight_def_head path doc attrs hdoc tdoc tattrs) rfl) (tight_ite _ (by decide +kernel) tight_nil))
      (by decide +kernel)) (tight_ident _ _)) rfl)
      (tight_membersBlock _ (tight_zipIdx_map fields _ fun f hf _ =>
        tight_field _ 1 false f (List.all_eq_true.mp hfields f hf) (List.all_eq_true.mp tfields f hf)))
  | case2 doc attrs name bases ops =>
    simp only [defOk, Bool.and_eq_true] at h
    obtain ⟨⟨⟨⟨hdoc, _⟩, _⟩, _⟩, hops⟩ := h
    simp only [defTight, Bool.and_eq_true] at ht
    obtain ⟨⟨⟨tdoc, tattrs⟩, tbases⟩, tops⟩ := ht
    exact tight_append (tight_append (tight_append (tight_append (tight_append (tight_append (tight_append
      (tight_def_head path doc attrs hdoc tdoc tattrs) rfl) (tight_ident _ _)) rfl)
      (tight_ite _ tight_nil (tight_append (by decide +kernel) (tight_flatMap_zipIdx bases _ fun b hb _ =>
        tight_append (tight_ite _ tight_nil (by decide +kernel)) (tight_tref _ b (List.all_eq_true.mp tbases b hb))))))
      (by decide +kernel))
      (tight_flatMap_zipIdx ops _ fun o ho _ =>
        tight_append (by decide +kernel) (tight_op _ o (List.all_eq_true.mp hops o ho) (List.all_eq_true.mp tops o ho))))
      (by decide +kernel)
  | case3 doc attrs compact unchecked name underlying es =>
    simp only [defOk, Bool.and_eq_true] at h
    obtain ⟨⟨⟨⟨hdoc, _⟩, _⟩, _⟩, hes⟩ := h
    simp only [defTight, Bool.and_eq_true] at ht
    obtain ⟨⟨⟨tdoc, tattrs⟩, tund⟩, tes⟩ := ht
    refine tight_append (tight_append (tight_append (tight_append (tight_append (tight_append (tight_append (tight_append
      (tight_def_head path doc attrs hdoc tdoc tattrs) rfl) (tight_ite _ (by decide +kernel) tight_nil))
      (tight_ite _ (by decide +kernel) tight_nil)) (by decide +kernel)) (tight_ident _ _)) rfl) ?_)
      (tight_membersBlock _ (tight_zipIdx_map es _ fun e he _ =>
        tight_enumerator _ e (List.all_eq_true.mp hes e he) (List.all_eq_true.mp tes e he)))
    cases underlying with
    | none => rfl
    | some u => exact tight_append (by decide +kernel) (tight_tref _ u tund)
  | case4 doc attrs name =>
    simp only [defOk, Bool.and_eq_true] at h
    simp only [defTight, Bool.and_eq_true] at ht
    exact tight_append (tight_append (tight_append (tight_def_head path doc attrs h.1.1 ht.1 ht.2) rfl)
      (tight_ident _ _)) rfl
  | case5 doc attrs name ty =>
    simp only [defOk, Bool.and_eq_true] at h
    simp only [defTight, Bool.and_eq_true] at ht
    exact tight_append (tight_append (tight_append (tight_append (tight_append
      (tight_def_head path doc attrs h.1.1.1 ht.1.1 ht.1.2) rfl) (tight_ident _ _)) rfl) (by decide +kernel))
      (tight_tref _ _ ht.2)

/-- C09's `printer_writes_tight_texts`; a tight text starts and ends with a token (`lexRunLoc_tight`) -/
theorem itemsTight_fileItems (f : SFile) (h : fileOk f = true) (ht : fileTight f = true) : itemsTight (fileItems f) = true := by
  simp only [fileOk, Bool.and_eq_true] at h
  obtain ⟨⟨_, _⟩, hdefs⟩ := h
  simp only [fileTight, Bool.and_eq_true] at ht
  obtain ⟨⟨tfa, tmod⟩, tdefs⟩ := ht
  unfold fileItems
  refine tight_append (tight_append
    (tight_flatMap_zipIdx f.fileAttrs _ fun a ha _ =>
      tight_append (tight_append (by decide +kernel) (tight_attr _ a (List.all_eq_true.mp tfa a ha))) (by decide +kernel)) ?_)
    (tight_flatMap_zipIdx f.defs _ fun d hd _ =>
      tight_append (tight_append (by decide +kernel) (tight_def _ d (List.all_eq_true.mp hdefs d hd) (List.all_eq_true.mp tdefs d hd))) (by decide +kernel))
  cases hm : f.module with
  | none => rfl
  | some m =>
    rw [hm] at tmod
    simp only [Bool.and_eq_true] at tmod
    exact tight_append (tight_localAttrs _ _ _ tmod.1 rfl)
      (tight_cons rfl (tight_cons (by decide +kernel) (tight_cons rfl (tight_cons rfl (tight_cons tmod.2 (by decide +kernel))))))

theorem tightText_escSeg (seg : String) (h : isIdentText seg.toList = true) : tightText (escSeg seg) = true :=
  tightText_identSpelling seg (keywords.contains seg) h

theorem tightText_segs {β : Type} (f : β → List Char) (l : List β) (hne : l ≠ []) (h : ∀ x ∈ l, tightText (f x) = true) :
    tightText ([':', ':'].intercalate (l.map f)) = true := by
  induction l with
  | nil => exact absurd rfl hne
  | cons x rest ih =>
    cases rest with
    | nil => exact List.intercalate_singleton ▸ h x (by simp)
    | cons y rest' =>
      rw [List.map_cons, List.map_cons, List.intercalate_cons_cons, ← List.map_cons]
      exact tightText_append_mid (f x) [':', ':'] _ (h x (by simp)) (ih (by simp) fun z hz => h z (by simp [hz]))

theorem tightText_dcolon {t : List Char} (h : tightText t = true) : tightText (':' :: ':' :: t) = true :=
  tightText_append_mid [':'] [':'] t (by decide) h

/-- C09's `tight_names_with_identifier_segments`: the criterion that gives the name condition of `fileOk`
    (`nameTextOk_of_segments`) gives that of `fileTight` as well -/
theorem tightText_of_segments (id : String) (h : nameSegsOk (id.splitOn "::") = true) :
    tightText (escapeScoped id).toList = true := by
  rw [escapeScoped_toList]
  obtain ⟨ss, hne, hall, e⟩ := nameSegsOk_cases _ h
  have hsegs := tightText_segs escSeg ss hne fun s hs => tightText_escSeg s (hall s hs)
  rcases e with e | e
  · rwa [e]
  · rw [e, escSeg_global ss hne]
    exact tightText_dcolon hsegs

theorem tightText_directive (segs : List String) (hne : segs ≠ []) (h : ∀ s ∈ segs, isIdentText s.toList = true) :
    tightText ("::".intercalate segs).toList = true := by
  rw [String.toList_intercalate, toList_dcolon]
  exact tightText_segs String.toList segs hne fun s hs => tightText_ident _ (h s hs)

end Slicec.SLex
