/-
  C06, from the declarative token stream to the character-level SPEC (`cspecFile`): the SPEC over the raw lines is the
  stack machine over the abstract lines of the file (`cspecRun_abs`; the line starts are cursors of the lexer model, passed
  with `Eats`), and these are the one line reading of the declarative token stream (`absLines_iff_toks`); hence the model
  against both line readings (`preprocess_iff_absLines`, `cspecFile_eq_preprocess`).
-/
import SlicecVerif.Lemmas.PreprocLines
import SlicecVerif.Lemmas.PreprocComplete

namespace Slicec.Pp

theorem locatedBlock_go_append (a b : List Char) : ∀ s : Loc,
    locatedBlock.go (a ++ b) s = locatedBlock.go a s ++ locatedBlock.go b (a.foldl advance s) := by
  induction a with
  | nil => intro s; rfl
  | cons c a ih =>
    intro s
    simp only [List.cons_append, locatedBlock.go, List.foldl_cons]
    split
    · exact ih _
    · rw [ih]; rfl

theorem locatedBlock_go_ws (a : List Char) (h : ∀ x ∈ a, isWs x = true) : ∀ s : Loc, locatedBlock.go a s = [] := by
  induction a with
  | nil => intro s; rfl
  | cons c a ih =>
    intro s
    simp only [locatedBlock.go, h c (by simp), ↓reduceIte]
    exact ih (fun x hx => h x (by simp [hx])) _

theorem locatedBlock_go_line (row : Nat) (l : List Char) (h : noNl l) : ∀ col : Nat,
    locatedBlock.go l ⟨row, col⟩ = locatedLine.go row l col := by
  induction l with
  | nil => intro col; rfl
  | cons c l ih =>
    intro col
    have hc : c ≠ '\n' := h c (by simp)
    simp only [locatedBlock.go, locatedLine.go, advance_noNl row col c hc]
    rw [ih (fun x hx => h x (by simp [hx]))]

/-- the located non-whitespace characters of `f[a, b)` -/
def lch (f : List Char) (a b : Nat) : List LChar := locatedBlock.go ((f.drop a).take (b - a)) (locAt f a)

theorem locatedBlock_eq_lch (f : List Char) (p e : Nat) :
    locatedBlock ⟨locAt f p, p, (f.drop p).take (e - p)⟩ = lch f p e := rfl

theorem lch_split (f : List Char) (a b c : Nat) (hab : a ≤ b) (hbc : b ≤ c) : lch f a c = lch f a b ++ lch f b c := by
  obtain ⟨m, rfl⟩ := Nat.exists_eq_add_of_le hab
  obtain ⟨n, rfl⟩ := Nat.exists_eq_add_of_le hbc
  unfold lch
  rw [Nat.add_sub_cancel_left, Nat.add_sub_cancel_left, Nat.add_assoc, Nat.add_sub_cancel_left, List.take_add, locatedBlock_go_append,
    List.drop_drop, ← locAt_add]

theorem lch_self (f : List Char) (a : Nat) : lch f a a = [] := by
  unfold lch; simp [locatedBlock.go]

/-- the directive a complete token list of one line spells (the `match` of `classify`) -/
def alineOf (toks : List PTok) : Option ALine :=
  match toks with
  | [.kw .define, .ident s, .dend] => some (.define s)
  | [.kw .undef, .ident s, .dend] => some (.undef s)
  | [.kw .else_, .dend] => some .else_
  | [.kw .endif, .dend] => some .endif
  | .kw .if_ :: r =>
    match parseExpr (parseFuel r) r with
    | some (e, [.dend]) => some (.if_ e)
    | _ => none
  | .kw .elif :: r =>
    match parseExpr (parseFuel r) r with
    | some (e, [.dend]) => some (.elif e)
    | _ => none
  | _ => none

theorem alineOf_sound (toks : List PTok) (a : ALine) (h : alineOf toks = some a) : toks = a.toks ∧ a.isSrc = false := by
  revert h
  fun_cases alineOf toks with
  | case1 s | case2 s | case3 | case4 => intro h; cases h; exact ⟨rfl, rfl⟩
  | case5 r e heq | case7 r e heq => intro h; cases h; exact ⟨by rw [(parseExpr_sound _).2.1 _ _ _ heq]; rfl, rfl⟩
  | case6 | case8 | case9 => exact fun h => nomatch h

theorem parseExpr_dend (e : PExpr) : parseExpr (parseFuel (e.toks ++ [.dend])) (e.toks ++ [.dend]) = some (e, [.dend]) :=
  parseExpr_print e _ [.dend] (by
    have := PExpr.size_le_toks e
    simp only [parseFuel, List.length_append, List.length_cons, List.length_nil]; omega) (by simp [noOp])

theorem alineOf_toks (a : ALine) (h : a.isSrc = false) : alineOf a.toks = some a := by
  cases a with
  | src b => cases h
  | define s => rfl
  | undef s => rfl
  | else_ => rfl
  | endif => rfl
  | if_ e => simp only [ALine.toks, alineOf, parseExpr_dend]
  | elif e => simp only [ALine.toks, alineOf, parseExpr_dend]

theorem dirLexR_noDend (n : Nat) (r : List Char) (x : List PTok × List Char) (h : dirLexR n r = some x) : PTok.dend ∉ x.1 := by
  fun_induction dirLexR n r generalizing x with
  | case1 => cases h
  | case2 => cases h
  | case3 => cases h; exact List.not_mem_nil
  | case4 n r t r1 _ ht ih =>
    obtain ⟨y, hy, rfl⟩ := Option.map_eq_some_iff.mp h
    exact fun hm => (List.mem_cons.mp hm).elim (fun e => ht e.symm) (ih y hy)

theorem dirLine_noDend (d : List Char) (ts : List PTok) (h : dirLine d = some ts) : PTok.dend ∉ ts := by
  obtain ⟨x, hx, rfl⟩ := Option.map_eq_some_iff.mp h
  exact dirLexR_noDend _ _ _ hx

theorem dirLine_hash (d' : List Char) (ts : List PTok) (h : dirLine ('#' :: d') = some ts) :
    ∃ k ts', ts = .kw k :: ts' := by
  -- what `next()` gives at the `#` is a keyword or a lexical error
  rw [dirLine, dirLexR, dirNextK_hash] at h
  have hk := kwK_cases d'
  generalize kwK d' = K at hk h
  obtain ⟨a, b⟩ := K
  rcases hk with ⟨k, hk⟩ | hk <;> subst hk
  · simp only [reduceCtorEq, ↓reduceIte, Option.map_map] at h
    obtain ⟨y, _, rfl⟩ := Option.map_eq_some_iff.mp h
    exact ⟨k, y.1, rfl⟩
  · cases h

/-- `classify` through `dirLine` instead of `lexPre` (`classify_eq`) -/
def lineKind (l : List Char) : LineKind :=
  match l.dropWhile isInlineWs with
  | [] => .blank
  | c :: d' =>
    if c ≠ '#' then .source
    else
      match (dirLine (c :: d')).bind (fun ts => alineOf (ts ++ [.dend])) with
      | some a => .dir a
      | none => .malformed

theorem classify_alineOf (toks : List PTok) :
    (match toks with
      | [.kw .define, .ident s, .dend] => LineKind.dir (.define s)
      | [.kw .undef, .ident s, .dend] => .dir (.undef s)
      | [.kw .else_, .dend] => .dir .else_
      | [.kw .endif, .dend] => .dir .endif
      | .kw .if_ :: r =>
        match parseExpr (parseFuel r) r with
        | some (e, [.dend]) => .dir (.if_ e)
        | _ => .malformed
      | .kw .elif :: r =>
        match parseExpr (parseFuel r) r with
        | some (e, [.dend]) => .dir (.elif e)
        | _ => .malformed
      | _ => .malformed) =
    match alineOf toks with
    | some a => .dir a
    | none => .malformed := by
  unfold alineOf
  split
  · rfl
  · rfl
  · rfl
  · rfl
  · split <;> rfl
  · split <;> rfl
  · rfl

theorem classify_eq (l : List Char) (hl : noNl l) : classify l = lineKind l := by
  unfold classify lineKind
  cases hd : l.dropWhile isInlineWs with
  | nil => rfl
  | cons c d' =>
    simp only
    by_cases hc : c = '#'
    · subst hc
      simp only [ne_eq, not_true_eq_false, ↓reduceIte]
      have hlex := lexPre_dirline l d' hl hd
      cases hdl : dirLine ('#' :: d') with
      | none =>
        obtain ⟨e, he⟩ := hlex.2 hdl
        rw [he]
        rfl
      | some ts =>
        rw [hlex.1 ts hdl]
        exact classify_alineOf _
    · simp [hc]

def flushLine (f : List Char) (pend : Option Nat) (e : Nat) : List ALine :=
  match pend with
  | none => []
  | some p => [.src ⟨locAt f p, p, (f.drop p).take (e - p)⟩]

def absLine (f d tl : List Char) (pend : Option Nat) (k : Option Nat → Option (List ALine)) : Option (List ALine) :=
  match d with
  | [] => k pend
  | c :: d' =>
    if c = '#' then
      match (dirLine (c :: d')).bind (fun ts => alineOf (ts ++ [.dend])) with
      | none => none
      | some a => (k none).map (fun rest => flushLine f pend (f.length - (c :: d' ++ tl).length) ++ a :: rest)
    else k (some (pend.getD (f.length - (c :: d' ++ tl).length)))

/-- the abstract lines of the raw lines `ls`: one `src` line per maximal run of non-directive lines containing a source
    line, one directive line per well-formed directive; `none` = some directive line is malformed -/
def absLines (f : List Char) : List (List Char) → Option Nat → Option (List ALine)
  | [], pend => some (flushLine f pend f.length)
  | l :: ls, pend => absLine f (l.dropWhile isInlineWs) (tailLines ls) pend (absLines f ls)

theorem linesToks_flushLine (f : List Char) (pend : Option Nat) (e : Nat) :
    linesToks (flushLine f pend e) = flushTok f pend e := by
  cases pend <;> rfl

mutual
  theorem PExpr.noDend : ∀ e : PExpr, PTok.dend ∉ e.toks
    | .term t => by simp only [PExpr.toks]; exact PTerm.noDend t
    | .not t => by simp only [PExpr.toks, List.mem_cons, reduceCtorEq, false_or]; exact PTerm.noDend t
    | .and e t => by
      simp only [PExpr.toks, List.mem_append, List.mem_cons, reduceCtorEq, false_or, not_or]
      exact ⟨PExpr.noDend e, PTerm.noDend t⟩
    | .or e t => by
      simp only [PExpr.toks, List.mem_append, List.mem_cons, reduceCtorEq, false_or, not_or]
      exact ⟨PExpr.noDend e, PTerm.noDend t⟩
  theorem PTerm.noDend : ∀ t : PTerm, PTok.dend ∉ t.toks
    | .sym _ => by simp [PTerm.toks]
    | .paren e => by
      simp only [PTerm.toks, List.mem_cons, List.mem_append, reduceCtorEq, false_or, or_false, List.mem_nil_iff]
      exact PExpr.noDend e
end

theorem ALine.toks_dir (a : ALine) (h : a.isSrc = false) :
    ∃ k body, a.toks = (.kw k :: body) ++ [.dend] ∧ PTok.dend ∉ (PTok.kw k :: body) := by
  cases a with
  | src b => simp [ALine.isSrc] at h
  | define s => exact ⟨.define, [.ident s], rfl, by simp⟩
  | undef s => exact ⟨.undef, [.ident s], rfl, by simp⟩
  | else_ => exact ⟨.else_, [], rfl, by simp⟩
  | endif => exact ⟨.endif, [], rfl, by simp⟩
  | if_ e => exact ⟨.if_, e.toks, rfl, by simpa using PExpr.noDend e⟩
  | elif e => exact ⟨.elif, e.toks, rfl, by simpa using PExpr.noDend e⟩

theorem ALine.toks_ne_nil (a : ALine) : a.toks ≠ [] := by
  cases a <;> simp [ALine.toks]

theorem linesToks_nil (als : List ALine) (h : linesToks als = []) : als = [] := by
  cases als with
  | nil => rfl
  | cons a als =>
    rw [linesToks_cons] at h
    exact absurd (List.append_eq_nil_iff.mp h).1 (ALine.toks_ne_nil a)

theorem linesToks_block (als : List ALine) (b : Block) (rest : List PTok) (h : linesToks als = .block b :: rest) :
    ∃ als', als = .src b :: als' ∧ linesToks als' = rest := by
  cases als with
  | nil => simp [linesToks] at h
  | cons a als =>
    rw [linesToks_cons] at h
    cases a with
    | src b' =>
      simp only [ALine.toks, List.cons_append, List.nil_append, List.cons.injEq, PTok.block.injEq] at h
      exact ⟨als, by rw [h.1], h.2⟩
    | _ => simp [ALine.toks] at h

theorem linesToks_dir (als : List ALine) (k : PKw) (ts' rest : List PTok) (hnd : PTok.dend ∉ (PTok.kw k :: ts'))
    (h : linesToks als = (.kw k :: ts') ++ .dend :: rest) :
    ∃ a als', als = a :: als' ∧ a.isSrc = false ∧ a.toks = (.kw k :: ts') ++ [.dend] ∧ linesToks als' = rest := by
  cases als with
  | nil => simp [linesToks] at h
  | cons a als =>
    rw [linesToks_cons] at h
    cases hs : a.isSrc with
    | true =>
      cases a <;> simp [ALine.isSrc] at hs
      simp [ALine.toks] at h
    | false =>
      obtain ⟨k', body, hb, hnb⟩ := ALine.toks_dir a hs
      rw [hb, List.append_assoc] at h
      simp only [List.cons_append, List.nil_append] at h
      have := split_first PTok.dend (.kw k' :: body) (.kw k :: ts') (linesToks als) rest hnb hnd (by simpa using h)
      exact ⟨a, als, rfl, hs, by rw [hb, this.1], this.2⟩

theorem linesToks_flush (f : List Char) (pend : Option Nat) (e : Nat) (als : List ALine) (rest : List PTok)
    (h : linesToks als = flushTok f pend e ++ rest) : ∃ als', als = flushLine f pend e ++ als' ∧ linesToks als' = rest := by
  cases pend with
  | none => exact ⟨als, rfl, h⟩
  | some p => exact linesToks_block als _ _ h

theorem absLines_iff_toks (f : List Char) : ∀ (ls : List (List Char)) (pend : Option Nat) (als : List ALine),
    absLines f ls pend = some als ↔ declLines f ls pend = some (linesToks als) := by
  intro ls
  induction ls with
  | nil =>
    intro pend als
    rw [absLines, declLines, Option.some.injEq, Option.some.injEq]
    constructor
    · rintro rfl; exact (linesToks_flushLine f pend _).symm
    · intro h
      obtain ⟨als', rfl, h'⟩ := linesToks_flush f pend f.length als [] (by rw [List.append_nil, h])
      rw [linesToks_nil als' h', List.append_nil]
  | cons l ls ih =>
    intro pend als
    rw [absLines, declLines]
    unfold absLine declLine
    cases hd : l.dropWhile isInlineWs with
    | nil => exact ih _ _
    | cons c d' =>
      simp only
      by_cases hc : c = '#'
      · subst hc
        simp only [↓reduceIte]
        cases hdl : dirLine ('#' :: d') with
        | none => simp
        | some ts =>
          simp only [Option.bind_some]
          constructor
          · intro h
            cases hal : alineOf (ts ++ [.dend]) with
            | none => rw [hal] at h; cases h
            | some a =>
              rw [hal] at h
              obtain ⟨rest, hk, rfl⟩ := Option.map_eq_some_iff.mp h
              rw [(ih none rest).mp hk]
              simp only [Option.map, linesToks_append, linesToks_cons, linesToks_flushLine, ← (alineOf_sound _ _ hal).1,
                List.append_assoc, List.cons_append, List.nil_append]
          · intro h
            obtain ⟨rest, hk, h⟩ := Option.map_eq_some_iff.mp h
            obtain ⟨k, ts', rfl⟩ := dirLine_hash d' ts hdl
            -- peel the flushed block, then the directive line
            obtain ⟨als1, rfl, h1⟩ := linesToks_flush f pend _ als (PTok.kw k :: ts' ++ .dend :: rest)
              (by rw [← h, List.append_assoc])
            obtain ⟨a, als2, rfl, e2, e3, e4⟩ := linesToks_dir als1 k ts' rest (dirLine_noDend _ _ hdl) h1
            rw [← e3, alineOf_toks a e2, (ih none als2).mpr (by rw [hk, e4])]
            rfl
      · simp only [hc, ↓reduceIte]
        exact ih _ _

theorem isWs_of_inline (x : Char) (h : isInlineWs x = true) : isWs x = true := by
  simp only [isInlineWs, Bool.and_eq_true] at h; exact h.1

theorem Eats.lch {f : List Char} {a b : Cur} {p : List Char} (h : Eats a p b) (ha : CurInv f a) :
    lch f a.off b.off = locatedBlock.go p a.loc := by
  unfold Pp.lch
  rw [h.off, Nat.add_sub_cancel_left, ← ha.rest, h.rest, List.take_left, ha.loc]

theorem line_facts (f l : List Char) (ls : List (List Char)) (c : Cur) (row : Nat) (hl : noNl l) (hc : CurInv f c)
    (hrest : c.rest = l ++ tailLines ls) (hloc : c.loc = ⟨row, 1⟩) :
    ∃ c', CurInv f c' ∧ c.off + l.length ≤ c'.off ∧ c'.rest = joinLines ls ∧ (ls ≠ [] → c'.loc = ⟨row + 1, 1⟩) ∧
      lch f c.off c'.off = locatedLine row l := by
  cases ls with
  | nil =>
    have he : Eats c l ⟨[], c.off + l.length, l.foldl advance c.loc⟩ := ⟨by rw [hrest]; rfl, rfl, rfl⟩
    exact ⟨_, he.inv hc, Nat.le_refl _, rfl, fun h => absurd rfl h,
      by rw [he.lch hc, hloc, locatedBlock_go_line row l hl]; rfl⟩
  | cons l2 ls2 =>
    have he : Eats c (l ++ ['\n']) ⟨l2 ++ tailLines ls2, c.off + (l ++ ['\n']).length, (l ++ ['\n']).foldl advance c.loc⟩ :=
      ⟨by rw [hrest, tailLines, List.append_assoc]; rfl, rfl, rfl⟩
    refine ⟨_, he.inv hc, by simp, rfl, fun _ => ?_, ?_⟩
    · simp [hloc, foldl_advance_noNl l hl, advance]
    · rw [he.lch hc, hloc, locatedBlock_go_append, locatedBlock_go_line row l hl]
      simp only [locatedBlock.go, isWs_nl, ↓reduceIte, List.append_nil]
      rfl

/-- `f.length - (ch :: d' ++ tl).length`, how `absLine` names a place, is the offset of the first non-blank character -/
theorem ws_facts (f l tl : List Char) (c : Cur) (ch : Char) (d' : List Char) (hc : CurInv f c) (hrest : c.rest = l ++ tl)
    (hd : l.dropWhile isInlineWs = ch :: d') :
    ∃ c1 : Cur, f.length - (ch :: d' ++ tl).length = c1.off ∧ c.off ≤ c1.off ∧ c1.off ≤ c.off + l.length ∧
      lch f c.off c1.off = [] := by
  have he : Eats c (l.takeWhile isInlineWs)
      ⟨ch :: d' ++ tl, c.off + (l.takeWhile isInlineWs).length, (l.takeWhile isInlineWs).foldl advance c.loc⟩ :=
    ⟨by rw [hrest, ← hd, ← List.append_assoc, List.takeWhile_append_dropWhile], rfl, rfl⟩
  exact ⟨_, (he.inv hc).off_eq.symm, he.le, Nat.add_le_add_left (List.takeWhile_sublist _).length_le _,
    by rw [he.lch hc]; exact locatedBlock_go_ws _ (fun x hx => isWs_of_inline x (of_mem_takeWhile hx)) _⟩

/-- the characters already emitted for the pending block -/
def pendChars (f : List Char) (pend : Option Nat) (stk : List Frame) (e : Nat) : List LChar :=
  match pend with
  | some p => if allActive stk then lch f p e else []
  | none => []

def specToC (r : Option SpecSt) : Option CSpecSt :=
  r.bind fun s' => if s'.stack.isEmpty then some ⟨s'.stack, s'.out.syms, s'.out.blocks.flatMap locatedBlock⟩ else none

theorem specRun_flush (f : List Char) (pend : Option Nat) (here e : Nat) (stk : List Frame) (bl : List Block) (syms : Syms)
    (hp : ∀ p, pend = some p → p ≤ e) (hle : e ≤ here) (hws : lch f e here = []) :
    ∃ bl', (∀ rest, specRun ⟨stk, ⟨bl, syms⟩⟩ (flushLine f pend here ++ rest) = specRun ⟨stk, ⟨bl', syms⟩⟩ rest) ∧
      bl'.flatMap locatedBlock = bl.flatMap locatedBlock ++ pendChars f pend stk e := by
  cases pend with
  | none => exact ⟨bl, fun _ => rfl, by simp [pendChars]⟩
  | some p =>
    have hpe := hp p rfl
    simp only [flushLine, List.cons_append, List.nil_append, specRun, specStep, pendChars]
    cases allActive stk with
    | true =>
      refine ⟨_, fun _ => rfl, ?_⟩
      simp only [↓reduceIte, List.flatMap_append, List.flatMap_cons, List.flatMap_nil, List.append_nil]
      rw [locatedBlock_eq_lch, lch_split f p e here hpe hle, hws, List.append_nil]
    | false => exact ⟨bl, fun _ => rfl, by simp⟩

theorem cspecRun_cons (l : List Char) (ls : List (List Char)) (row : Nat) (st : CSpecSt) :
    cspecRun (l :: ls) row st =
      match classify l with
      | .blank => cspecRun ls (row + 1) st
      | .source => cspecRun ls (row + 1) ⟨st.stack, st.syms, st.out ++ if allActive st.stack then locatedLine row l else []⟩
      | .malformed => none
      | .dir a => (specStep ⟨st.stack, ⟨[], st.syms⟩⟩ a).bind fun st' => cspecRun ls (row + 1) ⟨st'.stack, st'.out.syms, st.out⟩ := by
  rw [cspecRun]
  cases classify l with
  | blank => rfl
  | malformed => rfl
  | source =>
    cases allActive st.stack with
    | true => rfl
    | false => simp
  | dir a =>
    simp only
    cases specStep ⟨st.stack, ⟨[], st.syms⟩⟩ a <;> rfl

theorem pendChars_extend (f : List Char) (pend : Option Nat) (stk : List Frame) (e e' : Nat)
    (hp : ∀ p, pend = some p → p ≤ e) (hle : e ≤ e') :
    pendChars f pend stk e' = pendChars f pend stk e ++ (if pend.isSome && allActive stk then lch f e e' else []) := by
  cases pend with
  | none => simp [pendChars]
  | some p =>
    simp only [pendChars, Option.isSome_some, Bool.true_and]
    cases allActive stk with
    | true => simp only [↓reduceIte]; exact lch_split f p e e' (hp p rfl) hle
    | false => simp

theorem pendChars_open (f : List Char) (pend : Option Nat) (stk : List Frame) (e here e' : Nat)
    (hp : ∀ p, pend = some p → p ≤ e) (h1 : e ≤ here) (h2 : here ≤ e') (hws : lch f e here = []) :
    pendChars f (some (pend.getD here)) stk e' = pendChars f pend stk e ++ if allActive stk then lch f e e' else [] := by
  cases pend with
  | none =>
    simp only [pendChars, Option.getD, List.nil_append]
    rw [lch_split f e here e' h1 h2, hws, List.nil_append]
  | some q => simpa using pendChars_extend f (some q) stk e e' hp (Nat.le_trans h1 h2)

/-- `ls` are the lines from the cursor `c` (at the start of a line, on row `row`) on, `pend` the open source block, `bl` the
    blocks closed so far -/
theorem cspecRun_abs (f : List Char) : ∀ (ls : List (List Char)), (∀ l ∈ ls, noNl l) →
    ∀ (row : Nat) (c : Cur) (pend : Option Nat) (stk : List Frame) (syms : Syms) (out : List LChar) (bl : List Block),
      CurInv f c → c.rest = joinLines ls → (ls ≠ [] → c.loc = ⟨row, 1⟩) → (∀ p, pend = some p → p ≤ c.off) →
      out = bl.flatMap locatedBlock ++ pendChars f pend stk c.off →
      cspecRun ls row ⟨stk, syms, out⟩ =
        (absLines f ls pend).bind fun als => specToC (specRun ⟨stk, ⟨bl, syms⟩⟩ als) := by
  intro ls
  induction ls with
  | nil =>
    intro _ row c pend stk syms out bl hc hrest _ hp hout
    have hef : c.off = f.length := by rw [hc.off_eq, hrest]; rfl
    rw [hef] at hp hout
    obtain ⟨bl', h1, h2⟩ := specRun_flush f pend f.length f.length stk bl syms hp (Nat.le_refl _) (lch_self f _)
    simp only [absLines, Option.bind]
    rw [← List.append_nil (flushLine f pend f.length), h1]
    simp only [specRun, specToC, Option.bind, cspecRun, h2, ← hout]
  | cons l ls ih =>
    intro hnl row c pend stk syms out bl hc hrest hloc hp hout
    have hl : noNl l := hnl l (by simp)
    have hnl' : ∀ l' ∈ ls, noNl l' := fun l' hl' => hnl l' (by simp [hl'])
    obtain ⟨c', hc', hle, hrest', hloc', hlch⟩ := line_facts f l ls c row hl hc hrest (hloc (by simp))
    have hp' : ∀ p, pend = some p → p ≤ c'.off := fun p h => Nat.le_trans (hp p h) (by omega)
    rw [cspecRun_cons, classify_eq l hl]
    unfold lineKind absLines absLine
    cases hd : l.dropWhile isInlineWs with
    | nil =>
      have hnone : locatedLine row l = [] :=
        (locatedBlock_go_line row l hl 1).symm.trans
          (locatedBlock_go_ws l (fun x hx => isWs_of_inline x (List.all_eq_true.mp (dropWhile_eq_nil_iff.mp hd) x hx)) _)
      refine ih hnl' (row + 1) c' pend stk syms out bl hc' hrest' hloc' hp' ?_
      rw [pendChars_extend f pend stk c.off c'.off hp (by omega), hlch, hnone, ite_self, List.append_nil]
      exact hout
    | cons ch d' =>
      obtain ⟨c1, hhere, h1, h2, hws⟩ := ws_facts f l (tailLines ls) c ch d' hc hrest hd
      simp only
      rw [hhere]
      by_cases hch : ch = '#'
      · -- a directive line: close the open block, step, go on with no open block
        subst hch
        simp only [ne_eq, not_true_eq_false, ↓reduceIte]
        cases hal : (dirLine ('#' :: d')).bind (fun ts => alineOf (ts ++ [.dend])) with
        | none => rfl
        | some a =>
          obtain ⟨ts, _, hts⟩ := Option.bind_eq_some_iff.mp hal
          obtain ⟨bl', hfl, hbl'⟩ := specRun_flush f pend c1.off c.off stk bl syms hp h1 hws
          have hR : ∀ rest, specToC (specRun ⟨stk, ⟨bl, syms⟩⟩ (flushLine f pend c1.off ++ a :: rest)) =
              (specStep ⟨stk, ⟨[], syms⟩⟩ a).bind fun st' => specToC (specRun ⟨st'.stack, ⟨bl', st'.out.syms⟩⟩ rest) := by
            intro rest
            rw [hfl, specRun, specStep_blocks stk bl' syms a (alineOf_sound _ _ hts).2]
            cases specStep ⟨stk, ⟨[], syms⟩⟩ a <;> rfl
          simp only [Option.bind_map, Function.comp_def, hR]
          rw [Option.bind_comm]
          exact congrArg _ (funext fun st' => ih hnl' (row + 1) c' none st'.stack st'.out.syms out bl' hc' hrest' hloc'
            (fun p h => by cases h) (by rw [hbl']; exact hout.trans (List.append_nil _).symm))
      · simp only [ne_eq, hch, not_false_eq_true, ↓reduceIte]
        have hle2 : c1.off ≤ c'.off := by omega
        refine ih hnl' (row + 1) c' _ stk syms _ bl hc' hrest' hloc' (fun p h => ?_) ?_
        · cases h
          cases pend with
          | none => exact hle2
          | some q => exact hp' q rfl
        · rw [pendChars_open f pend stk c.off _ c'.off hp h1 hle2 hws, hlch, ← List.append_assoc, ← hout]

theorem cspecFile_eq (f : List Char) (D : Syms) :
    cspecFile f D = (absLines f (splitLines f) none).bind fun als =>
      (specFile als D).map fun o => (o.blocks.flatMap locatedBlock, o.syms) := by
  obtain ⟨hj, hnl, hne⟩ := splitLines_spec f
  unfold cspecFile
  rw [cspecRun_abs f (splitLines f) hnl 1 (lexInit f).cur none [] D [] [] ⟨Nat.zero_le _, rfl, rfl⟩ hj.symm (fun _ => rfl)
    (fun p h => by cases h) (by simp [pendChars])]
  cases absLines f (splitLines f) none with
  | none => rfl
  | some als =>
    simp only [Option.bind, specFile, specToC]
    cases specRun ⟨[], ⟨[], D⟩⟩ als with
    | none => rfl
    | some s' =>
      obtain ⟨stk, o⟩ := s'
      cases stk <;> rfl

/-- The lexer gives the declarative token stream (`lexPre_ok_iff`); an accepted stream is the printed form of its tree
    (`parsePre_sound`) and comes from exactly the lines of that tree (`absLines_iff_toks`), on which the stack machine
    computes `evalNodes` (`specFile_tree`); conversely a balanced run of lines is parsed (`parsePre_of_lines`). -/
theorem preprocess_iff_absLines (f : List Char) (D : Syms) (bs : List Block) (D' : Syms) :
    preprocess f D = .ok (bs, D') ↔
      ∃ als out, absLines f (splitLines f) none = some als ∧ specFile als D = some out ∧ bs = out.blocks ∧ D' = out.syms := by
  constructor
  · fun_cases preprocess f D with
    | case3 toks hl ns hp =>
      intro h
      cases h
      refine ⟨ns.lines, _, (absLines_iff_toks f _ _ _).mpr ?_, specFile_tree ns D, rfl, rfl⟩
      rw [(lexPre_ok_iff f toks).mp hl, parsePre_sound toks ns hp]
      rfl
    | _ => exact fun h => nomatch h
  · rintro ⟨als, out, h1, h2, rfl, rfl⟩
    have hl := (lexPre_ok_iff f _).mpr ((absLines_iff_toks f _ _ _).mp h1)
    obtain ⟨ns, hp, hns⟩ := parsePre_of_lines als D (by rw [h2]; simp)
    have ht := specFile_tree ns D
    rw [hns, h2] at ht
    simp only [preprocess, hl, hp, ← Option.some.inj ht]

theorem cspecFile_eq_preprocess (f : List Char) (D : Syms) :
    cspecFile f D = match preprocess f D with
      | .ok (bs, D') => some (bs.flatMap locatedBlock, D')
      | .error _ => none := by
  rw [cspecFile_eq]
  cases hp : preprocess f D with
  | ok x =>
    obtain ⟨als, out, h1, h2, h3, h4⟩ := (preprocess_iff_absLines f D x.1 x.2).mp hp
    simp [h1, h2, h3, h4]
  | error r =>
    cases h1 : absLines f (splitLines f) none with
    | none => rfl
    | some als =>
      cases h2 : specFile als D with
      | none => simp [h2]
      | some out => rw [(preprocess_iff_absLines f D _ _).mpr ⟨als, out, h1, h2, rfl, rfl⟩] at hp; cases hp

end Slicec.Pp
