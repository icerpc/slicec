/-
  Lemmas for C13 (Model/Lints.lean). First what needs no program: suppression as statements (`NamedBy`, `NamedByAttrs`) and
  one step of `into_updated` in closed form against them (`updateOne_eq`); on allowable identifiers every comparison in play
  is equality; from these the equivalence for one lint and any configuration (`silences_eq_demands`). Then programs: the
  `allow` table holds every element a lint can concern under the scope string the lint records, with the element's own
  `allow`s and its parents' (`lintSites_ok`).
-/
import SlicecVerif.Model.Lints
import SlicecVerif.Lemmas.Basic

namespace Slicec

/-- `is_lint_allowed_by` as a statement -/
def NamedBy (ids : List String) (code : String) : Prop :=
  ∃ id ∈ ids, lintIdEq id Gen.allowAllIdentifier = true ∨ lintIdEq id code = true

/-- `is_lint_allowed_by_attributes` as a statement -/
def NamedByAttrs (allows : List (List String)) (code : String) : Prop := ∃ a ∈ allows, NamedBy a code

theorem isLintAllowedBy_iff (ids : List String) (code : String) : isLintAllowedBy ids code = true ↔ NamedBy ids code := by
  simp [isLintAllowedBy, NamedBy, List.any_eq_true]

theorem isLintAllowedByAttributes_iff (allows : List (List String)) (code : String) :
    isLintAllowedByAttributes allows code = true ↔ NamedByAttrs allows code := by
  simp [isLintAllowedByAttributes, NamedByAttrs, List.any_eq_true, isLintAllowedBy_iff]

/-- the file check of the loop body of `into_updated` -/
def FileNames (env : AllowEnv) (d : Diag) : Prop := ∃ f, d.spanFile = some f ∧ NamedByAttrs (env.fileAllows f) d.code

/-- the scope check of that loop body -/
def ScopeNames (env : AllowEnv) (d : Diag) : Prop :=
  ∃ s as, d.scope = some s ∧ env.scopeAllows s = some as ∧ NamedByAttrs as d.code

/-- the three checks of that loop body as one Boolean -/
def silences (env : AllowEnv) (d : Diag) : Bool :=
  isLintAllowedBy env.cli d.code ||
  (d.spanFile.any fun f => isLintAllowedByAttributes (env.fileAllows f) d.code) ||
  (d.scope.any fun s => (env.scopeAllows s).any fun as => isLintAllowedByAttributes as d.code)

theorem allowedIf_or (a b : Bool) (l : Level) :
    (if b then Level.allowed else if a then .allowed else l) = if a || b then .allowed else l := by
  cases a <;> cases b <;> rfl

/-- each check can only raise the level to `Allowed`, so the three in a row are one conditional -/
theorem updateLevel_eq (env : AllowEnv) (d : Diag) :
    updateLevel env d = if silences env d then .allowed else d.level := by
  unfold updateLevel silences
  rcases d.spanFile with _ | f <;> rcases d.scope with _ | s <;>
    simp only [allowedIf_or, Option.any_none, Option.any_some, Bool.or_false]
  all_goals split <;> simp only [*, Option.any_none, Option.any_some, Bool.or_false]

theorem silences_iff (env : AllowEnv) (d : Diag) :
    silences env d = true ↔ NamedBy env.cli d.code ∨ FileNames env d ∨ ScopeNames env d := by
  simp only [silences, FileNames, ScopeNames, Bool.or_eq_true, Option.any_eq_true, isLintAllowedBy_iff,
    isLintAllowedByAttributes_iff, or_assoc, exists_and_left]

theorem updateOne_eq (env : AllowEnv) (d : Diag) :
    updateOne env d = { d with level := if !d.isError && silences env d then .allowed else d.level } := by
  obtain ⟨c, e, l, f, s⟩ := d
  cases e
  · simp only [updateOne, Bool.false_eq_true, if_false, updateLevel_eq, Bool.not_false, Bool.true_and]
  · rfl

/-- errors carry level `Error`, lints never do (this is what `Diagnostic::new` establishes: `default_level_not_error`) -/
def DiagWellFormed (d : Diag) : Prop := (d.isError = true → d.level = .error) ∧ (d.isError = false → d.level ≠ .error)

theorem updateOne_isError_level (env : AllowEnv) (d : Diag) (h : DiagWellFormed d) :
    ((updateOne env d).level == Level.error) = (d.level == Level.error) := by
  rw [updateOne_eq]
  cases he : d.isError
  · simp only [Bool.not_false, Bool.true_and]
    split
    · exact (beq_eq_false_iff_ne.mpr (h.2 he)).symm
    · rfl
  · rfl

/-- `is_lint_allowed_by` compares with `eq_ignore_ascii_case` (the extracted flag `Gen.allowCompareIgnoresCase`; against a
    source that compares with `==` this does not compile), so "occurs" is equality up to ASCII letter case -/
theorem lintIdEq_eq (a b : String) : lintIdEq a b = eqIgnoreAsciiCase a b := if_pos rfl

theorem namedBy_ignoreCase (ids : List String) (code : String) :
    NamedBy ids code ↔ ∃ id ∈ ids, eqIgnoreAsciiCase id Gen.allowAllIdentifier = true ∨ eqIgnoreAsciiCase id code = true := by
  simp only [NamedBy, lintIdEq_eq]

theorem namedByCli_iff (cli : List String) (code : String) :
    namedByCli cli code = true ↔
      ∃ v ∈ cli, cliAccepts v = true ∧ (eqIgnoreAsciiCase v Gen.allowAllIdentifier = true ∨ eqIgnoreAsciiCase v code = true) := by
  simp [namedByCli, List.any_eq_true]

theorem namedBy_iff_namedByCli (cli : List String) (code : String) (hacc : ∀ v ∈ cli, cliAccepts v = true) :
    NamedBy cli code ↔ namedByCli cli code = true := by
  rw [namedBy_ignoreCase, namedByCli_iff]
  exact exists_congr fun v => and_congr_right fun hv => (and_iff_right (hacc v hv)).symm

theorem namedByAttrs_iff (allows : List (List String)) (code : String) :
    namedByAttrs allows code = true ↔ ∃ a ∈ allows, ∃ id ∈ a, id = Gen.allowAllIdentifier ∨ id = code := by
  simp [namedByAttrs, List.any_eq_true]

theorem eqIgnoreAsciiCase_refl (a : String) : eqIgnoreAsciiCase a a = true := beq_self_eq_true _

theorem eqIgnoreAsciiCase_comm (a b : String) : eqIgnoreAsciiCase a b = eqIgnoreAsciiCase b a := BEq.comm

theorem allowable_pairwise_differ :
    Gen.allowableLintIdentifiers.Pairwise fun a b => eqIgnoreAsciiCase a b = false := by decide +kernel

theorem eqIgnoreAsciiCase_allowable :
    ∀ a ∈ Gen.allowableLintIdentifiers, ∀ b ∈ Gen.allowableLintIdentifiers, (eqIgnoreAsciiCase a b = true ↔ a = b) := by
  intro a ha b hb
  refine ⟨fun ht => ?_, fun e => e ▸ eqIgnoreAsciiCase_refl a⟩
  rcases pairwise_mem_cases (fun h => (eqIgnoreAsciiCase_comm _ _).trans h) allowable_pairwise_differ a ha b hb with e | hf
  · exact e
  · rw [hf] at ht; cases ht

theorem cliAccepts_allowable : ∀ a ∈ Gen.allowableLintIdentifiers, cliAccepts a = true :=
  fun a ha => List.any_eq_true.2 ⟨a, ha, eqIgnoreAsciiCase_refl a⟩

theorem all_allowable : Gen.allowAllIdentifier ∈ Gen.allowableLintIdentifiers := by decide

theorem namedBy_exact (ids : List String) (code : String) (hids : ∀ v ∈ ids, v ∈ Gen.allowableLintIdentifiers)
    (hcode : code ∈ Gen.allowableLintIdentifiers) :
    NamedBy ids code ↔ ∃ id ∈ ids, id = Gen.allowAllIdentifier ∨ id = code :=
  (namedBy_ignoreCase ids code).trans <| exists_congr fun id => and_congr_right fun hid =>
    or_congr (eqIgnoreAsciiCase_allowable id (hids id hid) _ all_allowable) (eqIgnoreAsciiCase_allowable id (hids id hid) _ hcode)

theorem namedByCli_exact (ids : List String) (code : String) (hids : ∀ v ∈ ids, v ∈ Gen.allowableLintIdentifiers)
    (hcode : code ∈ Gen.allowableLintIdentifiers) :
    namedByCli ids code = true ↔ ∃ id ∈ ids, id = Gen.allowAllIdentifier ∨ id = code :=
  (namedBy_iff_namedByCli ids code fun v hv => cliAccepts_allowable v (hids v hv)).symm.trans (namedBy_exact ids code hids hcode)

theorem namedByAttrs_exact (allows : List (List String)) (code : String)
    (hids : ∀ a ∈ allows, ∀ v ∈ a, v ∈ Gen.allowableLintIdentifiers) (hcode : code ∈ Gen.allowableLintIdentifiers) :
    NamedByAttrs allows code ↔ namedByAttrs allows code = true :=
  (exists_congr fun a => and_congr_right fun ha => namedBy_exact a code (hids a ha) hcode).trans (namedByAttrs_iff allows code).symm

theorem kinds_allowable : ∀ k ∈ Gen.lintKinds, k ∈ Gen.allowableLintIdentifiers := by decide +kernel

theorem default_level_not_error : ∀ k ∈ Gen.lintKinds, lintDefaultLevel k = .warning := by decide +kernel

/-- every creation site of every lint kind records its scope by a rule the model knows (nothing uses this: a new lint kind
    with a creation site unknown to the model stops it from compiling) -/
theorem scope_rules_known : ∀ k ∈ Gen.lintKinds, scopeRule k ≠ .unknown := by decide +kernel

theorem cliParse_some {vs cli : List String} (h : cliParse vs = some cli) : cli = vs ∧ ∀ v ∈ cli, cliAccepts v = true := by
  obtain ⟨hall, h⟩ := Option.ite_none_right_eq_some.1 h
  cases h
  exact ⟨rfl, List.all_eq_true.1 hall⟩

theorem allowable_of_not_invalid {v : String} (h : (!allowArgInvalid v) = true) : v ∈ Gen.allowableLintIdentifiers := by
  unfold allowArgInvalid at h
  simp only [Bool.not_or, Bool.not_not, Bool.and_eq_true] at h
  exact List.contains_iff_mem.1 h.1

theorem siteArgsOk_mem {p : Program} {s : LintSite} (h : siteArgsOk p s = true) :
    (∀ a ∈ fileAllowsOf p s.file, ∀ v ∈ a, v ∈ Gen.allowableLintIdentifiers) ∧
    (∀ a ∈ s.chain, ∀ v ∈ a, v ∈ Gen.allowableLintIdentifiers) :=
  List.forall_mem_append.1 fun a ha v hv => allowable_of_not_invalid (List.all_eq_true.1 (List.all_eq_true.1 h a ha) v hv)

/-- what the property demands of one lint: the three checks of `silences` with the exact naming of the specification
    (`namedByCli`, `namedByAttrs`) in place of the comparisons of the code -/
def demands (env : AllowEnv) (d : Diag) : Bool :=
  namedByCli env.cli d.code ||
  (d.spanFile.any fun f => namedByAttrs (env.fileAllows f) d.code) ||
  (d.scope.any fun k => (env.scopeAllows k).any fun as => namedByAttrs as d.code)

/-- the right-hand side is `C13.Demanded env d d.scope` -/
theorem demands_iff (env : AllowEnv) (d : Diag) :
    demands env d = true ↔ namedByCli env.cli d.code = true ∨
      (∃ f, d.spanFile = some f ∧ namedByAttrs (env.fileAllows f) d.code = true) ∨
      (∃ k as, d.scope = some k ∧ env.scopeAllows k = some as ∧ namedByAttrs as d.code = true) := by
  simp only [demands, Bool.or_eq_true, Option.any_eq_true, or_assoc, exists_and_left]

/-- on accepted command line values and allowable attribute arguments each check of the code is the exact naming of the
    specification. Only the `allow` attributes in play for this lint — those of the file its span lies in (`hfile`) and of the
    entity its scope string names (`hent`) — need to have passed `Allow::parse_from` -/
theorem silences_eq_demands (env : AllowEnv) (d : Diag) (hcode : d.code ∈ Gen.allowableLintIdentifiers)
    (hcli : ∀ v ∈ env.cli, cliAccepts v = true)
    (hfile : ∀ f, d.spanFile = some f → ∀ a ∈ env.fileAllows f, ∀ v ∈ a, v ∈ Gen.allowableLintIdentifiers)
    (hent : ∀ k as, d.scope = some k → env.scopeAllows k = some as → ∀ a ∈ as, ∀ v ∈ a, v ∈ Gen.allowableLintIdentifiers) :
    silences env d = demands env d :=
  Bool.eq_iff_iff.2 <| (silences_iff env d).trans <| (or_congr (namedBy_iff_namedByCli env.cli d.code hcli) (or_congr
    (exists_congr fun f => and_congr_right fun hf => namedByAttrs_exact _ _ (hfile f hf) hcode)
    (exists_congr fun k => exists_congr fun as => and_congr_right fun hk => and_congr_right fun ha =>
      namedByAttrs_exact _ _ (hent k as hk ha) hcode))).trans (demands_iff env d).symm

theorem silenced_level {env : AllowEnv} {d : Diag} (hlint : d.isError = false) (hkind : d.code ∈ Gen.lintKinds)
    (hlev : d.level = lintDefaultLevel d.code) (h : silences env d = demands env d) :
    (updateOne env d).level = if demands env d then .allowed else .warning := by
  simp only [updateOne_eq, hlint, Bool.not_false, Bool.true_and, hlev, default_level_not_error d.code hkind, h]

theorem mem_length_le_one {α} {l : List α} {a b : α} (h : l.length ≤ 1) (ha : a ∈ l) (hb : b ∈ l) : a = b := by
  match l, h with
  | [x], _ => rw [List.mem_singleton.mp ha, List.mem_singleton.mp hb]

/-- `HashMap::insert` + `get` on a key that was inserted once: the lookup returns that entry -/
theorem find_rev_unique {α} (l : List (String × α)) (k : String) (e : String × α) (he : e ∈ l) (hk : e.1 = k)
    (hu : (l.filter fun x => x.1 == k).length ≤ 1) : l.reverse.find? (fun x => x.1 == k) = some e :=
  have hp : (e.1 == k) = true := hk ▸ beq_self_eq_true _
  find?_of_unique (List.mem_reverse.mpr he) hp fun _ hy hky =>
    mem_length_le_one hu (List.mem_filter.mpr ⟨List.mem_reverse.mp hy, hky⟩) (List.mem_filter.mpr ⟨he, hp⟩)

theorem scopeAllowsOf_of_mem (p : Program) (k : String) (c : List (List String)) (hm : (k, some c) ∈ allowTable p)
    (hu : keyCount p k ≤ 1) : scopeAllowsOf p k = some c := by
  unfold scopeAllowsOf
  rw [find_rev_unique (allowTable p) k (k, some c) hm rfl hu]

theorem withInherited_own {kind : String} (own par : List (List String))
    (h : kind ∈ ["Struct", "Interface", "Enum", "CustomType", "TypeAlias"] := by simp) : withInherited kind own par = own := by
  have : ∀ k ∈ ["Struct", "Interface", "Enum", "CustomType", "TypeAlias"], Gen.attributeInheritance.any (fun r => r.1 == k) = false := by
    decide +kernel
  simp [withInherited, this kind h]

theorem withInherited_contained {kind : String} (own par : List (List String))
    (h : kind ∈ ["Field", "Operation", "Parameter", "Enumerator"] := by simp) : withInherited kind own par = own ++ par := by
  have : ∀ k ∈ ["Field", "Operation", "Parameter", "Enumerator"], Gen.attributeInheritance.any (fun r => r.1 == k) = true := by
    decide +kernel
  simp [withInherited, this kind h]

def containerAllows (key : String) (chain : List (List String)) (ms : List (String × List Attr)) : AllowTable :=
  (ms.map fun m => (scopedId m.1 key, some (allowArgs m.2 ++ chain))) ++ [(key, some chain)]

theorem containerAllows_self {key : String} {chain : List (List String)} {ms : List (String × List Attr)} :
    (key, some chain) ∈ containerAllows key chain ms :=
  List.mem_append_right _ (List.mem_singleton.2 rfl)

theorem containerAllows_member {α} (nm : α → String) (attrs : α → List Attr) {key : String} {chain : List (List String)}
    {xs : List α} {x : α} (hx : x ∈ xs) :
    (scopedId (nm x) key, some (allowArgs (attrs x) ++ chain)) ∈ containerAllows key chain (xs.map fun y => (nm y, attrs y)) :=
  List.mem_append_left _ (List.mem_map.2 ⟨(nm x, attrs x), List.mem_map.2 ⟨x, hx, rfl⟩, rfl⟩)

theorem memberAllows_contained {kind : String} (key : String) (chain : List (List String)) (ms : List (String × List Attr))
    (h : kind ∈ ["Field", "Operation", "Parameter", "Enumerator"] := by simp) :
    memberAllows kind key chain ms ++ [(key, some chain)] = containerAllows key chain ms := by
  simp only [memberAllows, containerAllows, withInherited_contained _ _ h]

theorem defAllowEntries_struct (ms : String) (doc attrs c name fields) :
    defAllowEntries ms (.struct doc attrs c name fields) =
      containerAllows (scopedId name ms) (allowArgs attrs) (fields.map fun f => (f.name, f.attrs)) := by
  simp only [defAllowEntries, withInherited_own (kind := "Struct") _ _, memberAllows_contained (kind := "Field") _ _ _]

theorem defAllowEntries_iface (ms : String) (doc attrs name bases ops) :
    defAllowEntries ms (.iface doc attrs name bases ops) =
      (ops.flatMap fun o => containerAllows (scopedId o.name (scopedId name ms)) (allowArgs o.attrs ++ allowArgs attrs)
        ((o.params ++ retParams o.ret).map fun q => (q.name, q.attrs))) ++
      [(scopedId name ms, some (allowArgs attrs))] := by
  simp only [defAllowEntries, withInherited_own (kind := "Interface") _ _, withInherited_contained (kind := "Operation") _ _,
    memberAllows_contained (kind := "Parameter") _ _ _]

theorem defAllowEntries_enum (ms : String) (doc attrs c u name und es) :
    defAllowEntries ms (.enum doc attrs c u name und es) =
      (es.flatMap fun e => containerAllows (scopedId e.name (scopedId name ms)) (allowArgs e.attrs ++ allowArgs attrs)
        ((e.fields.getD []).map fun f => (f.name, f.attrs))) ++
      [(scopedId name ms, some (allowArgs attrs))] := by
  simp only [defAllowEntries, withInherited_own (kind := "Enum") _ _, withInherited_contained (kind := "Enumerator") _ _,
    memberAllows_contained (kind := "Field") _ _ _]

theorem defAllowEntries_custom (ms : String) (doc attrs name) :
    defAllowEntries ms (.custom doc attrs name) = [(scopedId name ms, some (allowArgs attrs))] := by
  simp only [defAllowEntries, withInherited_own (kind := "CustomType") _ _]

theorem defAllowEntries_alias (ms : String) (doc attrs name ty) :
    defAllowEntries ms (.alias doc attrs name ty) = [(scopedId name ms, some (allowArgs attrs))] := by
  simp only [defAllowEntries, withInherited_own (kind := "TypeAlias") _ _]

theorem mem_flatMap_append {α β} {f : α → List β} {l : List α} {t : List β} {a : α} (ha : a ∈ l) {b : β} (hb : b ∈ f a) :
    b ∈ l.flatMap f ++ t :=
  List.mem_append_left _ (List.mem_flatMap.2 ⟨a, ha, hb⟩)

/-! From here on a statement about every element of a list the model builds is proved along the way the list is built
(`List.forall_mem_append`, `forall_mem_map`, `forall_mem_flatMap`, `forall_mem_singleton`). -/

/-- the key a lint about this reference records is registered in the table with the reference's own chain -/
def RefOk (tbl : AllowTable) (m : MemberRef) : Prop := (m.writtenScope, some m.chain) ∈ tbl

/-- member types are parsed in the member's own scope (the extracted flag `Gen.memberTypesParsedInMemberScope`, read off
    grammar.lalrpop; against a grammar that parses them in the container's scope this does not compile) -/
theorem memberTypeScope_eq (container member : String) : memberTypeScope container member = scopedId member container := if_pos rfl

theorem namedMemberRef_ok {tbl : AllowTable} {ckey : String} {cchain : List (List String)}
    {name : String} {attrs : List Attr} {pth : String} {ty : TRef}
    (h : (scopedId name ckey, some (allowArgs attrs ++ cchain)) ∈ tbl) : RefOk tbl (namedMemberRef ckey cchain name attrs pth ty) := by
  simpa [RefOk, namedMemberRef, memberTypeScope_eq] using h

theorem fieldRefs_ok {tbl : AllowTable} {ckey path : String}
    {cchain : List (List String)} {fs : List Field} (h : ∀ f ∈ fs, (scopedId f.name ckey, some (allowArgs f.attrs ++ cchain)) ∈ tbl) :
    ∀ m ∈ fieldRefs ckey cchain path fs, RefOk tbl m :=
  List.forall_mem_map.2 fun fi hfi => namedMemberRef_ok (h fi.1 (List.fst_mem_of_mem_zipIdx hfi))

/-- a single unnamed return type is written in the operation's scope: it is looked up under the operation's own key -/
theorem opRefs_ok {tbl : AllowTable} {okey pth : String} {ochain : List (List String)}
    {o : Op} (hself : (okey, some ochain) ∈ tbl)
    (hpar : ∀ q ∈ o.params ++ retParams o.ret, (scopedId q.name okey, some (allowArgs q.attrs ++ ochain)) ∈ tbl) :
    ∀ m ∈ opRefs okey ochain pth o, RefOk tbl m := by
  obtain ⟨hp, hr⟩ := List.forall_mem_append.1 hpar
  refine List.forall_mem_append.2 ⟨List.forall_mem_map.2 fun qi hqi => namedMemberRef_ok (hp qi.1 (List.fst_mem_of_mem_zipIdx hqi)), ?_⟩
  match o.ret, hr with
  | .none, _ => exact List.forall_mem_nil _
  | .single .., _ => exact List.forall_mem_singleton.2 hself
  | .tuple _, hr => exact List.forall_mem_map.2 fun qi hqi => namedMemberRef_ok (hr qi.1 (List.fst_mem_of_mem_zipIdx hqi))

theorem defRefGroups_ok (ms path : String) (d : Def) :
    ∀ g ∈ defRefGroups ms path d, ∀ m ∈ g, RefOk (defAllowEntries ms d) m := by
  cases d with
  | struct doc attrs c name fields =>
    rw [defAllowEntries_struct]
    exact List.forall_mem_singleton.2 (fieldRefs_ok fun f hf => containerAllows_member Field.name Field.attrs hf)
  | iface doc attrs name bases ops =>
    rw [defAllowEntries_iface]
    refine List.forall_mem_append.2 ⟨List.forall_mem_map.2 fun oi hoi => ?_,
      List.forall_mem_singleton.2 (List.forall_mem_map.2 fun _ _ => List.mem_append_right _ (List.mem_singleton.2 rfl))⟩
    have ho := List.fst_mem_of_mem_zipIdx hoi
    exact opRefs_ok (mem_flatMap_append ho containerAllows_self)
      fun q hq => mem_flatMap_append ho (containerAllows_member Param.name Param.attrs hq)
  | enum doc attrs c u name und es =>
    rw [defAllowEntries_enum]
    refine List.forall_mem_append.2 ⟨List.forall_mem_map.2 fun ei hei => ?_, List.forall_mem_singleton.2 ?_⟩
    · have he := List.fst_mem_of_mem_zipIdx hei
      exact fieldRefs_ok fun f hf => mem_flatMap_append he (containerAllows_member Field.name Field.attrs hf)
    · cases und with
      | none => exact List.forall_mem_nil _
      | some _ => exact List.forall_mem_singleton.2 (List.mem_append_right _ (List.mem_singleton.2 rfl))
  | custom doc attrs name => exact List.forall_mem_nil _
  | «alias» doc attrs name ty =>
    rw [defAllowEntries_alias]
    exact List.forall_mem_singleton.2 (List.forall_mem_singleton.2 (List.mem_singleton.2 (by rw [memberTypeScope_eq])))

def ComOk (tbl : AllowTable) (c : Commented) : Prop := (c.key, some c.chain) ∈ tbl

def DefParts.All (q : DefParts) (P : Commented → Prop) : Prop := P q.self ∧ ∀ m ∈ q.members, P m.1 ∧ ∀ c ∈ m.2, P c

theorem DefParts.All.parseOrder {q : DefParts} {P : Commented → Prop} (h : q.All P) : ∀ c ∈ q.parseOrder, P c := by
  simp only [DefParts.parseOrder, List.forall_mem_append, List.forall_mem_flatMap, List.forall_mem_singleton]
  exact ⟨fun m hm => ⟨(h.2 m hm).2, (h.2 m hm).1⟩, h.1⟩

theorem DefParts.All.astOrder {q : DefParts} {P : Commented → Prop} (h : q.All P) : ∀ c ∈ q.astOrder, P c := by
  simp only [DefParts.astOrder, List.forall_mem_append, List.forall_mem_flatMap, List.forall_mem_map, List.forall_mem_singleton]
  exact ⟨⟨fun m hm => (h.2 m hm).2, fun m hm => (h.2 m hm).1⟩, h.1⟩

theorem DefParts.All.visitOrder {q : DefParts} {P : Commented → Prop} (h : q.All P) : ∀ c ∈ q.visitOrder, P c := by
  simp only [DefParts.visitOrder, List.singleton_append, List.forall_mem_cons, List.forall_mem_flatMap]
  exact h

theorem fieldsCommented_ok {tbl : AllowTable} {scope path : String} {cchain : List (List String)} {fs : List Field}
    (h : ∀ f ∈ fs, (scopedId f.name scope, some (allowArgs f.attrs ++ cchain)) ∈ tbl) :
    ∀ c ∈ fieldsCommented scope path cchain fs, ComOk tbl c :=
  List.forall_mem_map.2 fun fi hfi => h fi.1 (List.fst_mem_of_mem_zipIdx hfi)

theorem defParts_ok (ms path : String) (d : Def) : (defParts ms path d).All (ComOk (defAllowEntries ms d)) := by
  cases d with
  | struct doc attrs c name fields =>
    rw [defAllowEntries_struct]
    exact ⟨containerAllows_self, List.forall_mem_map.2 fun c0 hc0 =>
      ⟨fieldsCommented_ok (fun f hf => containerAllows_member Field.name Field.attrs hf) c0 hc0, List.forall_mem_nil _⟩⟩
  | iface doc attrs name bases ops =>
    rw [defAllowEntries_iface]
    refine ⟨List.mem_append_right _ (List.mem_singleton.2 rfl), List.forall_mem_map.2 fun oi hoi => ⟨?_, List.forall_mem_nil _⟩⟩
    simp only [ComOk, opCommented]
    exact mem_flatMap_append (List.fst_mem_of_mem_zipIdx hoi) containerAllows_self
  | enum doc attrs c u name und es =>
    rw [defAllowEntries_enum]
    refine ⟨List.mem_append_right _ (List.mem_singleton.2 rfl), List.forall_mem_map.2 fun ei hei => ?_⟩
    have he := List.fst_mem_of_mem_zipIdx hei
    dsimp only [ComOk]
    exact ⟨mem_flatMap_append he containerAllows_self,
      fieldsCommented_ok fun f hf => mem_flatMap_append he (containerAllows_member Field.name Field.attrs hf)⟩
  | custom doc attrs name =>
    rw [defAllowEntries_custom]
    exact ⟨List.mem_singleton.2 rfl, List.forall_mem_nil _⟩
  | «alias» doc attrs name ty =>
    rw [defAllowEntries_alias]
    exact ⟨List.mem_singleton.2 rfl, List.forall_mem_nil _⟩

theorem forall_mem_perDef {α} {p : Program} {g : Nat → String → String → Def → List α} {Q : α → Prop}
    (h : ∀ f ∈ p, ∀ d ∈ f.defs, ∀ i path, ∀ x ∈ g i (fileModScope f) path d, Q x) : ∀ x ∈ perDef p g, Q x :=
  List.forall_mem_flatMap.2 fun fi hfi => List.forall_mem_flatMap.2 fun dj hdj =>
    h fi.1 (List.fst_mem_of_mem_zipIdx hfi) dj.1 (List.fst_mem_of_mem_zipIdx hdj) fi.2 _

theorem allowTable_of_def {p : Program} {f : SFile} {d : Def} (hf : f ∈ p) (hd : d ∈ f.defs) :
    ∀ e ∈ defAllowEntries (fileModScope f) d, e ∈ allowTable p :=
  fun _ he => List.mem_append_right _ (List.mem_flatMap.2 ⟨f, hf, List.mem_append_left _ (List.mem_flatMap.2 ⟨d, hd, he⟩)⟩)

theorem recordedScope_deprecated (w o : String) : recordedScope "Deprecated" w o = some w := by
  have : scopeRule "Deprecated" = .writtenScope := by decide +kernel
  unfold recordedScope
  rw [this]

theorem recordedScope_doc {kind : String} (w o : String)
    (h : kind ∈ ["MalformedDocComment", "BrokenDocLink", "IncorrectDocComment"] := by simp) : recordedScope kind w o = some o := by
  have : ∀ k ∈ ["MalformedDocComment", "BrokenDocLink", "IncorrectDocComment"], scopeRule k = .ownScopedId := by decide +kernel
  unfold recordedScope
  rw [this kind h]

def SiteOk (tbl : AllowTable) (s : LintSite) : Prop := ∃ k, s.scope = some k ∧ (k, some s.chain) ∈ tbl

theorem forall_mem_memberRefSites {t : Table} {file : Nat} {ms : String} {g : List MemberRef} {Q : LintSite → Prop}
    (h : ∀ m ∈ g, ∀ pth, Q (depSite file m pth)) : ∀ s ∈ memberRefSites t file ms g, Q s :=
  List.forall_mem_append.2
    ⟨List.forall_mem_flatMap.2 fun m hm => List.forall_mem_map.2 fun pth _ => h m hm pth,
     List.forall_mem_flatMap.2 fun m hm => List.forall_mem_map.2 fun pth _ => h m hm pth⟩

theorem depSite_ok {tbl : AllowTable} {file : Nat} {m : MemberRef} {pth : String} (h : RefOk tbl m) :
    SiteOk tbl (depSite file m pth) ∧ (depSite file m pth).kind ∈ Gen.lintKinds :=
  ⟨⟨m.writtenScope, by simp [depSite, recordedScope_deprecated], h⟩, by simp [depSite]; decide⟩

theorem malformedSites_mem {file : Nat} {c : Commented} :
    ∀ s ∈ malformedSites file c, s = docSite "MalformedDocComment" file c := by
  unfold malformedSites
  split
  · exact List.forall_mem_singleton.2 rfl
  · exact List.forall_mem_nil _

theorem brokenLinkSites_mem {t : Table} {file : Nat} {c : Commented} :
    ∀ s ∈ brokenLinkSites t file c, s = docSite "BrokenDocLink" file c := by
  unfold brokenLinkSites
  dsimp only
  split
  · exact List.forall_mem_nil _
  · exact List.forall_mem_map.2 fun _ _ => rfl

theorem incorrectTagSites_mem {file : Nat} {c : Commented} :
    ∀ s ∈ incorrectTagSites file c, s = docSite "IncorrectDocComment" file c := by
  -- every branch appends lists that are empty or copies of the one site
  have copies {α} (l : List α) : ∀ s ∈ l.map fun _ => docSite "IncorrectDocComment" file c, s = docSite "IncorrectDocComment" file c :=
    List.forall_mem_map.2 fun _ _ => rfl
  unfold incorrectTagSites
  dsimp only
  split
  · exact List.forall_mem_nil _
  · split
    · refine List.forall_mem_append.2 ⟨?_, copies _⟩
      split
      · exact List.forall_mem_nil _
      · exact copies _
    · exact List.forall_mem_append.2 ⟨copies _, by split <;> exact copies _⟩

/-- the three lints about doc comments, whatever the order in which the commented elements of a definition are walked -/
theorem docSites_ok {p : Program} {kind : String} {order : DefParts → List Commented} {sites : Nat → Commented → List LintSite}
    (hk : kind ∈ ["MalformedDocComment", "BrokenDocLink", "IncorrectDocComment"])
    (hord : ∀ {q : DefParts} {P : Commented → Prop}, q.All P → ∀ c ∈ order q, P c)
    (hsites : ∀ {file c}, ∀ s ∈ sites file c, s = docSite kind file c) :
    ∀ s ∈ perDef p fun i ms path d => (order (defParts ms path d)).flatMap (sites i),
      SiteOk (allowTable p) s ∧ s.kind ∈ Gen.lintKinds := by
  have hkinds : ∀ k ∈ ["MalformedDocComment", "BrokenDocLink", "IncorrectDocComment"], k ∈ Gen.lintKinds := by decide +kernel
  refine forall_mem_perDef fun f hf d hd i path => List.forall_mem_flatMap.2 fun c hc s hs => ?_
  rw [hsites s hs]
  have hok : ComOk _ c := allowTable_of_def hf hd _ (hord (defParts_ok (fileModScope f) path d) c hc)
  exact ⟨⟨c.key, recordedScope_doc _ _ hk, hok⟩, hkinds kind hk⟩

/-- every lint the model records for a program carries a scope string that is a key of the program's `allow` table,
    registered there with exactly the chain of the element the lint concerns (own attributes, then the enclosing definitions').
    Holds because member types are parsed in the member's own scope (`memberTypeScope_eq`). -/
theorem lintSites_ok (p : Program) : ∀ s ∈ lintSites p, SiteOk (allowTable p) s ∧ s.kind ∈ Gen.lintKinds := by
  unfold lintSites
  simp only [List.forall_mem_append]
  refine ⟨⟨⟨docSites_ok (by simp) DefParts.All.parseOrder malformedSites_mem, ?_⟩,
    docSites_ok (by simp) DefParts.All.astOrder brokenLinkSites_mem⟩,
    docSites_ok (by simp) DefParts.All.visitOrder incorrectTagSites_mem⟩
  exact forall_mem_perDef fun f hf d hd i path => List.forall_mem_flatMap.2 fun g hg =>
    forall_mem_memberRefSites fun m hm pth =>
      depSite_ok (allowTable_of_def hf hd _ (defRefGroups_ok (fileModScope f) path d g hg m hm))

/-- every `TypeRef` position of grammar.lalrpop is one the model knows, with the scope the model gives it: a new
    production mentioning `TypeRef`, or a base / underlying type / single return type / anonymous-type argument parsed in
    another scope than assumed, stops this from compiling -/
theorem typeRef_scopes_known : Gen.typeRefParseScopes = typeRefScopesExpected := by decide +kernel

/-- members are written inside the scope their container opens (`ContainerIdentifier … ContainerEnd`); like
    `scope_rules_known` a guard that nothing uses: a grammar that nests them otherwise stops it from compiling -/
theorem member_nesting_known :
    (∀ q ∈ [("Struct", "Field"), ("Interface", "Operation"), ("Interface", "TypeRef"), ("Operation", "Parameter"), ("Operation", "ReturnType"),
            ("Enum", "Enumerator"), ("Enum", "TypeRef"), ("Enumerator", "Field")],
      Gen.scopedProductions.any (fun r => r.1 == q.1 && r.2.contains q.2) = true) := by decide +kernel

theorem lintSites_d13a : lintSites d13aProgram = [d13aSite] := by decide +kernel

theorem d13bSite_mem : d13bSite ∈ lintSites d13bProgram := by decide +kernel

end Slicec
