/-
  Lemmas for C20: the callbacks of a walk are exactly the events of the specified positions (`mem_visitP_spec`).

  "Alias of an anonymous type" stands throughout for a name with `resolveNamed t .type id sc = .ok (.expr e s, _)`: the
  patcher bound the reference to the type expression `e` its alias chain ends in, written in module scope `s`. (`e` is a
  `Sequence`, `Dictionary` or `Result`; or a primitive keyword, which has nothing below it.)

  Below a reference, `InTy` (the positions) and `flagTy` (their own/other-file flags) are the recursion of `tyF`, with its
  fuel, read along a path: `tyF_ev`. Above it, `locate f p` says where a path points in the abstract syntax of a file: at an
  element, at or below the reference of an owner, or nowhere. `Declared`, `refAt`, `flagAt` and the forest of the walk are
  each read off `locate`, level by level, and meet there: `mem_visitP_locate`. What `InTy` adds to the written positions
  `DeclaredTy` lies below a written name (`InTy_split`); for a file that is `BelowAlias` (`located_iff`).
-/
import SlicecVerif.Lemmas.Visit
import SlicecVerif.Lemmas.Basic

namespace Slicec.Visit

open Slicec

def TyExpr.child : TyExpr → Seg → Option TyExpr
  | .seq (.mk _ e _), .te => some e
  | .dict (.mk _ k _) _, .tk => some k
  | .dict _ (.mk _ v _), .tv => some v
  | .result (.mk _ s _) _, .ts => some s
  | .result _ (.mk _ f _), .tf => some f
  | _, _ => none

def subTy : TyExpr → Path → Option TyExpr
  | ty, [] => some ty
  | ty, s :: p => match TyExpr.child ty s with | some c => subTy c p | none => none

/-- `InTy t fuel sc ty p`: `p` is a position at or below a reference written as `ty` in module scope `sc`, where a reference
    that names an alias of an anonymous type (`resolveNamed = .ok (.expr e s, _)`) continues into the type expression `e`,
    read in its scope `s`. `fuel` bounds the number of aliases passed on the way (as in `tyF`). -/
def InTy (t : Table) (fuel : Nat) (sc : String) (ty : TyExpr) (p : Path) : Prop :=
  match p with
  | [] => True
  | s :: p' =>
    match ty with
    | .named id =>
      match fuel with
      | 0 => False
      | fuel' + 1 =>
        match resolveNamed t .type id sc with
        | .ok (.expr e s', _) => InTy t fuel' s' e (s :: p')
        | _ => False
    | ty => match TyExpr.child ty s with | some c => InTy t fuel sc c p' | none => False
termination_by (fuel, p.length)

theorem InTy_nil (t : Table) (fuel : Nat) (sc : String) (ty : TyExpr) : InTy t fuel sc ty [] := by
  unfold InTy; trivial

theorem child_named (id : String) (s : Seg) : TyExpr.child (.named id) s = none := by
  cases s <;> rfl

theorem child_prim (pr : Prim) (s : Seg) : TyExpr.child (.prim pr) s = none := by
  cases s <;> rfl

theorem child_seq {a : List Attr} {e : TyExpr} {o : Bool} {s : Seg} {c : TyExpr} :
    TyExpr.child (.seq (.mk a e o)) s = some c ↔ s = .te ∧ e = c := by
  cases s <;> simp [TyExpr.child]

theorem child_dict {a a' : List Attr} {k v : TyExpr} {o o' : Bool} {s : Seg} {c : TyExpr} :
    TyExpr.child (.dict (.mk a k o) (.mk a' v o')) s = some c ↔ (s = .tk ∧ k = c) ∨ (s = .tv ∧ v = c) := by
  cases s <;> simp [TyExpr.child]

theorem child_result {a a' : List Attr} {x y : TyExpr} {o o' : Bool} {s : Seg} {c : TyExpr} :
    TyExpr.child (.result (.mk a x o) (.mk a' y o')) s = some c ↔ (s = .ts ∧ x = c) ∨ (s = .tf ∧ y = c) := by
  cases s <;> simp [TyExpr.child]

theorem child_not_named {ty c : TyExpr} {s : Seg} (h : TyExpr.child ty s = some c) (id : String) : ty ≠ .named id := by
  rintro rfl
  rw [child_named] at h; cases h

/-- the steps of a type reference come last among siblings: the reference `.t` of an owner, and after it the steps into a
    nested reference, `.te .tk .tv .ts .tf` -/
abbrev Seg.IsRef (s : Seg) : Prop := Seg.t.cls ≤ s.cls

abbrev Seg.IsNested (s : Seg) : Prop := Seg.t.cls < s.cls

theorem child_isNested {ty c : TyExpr} {s : Seg} : TyExpr.child ty s = some c → s.IsNested := by
  fun_cases TyExpr.child ty s
  case case6 => intro h; cases h
  all_goals exact fun _ => by decide

theorem TyExpr.named_or (ty : TyExpr) : (∃ id, ty = .named id) ∨ ∀ id, ty ≠ .named id := by
  cases ty with
  | named id => exact Or.inl ⟨id, rfl⟩
  | _ => exact Or.inr (fun _ h => TyExpr.noConfusion h)

theorem InTy_step (t : Table) (fuel : Nat) (sc : String) (ty : TyExpr) (s : Seg) (p : Path) (h : ∀ id, ty ≠ .named id) :
    InTy t fuel sc ty (s :: p) ↔ ∃ c, TyExpr.child ty s = some c ∧ InTy t fuel sc c p := by
  rw [InTy.eq_def]
  dsimp only
  split
  · exact absurd rfl (h _)
  · cases TyExpr.child ty s <;> simp

theorem InTy_child (t : Table) (fuel : Nat) (sc : String) {ty c : TyExpr} {s : Seg} (hc : TyExpr.child ty s = some c) (p : Path) :
    InTy t fuel sc ty (s :: p) ↔ InTy t fuel sc c p := by
  rw [InTy_step t fuel sc ty s p (child_not_named hc), hc]
  exact ⟨fun ⟨_, e, h⟩ => Option.some.inj e ▸ h, fun h => ⟨c, rfl, h⟩⟩

theorem InTy_named (t : Table) (fuel : Nat) (sc id : String) (p : Path) (hp : p ≠ []) :
    InTy t fuel sc (.named id) p ↔
      ∃ n e s attrs, fuel = n + 1 ∧ resolveNamed t .type id sc = .ok (.expr e s, attrs) ∧ InTy t n s e p := by
  cases p with
  | nil => exact absurd rfl hp
  | cons x p' =>
    rw [InTy.eq_def]
    dsimp only
    split
    · simp
    · split
      next e s attrs hr =>
        constructor
        · intro h; exact ⟨_, e, s, attrs, rfl, hr, h⟩
        · rintro ⟨n', e', s', attrs', hn, he, h⟩
          rw [hr] at he
          cases hn; cases he; exact h
      next hne => exact iff_of_false not_false (fun ⟨_, e, s, attrs, _, hr, _⟩ => hne e s attrs hr)

theorem subTy_nil (ty : TyExpr) : subTy ty [] = some ty := rfl

theorem subTy_cons (ty : TyExpr) (s : Seg) (p : Path) :
    subTy ty (s :: p) = match TyExpr.child ty s with | some c => subTy c p | none => none := rfl

theorem subTy_cons_some {ty ty' : TyExpr} {s : Seg} {p : Path} :
    subTy ty (s :: p) = some ty' ↔ ∃ c, TyExpr.child ty s = some c ∧ subTy c p = some ty' := by
  rw [subTy_cons]
  cases TyExpr.child ty s <;> simp

theorem subTy_transport {α} (F : TyExpr → Path → α)
    (hF : ∀ {ty c : TyExpr} {s : Seg}, TyExpr.child ty s = some c → ∀ p, F ty (s :: p) = F c p) :
    ∀ (q : Path) (ty ty' : TyExpr) (tl : Path), subTy ty q = some ty' → F ty (q ++ tl) = F ty' tl
  | [], ty, ty', tl, h => by cases h; rfl
  | s :: q, ty, ty', tl, h => by
    obtain ⟨c, hc, h⟩ := subTy_cons_some.mp h
    rw [List.cons_append, hF hc]
    exact subTy_transport F hF q c ty' tl h

theorem declaredTy_nil (ty : TyExpr) : DeclaredTy ty [] := by
  unfold DeclaredTy; simp

theorem declaredTy_iff_subTy (p : Path) (ty : TyExpr) : DeclaredTy ty p ↔ ∃ ty', subTy ty p = some ty' := by
  fun_induction DeclaredTy ty p with
  | case1 ty => simp [subTy]
  | case7 ty p h0 h1 h2 h3 h4 h5 =>
    -- no arm of `DeclaredTy` applies, so none of `TyExpr.child` does
    cases p with
    | nil => exact (h0 rfl).elim
    | cons s p' =>
      have : TyExpr.child ty s = none := by
        fun_cases TyExpr.child ty s
        · exact (h1 _ _ _ _ rfl rfl).elim
        · exact (h2 _ _ _ _ _ rfl rfl).elim
        · exact (h3 _ _ _ _ _ rfl rfl).elim
        · exact (h4 _ _ _ _ _ rfl rfl).elim
        · exact (h5 _ _ _ _ _ rfl rfl).elim
        · rfl
      simp [subTy, this]
  | _ => simp [subTy, TyExpr.child, *]

theorem declaredTy_step (ty : TyExpr) (s : Seg) (p : Path) :
    DeclaredTy ty (s :: p) ↔ ∃ c, TyExpr.child ty s = some c ∧ DeclaredTy c p := by
  simp only [declaredTy_iff_subTy, subTy_cons_some]
  exact ⟨fun ⟨ty', c, hc, h⟩ => ⟨c, hc, ty', h⟩, fun ⟨c, hc, ty', h⟩ => ⟨ty', c, hc, h⟩⟩

theorem subTy_append : ∀ (a b : Path) (ty : TyExpr),
    subTy ty (a ++ b) = match subTy ty a with | some c => subTy c b | none => none
  | [], b, ty => by simp [subTy_nil]
  | s :: a, b, ty => by
    simp only [List.cons_append, subTy_cons]
    cases hc : TyExpr.child ty s with
    | none => rfl
    | some c => exact subTy_append a b c

theorem subTy_named (id : String) (s : Seg) (p : Path) : subTy (.named id) (s :: p) = none := by
  simp [subTy_cons, child_named]

theorem InTy_mono (t : Table) (fuel : Nat) (sc : String) (ty : TyExpr) (p : Path) :
    InTy t fuel sc ty p → InTy t (fuel + 1) sc ty p := by
  fun_induction InTy t fuel sc ty p with
  | case1 fuel sc ty => intro _; exact InTy_nil _ _ _ _
  | case2 sc s p' id => intro h; exact h.elim
  | case3 sc s p' id fuel' e s' attrs hr ih =>
    intro h
    exact (InTy_named t _ sc id (s :: p') (by simp)).mpr ⟨fuel' + 1, e, s', attrs, rfl, hr, ih h⟩
  | case4 sc s p' id fuel' hne => intro h; exact h.elim
  | case5 fuel sc s p' ty hnn c hc ih => intro h; exact (InTy_child t _ sc hc p').mpr (ih h)
  | case6 fuel sc s p' ty hnn hc => intro h; exact h.elim

theorem InTy_append (t : Table) (fuel : Nat) (sc : String) (q : Path) (ty ty' : TyExpr) (tl : Path)
    (h : subTy ty q = some ty') : InTy t fuel sc ty (q ++ tl) ↔ InTy t fuel sc ty' tl :=
  Iff.of_eq (subTy_transport (InTy t fuel sc) (fun hc p => propext (InTy_child t fuel sc hc p)) q ty ty' tl h)

theorem InTy_cases (t : Table) (fuel : Nat) (sc : String) : ∀ (p : Path) (ty : TyExpr), InTy t fuel sc ty p →
    DeclaredTy ty p ∨ ∃ q tl id, p = q ++ tl ∧ tl ≠ [] ∧ subTy ty q = some (.named id) ∧ InTy t fuel sc (.named id) tl
  | [], ty, _ => Or.inl (declaredTy_nil ty)
  | s :: p, ty, h => by
    rcases TyExpr.named_or ty with ⟨id, rfl⟩ | hn
    · exact Or.inr ⟨[], s :: p, id, rfl, List.cons_ne_nil s p, rfl, h⟩
    · obtain ⟨c, hc, hin⟩ := (InTy_step t fuel sc ty s p hn).mp h
      rcases InTy_cases t fuel sc p c hin with hd | ⟨q, tl, id, rfl, htl, hq, h'⟩
      · exact Or.inl ((declaredTy_step ty s p).mpr ⟨c, hc, hd⟩)
      · exact Or.inr ⟨s :: q, tl, id, rfl, htl, subTy_cons_some.mpr ⟨c, hc, hq⟩, h'⟩

theorem InTy_split (t : Table) (fuel : Nat) (sc : String) (p : Path) (ty : TyExpr) :
    InTy t fuel sc ty p ↔
      DeclaredTy ty p ∨ ∃ q tl id, p = q ++ tl ∧ tl ≠ [] ∧ subTy ty q = some (.named id) ∧ InTy t fuel sc (.named id) tl := by
  refine ⟨InTy_cases t fuel sc p ty, ?_⟩
  rintro (h | ⟨q, tl, id, rfl, _, hq, h⟩)
  · obtain ⟨ty', hty'⟩ := (declaredTy_iff_subTy p ty).mp h
    have := (InTy_append t fuel sc p ty ty' [] hty').mpr (InTy_nil _ _ _ _)
    rwa [List.append_nil] at this
  · exact (InTy_append t fuel sc q ty _ tl hq).mpr h

theorem InTy_zero (t : Table) (sc : String) (ty : TyExpr) (p : Path) : InTy t 0 sc ty p ↔ DeclaredTy ty p := by
  rw [InTy_split]
  refine or_iff_left ?_
  rintro ⟨_, tl, id, _, htl, _, h⟩
  obtain ⟨n, _, _, _, hn, _⟩ := (InTy_named t 0 sc id tl htl).mp h
  cases hn

/-- a definition's kind depends on the definition: `kindAt` answers for `.d _` itself, and "definition" is the kind of no event -/
def segKind : Seg → String
  | .file => "file" | .mod => "module" | .d _ => "definition" | .f _ => "field" | .o _ => "operation"
  | .p _ => "parameter" | .r _ => "parameter" | .e _ => "enumerator"
  | .t | .te | .tk | .tv | .ts | .tf => "typeref"

/-- read off the last step alone, so it answers for every path; it means something for the paths a walk presents -/
def kindAt (f : SFile) (p : Path) : String :=
  match p.getLast? with
  | some (.d j) => match f.defs[j]? with | some d => defKind d | none => ""
  | some s => segKind s
  | none => ""

theorem kindAt_cons_cons (f : SFile) (s s' : Seg) (p : Path) : kindAt f (s :: s' :: p) = kindAt f (s' :: p) := by
  simp [kindAt]

theorem kindAt_ref (f : SFile) {s : Seg} (h : s.IsRef) : kindAt f [s] = "typeref" := by
  cases s <;> first | rfl | simp [Seg.IsRef, Seg.cls] at h

/-- the own/other-file flag of the position `p` below the type `ty` written in scope `sc`, `fr` being the flag so far: it
    changes where the path passes through an alias, to whether the file of that alias's expression (`exprFile`) is another
    than `self` -/
def flagTy (t : Table) (self : Nat) (fuel : Nat) (sc : String) (fr : Bool) (ty : TyExpr) (p : Path) : Bool :=
  match p with
  | [] => fr
  | s :: p' =>
    match ty with
    | .named id =>
      match fuel with
      | 0 => fr
      | fuel' + 1 =>
        match resolveNamed t .type id sc with
        | .ok (.expr e s', _) => flagTy t self fuel' s' (exprFile t id sc != self) e (s :: p')
        | _ => fr
    | ty => match TyExpr.child ty s with | some c => flagTy t self fuel sc fr c p' | none => fr
termination_by (fuel, p.length)

theorem flagTy_nil (t : Table) (self fuel : Nat) (sc : String) (fr : Bool) (ty : TyExpr) :
    flagTy t self fuel sc fr ty [] = fr := by
  unfold flagTy; rfl

theorem flagTy_step (t : Table) (self fuel : Nat) (sc : String) (fr : Bool) {ty c : TyExpr} {s : Seg}
    (hc : TyExpr.child ty s = some c) (p : Path) :
    flagTy t self fuel sc fr ty (s :: p) = flagTy t self fuel sc fr c p := by
  rw [flagTy.eq_def]
  cases ty with
  | named id => exact absurd rfl (child_not_named hc id)
  | _ => simp [hc]

theorem flagTy_named (t : Table) (self fuel : Nat) (sc : String) (fr : Bool) (id : String) (e : TyExpr) (s' : String)
    (attrs : List Attr) (p : Path) (hp : p ≠ []) (hr : resolveNamed t .type id sc = .ok (.expr e s', attrs)) :
    flagTy t self (fuel + 1) sc fr (.named id) p = flagTy t self fuel s' (exprFile t id sc != self) e p := by
  cases p with
  | nil => exact absurd rfl hp
  | cons x p' => rw [flagTy.eq_def]; simp [hr]

theorem flagTy_append (t : Table) (self fuel : Nat) (sc : String) (fr : Bool) (a : Path) (ty ty' : TyExpr) (tl : Path)
    (h : subTy ty a = some ty') : flagTy t self fuel sc fr ty (a ++ tl) = flagTy t self fuel sc fr ty' tl :=
  subTy_transport (flagTy t self fuel sc fr) (fun hc p => flagTy_step t self fuel sc fr hc p) a ty ty' tl h

theorem flagTy_declared (t : Table) (self fuel : Nat) (sc : String) (fr : Bool) (p : Path) (ty : TyExpr) (h : DeclaredTy ty p) :
    flagTy t self fuel sc fr ty p = fr := by
  obtain ⟨ty', h⟩ := (declaredTy_iff_subTy p ty).mp h
  rw [← List.append_nil p, flagTy_append t self fuel sc fr p ty ty' [] h, flagTy_nil]

theorem tyF_ev_child (t : Table) (self fuel : Nat) (sc : String) (fr : Bool) (ty : TyExpr) (hn : ∀ id, ty ≠ .named id)
    (s : Seg) (p : Path) (k : String) (fr' : Bool) :
    (tyF t self fuel sc fr ty).hasEv (s :: p) k fr' ↔
      ∃ c, TyExpr.child ty s = some c ∧ ((p = [] ∧ k = "typeref" ∧ fr' = fr) ∨ (tyF t self fuel sc fr c).hasEv p k fr') := by
  cases ty with
  | named id => exact absurd rfl (hn id)
  | prim pr => simp [tyF, nil_hasEv, child_prim]
  | seq e => obtain ⟨_, e, _⟩ := e; simp [tyF, hasEv_cons, nil_hasEv, child_seq, and_assoc]
  | dict k v =>
    obtain ⟨_, k, _⟩ := k; obtain ⟨_, v, _⟩ := v
    simp [tyF, hasEv_cons, nil_hasEv, child_dict, or_and_right, exists_or, and_assoc]
  | result x y =>
    obtain ⟨_, x, _⟩ := x; obtain ⟨_, y, _⟩ := y
    simp [tyF, hasEv_cons, nil_hasEv, child_result, or_and_right, exists_or, and_assoc]

/-- `tyF`, `InTy` and `flagTy` take the same steps: a written one through `TyExpr.child` keeps the flag, an alias one
    through `resolveNamed` sets it. (The file `f` plays no part: no step below a reference is a `.d`.) -/
theorem tyF_ev (f : SFile) (t : Table) (self fuel : Nat) (sc : String) (fr : Bool) (ty : TyExpr) (p : Path) (k : String)
    (fr' : Bool) :
    (tyF t self fuel sc fr ty).hasEv p k fr' ↔
      p ≠ [] ∧ InTy t fuel sc ty p ∧ k = kindAt f p ∧ fr' = flagTy t self fuel sc fr ty p := by
  fun_induction InTy t fuel sc ty p generalizing fr with
  | case1 fuel sc ty => simp [hasEv_nil_path]
  | case2 sc s p' id => simp [tyF, nil_hasEv]
  | case3 sc s p' id fuel' e s' attrs hr ih =>
    rw [flagTy_named _ _ _ _ _ _ _ _ _ _ (List.cons_ne_nil _ _) hr, ← ih]
    simp [tyF, hr]
  | case4 sc s p' id fuel' hne =>
    have : tyF t self (fuel' + 1) sc fr (.named id) = .nil := by
      rw [tyF]
      split
      next e s' attrs hr => exact absurd hr (hne e s' attrs)
      all_goals rfl
    simp [this, nil_hasEv]
  | case5 fuel sc s p' ty hnn c hc ih =>
    simp only [tyF_ev_child t self fuel sc fr ty (fun id h => hnn id h), hc, flagTy_step _ _ _ _ _ hc, Option.some.injEq,
      exists_eq_left', ih]
    cases p' with
    | nil => simp [InTy_nil, flagTy_nil, kindAt_ref f (Nat.le_of_lt (child_isNested hc))]
    | cons x r => simp [kindAt_cons_cons]
  | case6 fuel sc s p' ty hnn hc =>
    rw [tyF_ev_child t self fuel sc fr ty (fun id h => hnn id h), hc]
    simp

theorem tyF_has_iff (t : Table) (self fuel : Nat) (sc : String) (fr : Bool) (ty : TyExpr) (p : Path) :
    (p = [] ∨ (tyF t self fuel sc fr ty).has p) ↔ InTy t fuel sc ty p := by
  cases p with
  | nil => simp [InTy_nil]
  | cons s p => simp [has_iff_hasEv, tyF_ev default]

/-- where a path points: at an element that is no type reference; at or below the reference of an owner (the written type
    of that reference and the rest of the path); nowhere -/
inductive Loc where
  | elem
  | ref (ty : TyExpr) (tl : Path)
  | none

def Loc.sat (P : TyExpr → Path → Prop) : Loc → Prop
  | .elem => True
  | .ref ty tl => P ty tl
  | .none => False

def locOwner (ty : TRef) : Path → Loc
  | [] => .elem
  | .t :: p => .ref ty.ty p
  | _ => .none

def locFields (fs : List Field) : Path → Loc
  | .f k :: p => match fs[k]? with | some fl => locOwner fl.ty p | none => .none
  | _ => .none

def locParams (ps : List Param) (k : Nat) (p : Path) : Loc :=
  match ps[k]? with | some pa => locOwner pa.ty p | none => .none

def locOp (o : Op) : Path → Loc
  | [] => .elem
  | .p k :: p => locParams o.params k p
  | .r k :: p => locParams (retParams o.ret) k p
  | _ => .none

def locEnumerator (en : Enumerator) : Path → Loc
  | [] => .elem
  | p => match en.fields with | some fs => locFields fs p | none => .none

def locDef : Def → Path → Loc
  | _, [] => .elem
  | .struct _ _ _ _ fs, p => locFields fs p
  | .iface _ _ _ _ ops, .o k :: p => match ops[k]? with | some o => locOp o p | none => .none
  | .enum _ _ _ _ _ _ es, .e k :: p => match es[k]? with | some en => locEnumerator en p | none => .none
  | .alias _ _ _ ty, .t :: p => .ref ty.ty p
  | _, _ => .none

def locate (f : SFile) : Path → Loc
  | [.file] => .elem
  | [.mod] => if f.module.isSome then .elem else .none
  | .d j :: p => match f.defs[j]? with | some d => locDef d p | none => .none
  | _ => .none

/-- the written type expression of the reference at position `q` of file `f`, if `q` is the position of a written
    reference (an owner's `.t` or a reference nested in it) -/
def refAt (f : SFile) (q : Path) : Option TyExpr :=
  match locate f q with
  | .ref ty tl => subTy ty tl
  | _ => none

@[simp] theorem Loc.sat_elem (P : TyExpr → Path → Prop) : Loc.elem.sat P ↔ True := Iff.rfl
@[simp] theorem Loc.sat_ref (P : TyExpr → Path → Prop) (ty : TyExpr) (tl : Path) : (Loc.ref ty tl).sat P ↔ P ty tl := Iff.rfl
@[simp] theorem Loc.sat_none (P : TyExpr → Path → Prop) : Loc.none.sat P ↔ False := Iff.rfl

theorem Loc.sat.mono {P Q : TyExpr → Path → Prop} {l : Loc} (h : l.sat P) (hPQ : ∀ ty r, P ty r → Q ty r) : l.sat Q := by
  cases l with
  | ref ty r => exact hPQ ty r h
  | _ => exact h

/-- the own/other-file flag of the callback at position `p`; like `kindAt` it answers for every path -/
def flagAt (t : Table) (self : Nat) (f : SFile) (p : Path) : Bool :=
  match locate f p with
  | .ref ty r => flagTy t self (visitFuel t) (fileScope f) false ty r
  | _ => false

/-- the own/other flag of a located position: `flagAt`, for any context -/
def Loc.flag (c : Ctx) : Loc → Bool
  | .ref ty r => flagTy c.table c.self c.fuel c.scope false ty r
  | _ => false

theorem declaredOwner_iff (ty : TRef) (p : Path) : DeclaredOwner ty p ↔ (locOwner ty p).sat DeclaredTy := by
  fun_cases locOwner ty p <;> simp [DeclaredOwner, *]

theorem declaredFields_iff (fs : List Field) (p : Path) : DeclaredFields fs p ↔ (locFields fs p).sat DeclaredTy := by
  fun_cases locFields fs p <;> simp [DeclaredFields, declaredOwner_iff, *]

theorem declaredParams_iff (ps : List Param) (k : Nat) (p : Path) :
    DeclaredParams ps k p ↔ (locParams ps k p).sat DeclaredTy := by
  fun_cases locParams ps k p <;> simp [DeclaredParams, declaredOwner_iff, *]

theorem declaredOp_iff (o : Op) (p : Path) : DeclaredOp o p ↔ (locOp o p).sat DeclaredTy := by
  fun_cases locOp o p <;> simp [DeclaredOp, declaredParams_iff, *]

theorem declaredEnumerator_iff (en : Enumerator) (p : Path) :
    DeclaredEnumerator en p ↔ (locEnumerator en p).sat DeclaredTy := by
  fun_cases locEnumerator en p <;> simp [DeclaredEnumerator, declaredFields_iff, *]

theorem declaredIn_iff (d : Def) (p : Path) : DeclaredIn d p ↔ (locDef d p).sat DeclaredTy := by
  fun_cases locDef d p <;> simp [DeclaredIn, declaredFields_iff, declaredOp_iff, declaredEnumerator_iff, *]

theorem declared_iff_locate (f : SFile) (p : Path) : Declared f p ↔ (locate f p).sat DeclaredTy := by
  fun_cases locate f p <;> simp [Declared, declaredIn_iff, *]

abbrev Ctx.inTy (c : Ctx) : TyExpr → Path → Prop := InTy c.table c.fuel c.scope

/-- a node of kind `k` flagged `fr` at relative position `p` is the event the lookup answer `l` stands for -/
def Loc.Ev (c : Ctx) (f : SFile) (l : Loc) (p : Path) (k : String) (fr : Bool) : Prop :=
  l.sat c.inTy ∧ k = kindAt f p ∧ fr = l.flag c

section ladder
variable (c : Ctx) (f : SFile) {k : String} {fr : Bool}

@[simp] theorem Loc.Ev_elem (p : Path) : Loc.elem.Ev c f p k fr ↔ k = kindAt f p ∧ fr = false := by simp [Loc.Ev, Loc.flag]
@[simp] theorem Loc.Ev_ref (ty : TyExpr) (r p : Path) :
    (Loc.ref ty r).Ev c f p k fr ↔ c.inTy ty r ∧ k = kindAt f p ∧ fr = flagTy c.table c.self c.fuel c.scope false ty r := Iff.rfl
@[simp] theorem Loc.Ev_none (p : Path) : Loc.none.Ev c f p k fr ↔ False := by simp [Loc.Ev]

/-- a node and what is below it: if the lookup `L` finds the node itself at `[]`, the node (of the kind of its step, own file)
    and the nodes below it are what `L` stands for one step further down -/
theorem Loc.Ev_step {L : Path → Loc} (he : L [] = .elem) {s : Seg} {kd : String} (hk : kd = kindAt f [s]) (r : Path) :
    ((r = [] ∧ k = kd ∧ fr = false) ∨ (r ≠ [] ∧ (L r).Ev c f r k fr)) ↔ (L r).Ev c f (s :: r) k fr := by
  cases r with
  | nil => simp [he, hk]
  | cons x r => simp [Loc.Ev, kindAt_cons_cons]

theorem row_ev {α : Type} {seg : Nat → Seg} {kind : α → String} {ch : α → Forest} {L : α → Path → Loc} (xs : List α)
    (hi : ∀ i, (seg i).idx = i) (hL : ∀ x r, (ch x).hasEv r k fr ↔ r ≠ [] ∧ (L x r).Ev c f r k fr) (he : ∀ x, L x [] = .elem)
    (j : Nat) (hk : ∀ x, xs[j]? = some x → kind x = kindAt f [seg j]) (r : Path) :
    (idxF seg kind ch 0 xs).hasEv (seg j :: r) k fr ↔ ∃ x, xs[j]? = some x ∧ (L x r).Ev c f (seg j :: r) k fr := by
  rw [idxF_hasEv_cons _ _ _ _ hi]
  exact exists_congr fun x => and_congr_right fun hx => by rw [hL, Loc.Ev_step c f (he x) (hk x hx)]

/- Level by level, along the arms of the level's `loc…` (`fun_cases` also puts the arm's answer in place of the lookup):
   the forest below the level has a node exactly where the lookup finds an element or a position of `InTy` below a reference,
   and the node is the event of that answer. Statements are about relative paths and need no base path: `kindAt` reads the last
   step only, and the flag is read off the answer. In the last arm of a lookup none of its patterns applies, and the forest
   has no such path either. -/

theorem tref_hasEv (ty : TRef) (r : Path) :
    (c.tref ty).hasEv (.t :: r) k fr ↔
      (r = [] ∧ k = "typeref" ∧ fr = false) ∨ (tyF c.table c.self c.fuel c.scope false ty.ty).hasEv r k fr := by
  simp [Ctx.tref, trefF, hasEv_cons, nil_hasEv]

theorem tref_hasEv_other (ty : TRef) (p : Path) (h : ∀ r, p = .t :: r → False) : ¬ (c.tref ty).hasEv p k fr := by
  cases p with
  | nil => exact hasEv_nil_path _
  | cons s r =>
    simp only [Ctx.tref, trefF, hasEv_cons, nil_hasEv, or_false, not_and]
    rintro rfl
    exact (h r rfl).elim

theorem owner_ev (ty : TRef) (p : Path) : (c.tref ty).hasEv p k fr ↔ p ≠ [] ∧ (locOwner ty p).Ev c f p k fr := by
  fun_cases locOwner ty p
  case case1 => simp [hasEv_nil_path]
  case case2 r =>
    rw [tref_hasEv, tyF_ev f]
    cases r with
    | nil => simp [InTy_nil, flagTy_nil, kindAt, segKind]
    | cons x r => simp [kindAt_cons_cons]
  case case3 hne hnt => simpa using tref_hasEv_other c ty p hnt

theorem fields_ev (fs : List Field) (p : Path) : (fieldsF c fs).hasEv p k fr ↔ (locFields fs p).Ev c f p k fr := by
  unfold fieldsF
  fun_cases locFields fs p
  case case1 j r fl hj =>
    rw [row_ev c f (seg := Seg.f) (kind := fun _ => "field") (L := fun fl => locOwner fl.ty) fs (fun _ => rfl) (fun _ => owner_ev c f _)
      (fun _ => rfl) j (fun _ _ => rfl)]
    simp [hj]
  case case2 j r hj => simp [idxF_hasEv_cons Seg.f _ _ _ (fun _ => rfl), hj]
  case case3 hnf => simp [idxF_hasEv_other _ _ _ _ _ hnf]

theorem params_ev (seg : Nat → Seg) (hi : ∀ i, (seg i).idx = i) (hs : ∀ j, kindAt f [seg j] = "parameter") (ps : List Param)
    (j : Nat) (r : Path) : (paramsF c seg ps).hasEv (seg j :: r) k fr ↔ (locParams ps j r).Ev c f (seg j :: r) k fr := by
  unfold paramsF
  rw [row_ev c f (L := fun pa => locOwner pa.ty) ps hi (fun _ => owner_ev c f _) (fun _ => rfl) j (fun _ _ => (hs j).symm)]
  fun_cases locParams ps j r
  case case1 pa hj => simp [hj]
  case case2 hj => simp [hj]

theorem params_hasEv_other (seg : Nat → Seg) (ps : List Param) (p : Path) (h : ∀ j r, p = seg j :: r → False) :
    ¬ (paramsF c seg ps).hasEv p k fr :=
  idxF_hasEv_other _ _ _ _ _ h

theorem op_ev (o : Op) (p : Path) : (opF c o).hasEv p k fr ↔ p ≠ [] ∧ (locOp o p).Ev c f p k fr := by
  unfold opF
  rw [hasEv_append]
  fun_cases locOp o p
  case case1 => simp [hasEv_nil_path]
  case case2 j r =>
    simp [params_ev c f .p (fun _ => rfl) (fun _ => rfl), params_hasEv_other c .r _ (.p j :: r) (fun _ _ h => by cases h)]
  case case3 j r =>
    simp [params_ev c f .r (fun _ => rfl) (fun _ => rfl), params_hasEv_other c .p _ (.r j :: r) (fun _ _ h => by cases h)]
  case case4 hne hnp hnr => simp [params_hasEv_other c .p _ _ hnp, params_hasEv_other c .r _ _ hnr]

theorem enumerator_ev (en : Enumerator) (p : Path) :
    (enumeratorF c en).hasEv p k fr ↔ p ≠ [] ∧ (locEnumerator en p).Ev c f p k fr := by
  unfold enumeratorF
  fun_cases locEnumerator en p
  case case1 => cases en.fields <;> simp [hasEv_nil_path]
  case case2 fs hf hne => simpa [hf, fields_ev c f] using fun _ => hne
  case case3 hf hne => simp [hf, nil_hasEv]

theorem def_ev (d : Def) (p : Path) : (defF c d).hasEv p k fr ↔ p ≠ [] ∧ (locDef d p).Ev c f p k fr := by
  fun_cases locDef d p
  case case1 => simp [hasEv_nil_path]
  case case2 fs hne => simpa [defF, fields_ev c f] using fun _ => hne
  case case3 j r o hj =>
    rw [defF, row_ev c f (seg := Seg.o) (kind := fun _ => "operation") (L := locOp) _ (fun _ => rfl) (fun _ => op_ev c f _)
      (fun _ => rfl) j (fun _ _ => rfl)]
    simp [hj]
  case case4 j r hj => simp [defF, idxF_hasEv_cons Seg.o _ _ _ (fun _ => rfl), hj]
  case case5 j r en hj =>
    rw [defF, row_ev c f (seg := Seg.e) (kind := fun _ => "enumerator") (L := locEnumerator) _ (fun _ => rfl)
      (fun _ => enumerator_ev c f _) (fun _ => rfl) j (fun _ _ => rfl)]
    simp [hj]
  case case6 j r hj => simp [defF, idxF_hasEv_cons Seg.e _ _ _ (fun _ => rfl), hj]
  case case7 ty r => simpa [defF, locOwner] using owner_ev c f ty (.t :: r)
  case case8 hns hne hni hne' hna =>
    refine iff_of_false (fun h => ?_) (by simp)
    cases d with
    | struct => exact hns _ _ _ _ _ rfl
    | iface => exact idxF_hasEv_other _ _ _ _ _ (fun j r => hni _ _ _ _ _ j r rfl) h
    | «enum» => exact idxF_hasEv_other _ _ _ _ _ (fun j r => hne' _ _ _ _ _ _ _ j r rfl) h
    | custom => exact h
    | «alias» _ _ _ ty => exact tref_hasEv_other c ty p (fun r => hna _ _ _ _ r rfl) h

theorem fileF_hasEv (p : Path) :
    (fileF c f).hasEv p k fr ↔ (p = [.file] ∧ k = "file" ∧ fr = false) ∨ (p = [.mod] ∧ f.module.isSome ∧ k = "module" ∧ fr = false) ∨
      (idxF .d defKind (defF c) 0 f.defs).hasEv p k fr := by
  cases p with
  | nil => simp [hasEv_nil_path]
  | cons s r => rw [fileF_eq]; cases f.module <;> simp [modF, hasEv_cons, hasEv_append, nil_hasEv, and_assoc]

theorem file_ev (p : Path) : (fileF c f).hasEv p k fr ↔ (locate f p).Ev c f p k fr := by
  have hd := idxF_hasEv_other (k := k) (fr := fr) Seg.d defKind (defF c) f.defs
  rw [fileF_hasEv]
  fun_cases locate f p
  case case1 => simp [kindAt, segKind, hd [.file] (fun _ _ h => by cases h)]
  case case2 hm => simp [hm, kindAt, segKind, hd [.mod] (fun _ _ h => by cases h)]
  case case3 hm => simp [hm, hd [.mod] (fun _ _ h => by cases h)]
  case case4 j r d hj =>
    rw [row_ev c f (L := locDef) _ (fun _ => rfl) (fun _ => def_ev c f _) (fun _ => by simp [locDef]) j
      (fun d hd => by simp [kindAt, hd])]
    simp [hj]
  case case5 j r hj => simp [idxF_hasEv_cons Seg.d _ _ _ (fun _ => rfl), hj]
  case case6 hnf hnm hnd =>
    exact iff_of_false (fun h => h.elim (fun h => hnf h.1) (fun h => h.elim (fun h => hnm h.1) (hd p hnd))) (by simp)

end ladder

/-- the shape of an answer below a reference: `p` is `q0 ++ .t :: r` for an owner at `q0`, and every position below that
    reference is located the same way -/
def Rooted (loc : Path → Loc) : Prop :=
  ∀ p ty r, loc p = .ref ty r → ∃ q0, p = q0 ++ .t :: r ∧ ∀ r', loc (q0 ++ .t :: r') = .ref ty r'

theorem rooted_cons {loc loc' : Path → Loc} (s : Seg) (hl : Rooted loc) (h : ∀ p', loc' (s :: p') = loc p')
    {p' : Path} {ty : TyExpr} {r : Path} (hr : loc p' = .ref ty r) :
    ∃ q0, s :: p' = q0 ++ .t :: r ∧ ∀ r', loc' (q0 ++ .t :: r') = .ref ty r' := by
  obtain ⟨q0, rfl, hq⟩ := hl p' ty r hr
  exact ⟨s :: q0, rfl, fun r' => by rw [List.cons_append, h, hq]⟩

/-- the same for a level that only passes non-empty paths on -/
theorem rooted_same {loc loc' : Path → Loc} (hl : Rooted loc) (h : ∀ s p', loc' (s :: p') = loc (s :: p'))
    {p : Path} {ty : TyExpr} {r : Path} (hr : loc p = .ref ty r) :
    ∃ q0, p = q0 ++ .t :: r ∧ ∀ r', loc' (q0 ++ .t :: r') = .ref ty r' := by
  obtain ⟨q0, hq, hq'⟩ := hl p ty r hr
  refine ⟨q0, hq, fun r' => ?_⟩
  cases q0 with
  | nil => rw [List.nil_append, h]; exact hq' r'
  | cons x q0 => rw [List.cons_append, h, ← List.cons_append]; exact hq' r'

/- Level by level again. The arms of `loc…` that answer `.elem` or `.none` contradict the hypothesis; the others are left. -/

theorem rooted_owner (ty : TRef) : Rooted (locOwner ty) := by
  intro p ty' r h
  fun_cases locOwner ty p <;> simp only [locOwner, reduceCtorEq] at h
  case case2 r' =>
    cases h
    exact ⟨[], rfl, fun r' => rfl⟩

theorem rooted_fields (fs : List Field) : Rooted (locFields fs) := by
  intro p ty r h
  fun_cases locFields fs p <;> simp only [locFields, reduceCtorEq, *] at h
  case case1 k tl fl hk => exact rooted_cons (.f k) (rooted_owner fl.ty) (fun p' => by simp [locFields, hk]) h

theorem rooted_params (ps : List Param) (k : Nat) : Rooted (locParams ps k) := by
  unfold Rooted locParams
  cases ps[k]? with
  | some pa => exact rooted_owner pa.ty
  | none => exact fun _ _ _ h => nomatch h

theorem rooted_op (o : Op) : Rooted (locOp o) := by
  intro p ty r h
  fun_cases locOp o p <;> simp only [locOp, reduceCtorEq] at h
  case case2 k tl => exact rooted_cons (.p k) (rooted_params o.params k) (fun p' => rfl) h
  case case3 k tl => exact rooted_cons (.r k) (rooted_params (retParams o.ret) k) (fun p' => rfl) h

theorem rooted_enumerator (en : Enumerator) : Rooted (locEnumerator en) := by
  intro p ty r h
  fun_cases locEnumerator en p <;> simp only [locEnumerator, reduceCtorEq, *] at h
  case case2 fs hf hne => exact rooted_same (rooted_fields fs) (fun s tl => by simp [locEnumerator, hf]) h

theorem rooted_def (d : Def) : Rooted (locDef d) := by
  intro p ty r h
  fun_cases locDef d p <;> simp only [locDef, reduceCtorEq, *] at h
  case case2 fs hne => exact rooted_same (rooted_fields fs) (fun s tl => by simp [locDef]) h
  case case3 k tl o hk => exact rooted_cons (.o k) (rooted_op o) (fun p' => by simp [locDef, hk]) h
  case case5 k tl en hk => exact rooted_cons (.e k) (rooted_enumerator en) (fun p' => by simp [locDef, hk]) h
  case case7 ty' tl =>
    cases h
    exact ⟨[], rfl, fun r' => rfl⟩

theorem rooted_locate (f : SFile) : Rooted (locate f) := by
  intro p ty r h
  fun_cases locate f p <;> simp only [locate, reduceCtorEq, if_true, if_false, *] at h
  case case4 j tl d hj => exact rooted_cons (.d j) (rooted_def d) (fun p' => by simp [locate, hj]) h

theorem refAt_locate {f : SFile} {q : Path} {ty' : TyExpr} (h : refAt f q = some ty') :
    ∃ ty a, locate f q = .ref ty a ∧ subTy ty a = some ty' ∧ ∀ tl, locate f (q ++ tl) = .ref ty (a ++ tl) := by
  unfold refAt at h
  cases hl : locate f q with
  | elem => simp [hl] at h
  | none => simp [hl] at h
  | ref ty a =>
    simp only [hl] at h
    obtain ⟨q0, rfl, hq⟩ := rooted_locate f q ty a hl
    exact ⟨ty, a, rfl, h, fun tl => by rw [List.append_assoc, List.cons_append]; exact hq _⟩

theorem refAt_declared {f : SFile} {q : Path} {ty' : TyExpr} (h : refAt f q = some ty') : Declared f q := by
  obtain ⟨ty, a, hl, hs, _⟩ := refAt_locate h
  rw [declared_iff_locate, hl]
  exact (declaredTy_iff_subTy a ty).mpr ⟨ty', hs⟩

theorem declared_cases {f : SFile} {p : Path} (h : Declared f p) : locate f p = .elem ∨ ∃ ty, refAt f p = some ty := by
  rw [declared_iff_locate] at h
  unfold refAt
  cases hl : locate f p with
  | elem => exact Or.inl rfl
  | none => rw [hl] at h; exact h.elim
  | ref ty a => rw [hl] at h; exact Or.inr ((declaredTy_iff_subTy a ty).mp h)

theorem refAt_below_named {f : SFile} {q : Path} {id : String} (h : refAt f q = some (.named id)) (tl : Path) (htl : tl ≠ []) :
    refAt f (q ++ tl) = none ∧ ¬ Declared f (q ++ tl) := by
  obtain ⟨ty, a, hl, hs, hb⟩ := refAt_locate h
  have hsub : subTy ty (a ++ tl) = none := by
    rw [subTy_append, hs]
    cases tl with
    | nil => exact absurd rfl htl
    | cons x tl => exact subTy_named id x tl
  constructor
  · unfold refAt; rw [hb tl]; exact hsub
  · rw [declared_iff_locate, hb tl, Loc.sat_ref, declaredTy_iff_subTy, hsub]
    exact fun ⟨_, h⟩ => nomatch h

theorem use_unique {f : SFile} {q q' tl tl' : Path} {id id' : String} (hq : refAt f q = some (.named id))
    (hq' : refAt f q' = some (.named id')) (htl : tl ≠ []) (htl' : tl' ≠ []) (h : q ++ tl = q' ++ tl') : q = q' ∧ tl = tl' := by
  rcases List.append_eq_append_iff.mp h with ⟨a, rfl, rfl⟩ | ⟨c, rfl, rfl⟩
  · cases a with
    | nil => simp
    | cons x a =>
      have := (refAt_below_named hq (x :: a) (by simp)).1
      rw [this] at hq'; cases hq'
  · cases c with
    | nil => simp
    | cons x c =>
      have := (refAt_below_named hq' (x :: c) (by simp)).1
      rw [this] at hq; cases hq

theorem subTy_isNested : ∀ (a : Path) (ty ty' : TyExpr), subTy ty a = some ty' → ∀ s ∈ a, s.IsNested
  | [], _, _, _, s, hs => by cases hs
  | x :: a, ty, ty', h, s, hs => by
    obtain ⟨c, hc, h⟩ := subTy_cons_some.mp h
    rcases List.mem_cons.mp hs with rfl | hs
    · exact child_isNested hc
    · exact subTy_isNested a c ty' h s hs

theorem refAt_shape {f : SFile} {q : Path} {ty' : TyExpr} (h : refAt f q = some ty') :
    ∃ q0 a, q = q0 ++ .t :: a ∧ ∀ s ∈ a, s.IsNested := by
  obtain ⟨ty, a, hl, hs, _⟩ := refAt_locate h
  obtain ⟨q0, rfl, _⟩ := rooted_locate f q ty a hl
  exact ⟨q0, a, rfl, subTy_isNested a ty ty' hs⟩

theorem refAt_last {f : SFile} {q : Path} {ty' : TyExpr} (h : refAt f q = some ty') :
    ∃ s, q.getLast? = some s ∧ s.IsRef := by
  obtain ⟨q0, a, rfl, ha⟩ := refAt_shape h
  have hne : (Seg.t :: a) ≠ [] := by simp
  refine ⟨(Seg.t :: a).getLast hne, ?_, ?_⟩
  · rw [getLast?_append_of_ne_nil _ _ hne, List.getLast?_eq_some_getLast hne]
  · rcases List.mem_cons.mp (List.getLast_mem hne) with h' | h'
    · rw [h']; exact Nat.le_refl _
    · exact Nat.le_of_lt (ha _ h')

theorem mem_visitP_locate (t : Table) (self : Nat) (f : SFile) (e : PEvent) :
    e ∈ visitP t self f ↔
      (locate f e.path).sat (ctxOf t self f).inTy ∧ e.kind = kindAt f e.path ∧ e.foreign = flagAt t self f e.path := by
  simp only [visitP, mem_flat_ev, List.nil_append, exists_eq_right', file_ev]
  rfl

theorem located_split (c : Ctx) (f : SFile) (p : Path) :
    (locate f p).sat c.inTy ↔
      Declared f p ∨ ∃ q tl id, p = q ++ tl ∧ tl ≠ [] ∧ refAt f q = some (.named id) ∧ c.inTy (.named id) tl := by
  rw [declared_iff_locate]
  constructor
  · intro h
    cases hl : locate f p with
    | elem => exact Or.inl trivial
    | none => rw [hl] at h; exact h.elim
    | ref ty r =>
      rw [hl] at h
      obtain ⟨q0, rfl, hq⟩ := rooted_locate f p ty r hl
      rcases (InTy_split _ _ _ r ty).mp h with h | ⟨a, b, id, rfl, hb, hs, h⟩
      · exact Or.inl h
      · exact Or.inr ⟨q0 ++ .t :: a, b, id, by simp, hb, by rw [refAt, hq a]; exact hs, h⟩
  · rintro (h | ⟨q, tl, id, rfl, htl, hq, h⟩)
    · exact h.mono (fun ty r hd => (InTy_split _ _ _ r ty).mpr (Or.inl hd))
    · obtain ⟨ty, a, _, hs, hb⟩ := refAt_locate hq
      rw [hb tl]
      exact (InTy_split _ _ _ _ ty).mpr (Or.inr ⟨a, tl, id, rfl, htl, hs, h⟩)

/-- `p` lies strictly below a written reference `q` of file `f` that names an alias of an anonymous type (the patcher bound
    it to the type expression `e` written in module scope `s`), at a position `tl` inside that type (`InTy`; aliases of
    anonymous types named inside `e` are entered in turn). The fuel is `numAliases t`: the walk starts with
    `visitFuel t = numAliases t + 1` and has spent one unit entering the alias named at `q`. So this describes the model's
    walk, which passes at most `numAliases t + 1` aliases on one descent; that an accepted program never needs more is
    argued at `visitFuel`, not proved. -/
def BelowAlias (t : Table) (f : SFile) (p : Path) : Prop :=
  ∃ q tl id e s attrs, p = q ++ tl ∧ tl ≠ [] ∧ refAt f q = some (.named id) ∧
    resolveNamed t .type id (fileScope f) = .ok (.expr e s, attrs) ∧ InTy t (numAliases t) s e tl

theorem located_iff (t : Table) (self : Nat) (f : SFile) (p : Path) :
    (locate f p).sat (ctxOf t self f).inTy ↔ Declared f p ∨ BelowAlias t f p := by
  rw [located_split]
  apply or_congr Iff.rfl
  unfold BelowAlias
  constructor
  · rintro ⟨q, tl, id, hp, htl, hq, h⟩
    obtain ⟨n, e, s, attrs, hn, hr, h'⟩ := (InTy_named _ _ _ id tl htl).mp h
    have : n = numAliases t := by simp [ctxOf, visitFuel] at hn; omega
    subst this
    exact ⟨q, tl, id, e, s, attrs, hp, htl, hq, hr, h'⟩
  · rintro ⟨q, tl, id, e, s, attrs, hp, htl, hq, hr, h⟩
    exact ⟨q, tl, id, hp, htl, hq, (InTy_named _ _ _ id tl htl).mpr ⟨numAliases t, e, s, attrs, rfl, hr, h⟩⟩

theorem mem_visitP_spec (t : Table) (self : Nat) (f : SFile) (e : PEvent) :
    e ∈ visitP t self f ↔
      (Declared f e.path ∨ BelowAlias t f e.path) ∧ e.kind = kindAt f e.path ∧ e.foreign = flagAt t self f e.path := by
  rw [mem_visitP_locate, located_iff]

theorem path_mem_visitP_iff (t : Table) (self : Nat) (f : SFile) (p : Path) :
    p ∈ (visitP t self f).map PEvent.path ↔ Declared f p ∨ BelowAlias t f p := by
  simp only [List.mem_map, mem_visitP_spec]
  exact ⟨fun ⟨e, h, he⟩ => he ▸ h.1, fun h => ⟨⟨kindAt f p, p, flagAt t self f p⟩, ⟨h, rfl, rfl⟩, rfl⟩⟩

theorem flagAt_declared (t : Table) (self : Nat) (f : SFile) (p : Path) (h : Declared f p) : flagAt t self f p = false := by
  rw [declared_iff_locate] at h
  unfold flagAt
  cases hl : locate f p with
  | ref ty r =>
    simp only [hl, Loc.sat] at h
    exact flagTy_declared _ _ _ _ _ r ty h
  | _ => rfl

theorem flagAt_below (t : Table) (self : Nat) (f : SFile) (q tl : Path) (id : String) (e : TyExpr) (s : String) (attrs : List Attr)
    (hq : refAt f q = some (.named id)) (hr : resolveNamed t .type id (fileScope f) = .ok (.expr e s, attrs)) (htl : tl ≠ []) :
    flagAt t self f (q ++ tl) = flagTy t self (numAliases t) s (exprFile t id (fileScope f) != self) e tl := by
  obtain ⟨ty, a, _, hs, hb⟩ := refAt_locate hq
  unfold flagAt
  rw [hb tl]
  simp only
  rw [flagTy_append _ _ _ _ _ a ty _ tl hs]
  exact flagTy_named _ _ _ _ _ _ _ _ _ _ htl hr

end Slicec.Visit
