/-
  C05 / C15 / C08 — the graph of anonymous types `Cyc.anonGraph` against the descent that flattens aliases (the path of the
  request converter and of `TypeRef::visit_with`). A step of the descent into an anonymous type is an edge of the graph and
  conversely, so the alias gate reports an alias exactly when the descent into its underlying type does not end, and when it
  reports nothing every written reference is flattened within its written nesting plus one pass through the graph. The two
  hypotheses about a program are `SitesResolve` and `KeysDistinct`; nothing here speaks of acceptance (`validate P = []`) or of
  the request.
-/
import SlicecVerif.Lemmas.Decls
import SlicecVerif.Lemmas.Cycles

namespace Slicec

theorem siteCodes_nil_ok (t : Table) (s : Validate.RefSite) (h : Validate.siteCodes t s = []) :
    ∃ v, resolveNamed t s.want s.id s.scope = .ok v := by
  revert h
  fun_cases Validate.siteCodes t s with
  | case1 v hr => exact fun _ => ⟨v, hr⟩
  | case2 e hr =>
    intro h
    cases e with
    | fuel => exact absurd hr (resolveNamed_no_fuel t _ _ _)
    | aliasCycle b id => cases b <;> cases h
    | _ => cases h

theorem basesCodes_nil_ok (t : Table) (ss : List Validate.RefSite) (h : Validate.basesCodes t ss = []) :
    ∀ s ∈ ss, ∃ v, resolveNamed t s.want s.id s.scope = .ok v := by
  fun_induction Validate.basesCodes t ss with
  | case1 => exact List.forall_mem_nil _
  | case2 s0 rest hc ih => exact List.forall_mem_cons.2 ⟨siteCodes_nil_ok t _ hc, ih h⟩
  | case3 s0 rest hne => exact absurd h hne

def RefsOK (t : Table) (scope : String) (rs : List TRef) : Prop :=
  ∀ r ∈ rs, ∀ id, r.ty = .named id → ∃ v, resolveNamed t .type id scope = .ok v

theorem RefsOK.sub {t : Table} {scope : String} {rs rs' : List TRef} (h : RefsOK t scope rs) (hs : ∀ r ∈ rs', r ∈ rs) :
    RefsOK t scope rs' := fun r hr => h r (hs r hr)

def SitesResolve (P : Program) : Prop :=
  ∀ f ∈ P, ∀ d ∈ f.defs, RefsOK (buildTable P) f.modPath ((Validate.defVisitedTRefs d).flatMap Validate.subRefsT)

theorem mem_namedSites (w : Want) (scope : String) {rs : List TRef} {r : TRef} {id : String} (hr : r ∈ rs) (hid : r.ty = .named id) :
    (⟨w, id, scope⟩ : Validate.RefSite) ∈ Validate.namedSites w scope rs := by
  unfold Validate.namedSites
  exact List.mem_filterMap.mpr ⟨r, hr, by rw [hid]⟩

theorem namedSites_nil_ok (t : Table) (w : Want) (scope : String) (rs : List TRef)
    (h : (Validate.namedSites w scope rs).flatMap (Validate.siteCodes t) = []) :
    ∀ r ∈ rs, ∀ id, r.ty = .named id → ∃ v, resolveNamed t w id scope = .ok v :=
  fun _ hr id hid => siteCodes_nil_ok t ⟨w, id, scope⟩ (List.flatMap_eq_nil_iff.mp h ⟨w, id, scope⟩ (mem_namedSites w scope hr hid))

theorem defResolveCodes_nil (P : Program) (h : Validate.resolveCodes P = []) (f : SFile) (hf : f ∈ P) (d : Def) (hd : d ∈ f.defs) :
    Validate.defResolveCodes (buildTable P) f.modPath d = [] :=
  List.flatMap_eq_nil_iff.mp h (f.modPath, d) (mem_allDefs_of hf hd)

theorem SitesResolve.of_codes {P : Program} (h : Validate.resolveCodes P = []) : SitesResolve P :=
  fun f hf d hd => namedSites_nil_ok _ _ _ _ (List.append_eq_nil_iff.mp (defResolveCodes_nil P h f hf d hd)).1

/-! `convTRef` / `convTy` (Model/Request.lean) descend with the fuel `elabFuel` (a constant of the MODEL, 64; the Rust converter
recurses without a bound): one unit per type reference and one per type expression, so a flattened type that nests `d`
anonymous types around a name needs `2 d + 1` units and around a keyword `2 d + 2`. `trefWithin t scope fuel r` says that the
fuel is not exhausted on `r`: it follows the same path as `convTRef` — through the written anonymous types and, where a name
resolves through aliases to a written type, on into that type — and answers `true` wherever the descent stops for another
reason. Nothing about resolution is demanded: an unresolved name is a leaf. -/

mutual
def trefWithin (t : Table) (scope : String) : Nat → TRef → Bool
  | 0, _ => false
  | fuel + 1, .mk _ ty _ =>
    match ty with
    | .named id =>
      match resolveNamed t .type id scope with
      | .ok (.expr e s, _) => tyWithin t s fuel e
      | _ => true
    | e => tyWithin t scope fuel e
def tyWithin (t : Table) (scope : String) : Nat → TyExpr → Bool
  | 0, _ => false
  | _ + 1, .prim _ => true
  | _ + 1, .named _ => true
  | fuel + 1, .seq e => trefWithin t scope fuel e
  | fuel + 1, .dict k v => trefWithin t scope fuel k && trefWithin t scope fuel v
  | fuel + 1, .result s f => trefWithin t scope fuel s && trefWithin t scope fuel f
end

def TyExpr.kids : TyExpr → List TRef
  | .prim _ | .named _ => []
  | .seq e => [e]
  | .dict k v => [k, v]
  | .result s f => [s, f]

theorem tyWithin_succ (t : Table) (scope : String) (fuel : Nat) (e : TyExpr) :
    tyWithin t scope (fuel + 1) e = e.kids.all (trefWithin t scope fuel) := by
  cases e <;> simp only [tyWithin, TyExpr.kids, List.all_cons, List.all_nil, Bool.and_true]

/-- one step of the converter's descent: the written type expression a reference stands for once aliases are flattened,
    with the module scope that expression is written in -/
def TRef.flat (t : Table) (scope : String) : TRef → Option (String × TyExpr)
  | .mk _ (.named id) _ =>
    match resolveNamed t .type id scope with
    | .ok (.expr e s, _) => some (s, e)
    | _ => none
  | .mk _ e _ => some (scope, e)

theorem TRef.flat_cases {t : Table} {scope : String} {r : TRef} {s : String} {e : TyExpr} (h : r.flat t scope = some (s, e)) :
    (r.ty = e ∧ s = scope ∧ ∀ x, e ≠ .named x) ∨
    ∃ id extra, r.ty = .named id ∧ resolveNamed t .type id scope = .ok (.expr e s, extra) := by
  revert h
  fun_cases TRef.flat t scope r with
  | case1 _ id _ _ _ extra hr => intro h; cases h; exact .inr ⟨id, extra, rfl, hr⟩
  | case2 => nofun
  | case3 _ _ _ hne => intro h; cases h; exact .inl ⟨rfl, rfl, hne⟩

theorem trefWithin_succ (t : Table) (scope : String) (fuel : Nat) (r : TRef) :
    trefWithin t scope (fuel + 1) r = true ↔ ∀ s e, r.flat t scope = some (s, e) → tyWithin t s fuel e = true := by
  fun_cases TRef.flat t scope r <;> simp_all [trefWithin]

theorem TRef.flat_not_named {t : Table} {scope : String} {r : TRef} {s : String} {e : TyExpr}
    (h : r.flat t scope = some (s, e)) : ∀ x, e ≠ .named x := by
  rcases TRef.flat_cases h with ⟨_, _, hne⟩ | ⟨id, extra, _, hr⟩
  · exact hne
  · exact resolveNamed_nonAlias hr

theorem within_mono (t : Table) : ∀ a b : Nat, a ≤ b →
    (∀ (scope : String) (r : TRef), trefWithin t scope a r = true → trefWithin t scope b r = true) ∧
    (∀ (scope : String) (e : TyExpr), tyWithin t scope a e = true → tyWithin t scope b e = true) := by
  intro a
  induction a with
  | zero => exact fun _ _ => ⟨fun _ _ => nofun, fun _ _ => nofun⟩
  | succ a ih =>
    intro b hab
    obtain ⟨b, rfl⟩ : ∃ b', b = b' + 1 := ⟨b - 1, by omega⟩
    obtain ⟨ihT, ihE⟩ := ih b (Nat.le_of_succ_le_succ hab)
    constructor
    · intro scope r h
      rw [trefWithin_succ] at h ⊢
      exact fun s e hf => ihE s e (h s e hf)
    · intro scope e h
      rw [tyWithin_succ, List.all_eq_true] at h ⊢
      exact fun r hr => ihT scope r (h r hr)

mutual
def TRef.nesting : TRef → Nat
  | .mk _ ty _ => ty.nesting
def TyExpr.nesting : TyExpr → Nat
  | .prim _ => 0
  | .named _ => 0
  | .seq e => e.nesting + 1
  | .dict k v => max k.nesting v.nesting + 1
  | .result s f => max s.nesting f.nesting + 1
end

mutual
def trefNoAliasExpr (t : Table) (scope : String) : TRef → Bool
  | .mk _ ty _ => tyNoAliasExpr t scope ty
def tyNoAliasExpr (t : Table) (scope : String) : TyExpr → Bool
  | .prim _ => true
  | .named id => (match resolveNamed t .type id scope with | .ok (.expr _ _, _) => false | _ => true)
  | .seq e => trefNoAliasExpr t scope e
  | .dict k v => trefNoAliasExpr t scope k && trefNoAliasExpr t scope v
  | .result s f => trefNoAliasExpr t scope s && trefNoAliasExpr t scope f
end

theorem nesting_kids (e : TyExpr) : ∀ r ∈ e.kids, r.nesting < e.nesting := by
  cases e <;> simp only [TyExpr.kids, TyExpr.nesting, List.forall_mem_cons, List.not_mem_nil, false_imp_iff, implies_true, and_true] <;>
    omega

theorem tyNoAliasExpr_kids (t : Table) (scope : String) (e : TyExpr) :
    tyNoAliasExpr t scope e = true → e.kids.all (trefNoAliasExpr t scope) = true := by
  cases e <;> simp only [tyNoAliasExpr, TyExpr.kids, List.all_cons, List.all_nil, Bool.and_true, imp_self, implies_true]

/-- The one induction on the fuel behind both descent bounds: for references and expressions of a class closed under the
    descent (`okT`, `okE`) whose named aliases flatten within `G`, the written nesting plus `G` suffices. `within_of_nesting`
    is the case `G = 0` (no alias to an expression is met), `within_of_gate` the case `G = gateFuel P`. -/
theorem within_of_names (t : Table) (scope : String) (G : Nat) (okT : TRef → Prop) (okE : TyExpr → Prop)
    (hT : ∀ r, okT r → okE r.ty) (hE : ∀ e, okE e → ∀ r ∈ e.kids, okT r)
    (hN : ∀ id, okE (.named id) → ∀ e s extra, resolveNamed t .type id scope = .ok (.expr e s, extra) →
      tyWithin t s G e = true) : ∀ fuel : Nat,
    (∀ r : TRef, okT r → 2 * r.nesting + 2 + G ≤ fuel → trefWithin t scope fuel r = true) ∧
    (∀ e : TyExpr, okE e → 2 * e.nesting + 1 + G ≤ fuel → tyWithin t scope fuel e = true) := by
  intro fuel
  induction fuel with
  | zero => exact ⟨fun r _ h => by omega, fun e _ h => by omega⟩
  | succ fuel ih =>
    obtain ⟨ihT, ihE⟩ := ih
    constructor
    · intro r hok hd
      rw [trefWithin_succ]
      intro s e hf
      rcases TRef.flat_cases hf with ⟨rfl, rfl, _⟩ | ⟨id, extra, hty, hr⟩
      · exact ihE _ (hT r hok) (by obtain ⟨a, ty, o⟩ := r; simp only [TRef.nesting, TRef.ty] at hd ⊢; omega)
      · exact (within_mono t G fuel (by omega)).2 s e (hN id (hty ▸ hT r hok) e s extra hr)
    · intro e hok hd
      rw [tyWithin_succ, List.all_eq_true]
      exact fun r hr => ihT r (hE e hok r hr) (by have := nesting_kids e r hr; omega)

theorem within_of_nesting (t : Table) (scope : String) : ∀ fuel : Nat,
    (∀ r : TRef, trefNoAliasExpr t scope r = true → 2 * r.nesting + 2 ≤ fuel → trefWithin t scope fuel r = true) ∧
    (∀ e : TyExpr, tyNoAliasExpr t scope e = true → 2 * e.nesting + 1 ≤ fuel → tyWithin t scope fuel e = true) :=
  within_of_names t scope 0 (trefNoAliasExpr t scope · = true) (tyNoAliasExpr t scope · = true)
    (fun ⟨_, _, _⟩ h => h) (fun e h => List.all_eq_true.mp (tyNoAliasExpr_kids t scope e h))
    (fun id hn e s extra hr => by simp [tyNoAliasExpr, hr] at hn)

theorem aliasDef_refsOK (p : Program)
    (hP : SitesResolve p)
    {f : SFile} (hf : f ∈ p) {doc : List String} {attrs : List Attr} {name : String} {ty : TRef}
    (hd : Def.alias doc attrs name ty ∈ f.defs) : RefsOK (buildTable p) f.modPath (Validate.subRefsT ty) :=
  (hP f hf _ hd).sub fun _ hr => List.mem_flatMap.mpr ⟨ty, List.mem_append_right _ (.head _), hr⟩

theorem alias_target_refsOK (p : Program)
    (hP : ∀ f ∈ p, ∀ d ∈ f.defs, RefsOK (buildTable p) f.modPath ((Validate.defVisitedTRefs d).flatMap Validate.subRefsT))
    (w : Want) (id scope : String) (e : TyExpr) (s : String) (extra : List Attr)
    (h : resolveNamed (buildTable p) w id scope = .ok (.expr e s, extra)) :
    RefsOK (buildTable p) s (Validate.subRefsE e) := by
  obtain ⟨f, hf, doc, attrs, name, a, o, hd, rfl⟩ := resolveNamed_expr_origin p w id scope e s extra h
  exact (aliasDef_refsOK p hP hf hd).sub fun _ hr => .tail _ hr

theorem subRefsE_kids (e : TyExpr) : ∀ r ∈ e.kids, ∀ x ∈ Validate.subRefsT r, x ∈ Validate.subRefsE e := by
  cases e <;> simp only [TyExpr.kids, Validate.subRefsE, List.forall_mem_cons, List.not_mem_nil, false_imp_iff, implies_true,
    and_true, List.mem_append, imp_self] <;> exact ⟨fun _ => .inl, fun _ => .inr⟩

theorem mem_subRefsT_self (r : TRef) : r ∈ Validate.subRefsT r := by
  obtain ⟨a, ty, o⟩ := r
  exact .head _

theorem SitesResolve.flat {P : Program} (hP : SitesResolve P) {scope : String} {r : TRef} {s : String} {e : TyExpr}
    (hok : RefsOK (buildTable P) scope (Validate.subRefsT r)) (h : r.flat (buildTable P) scope = some (s, e)) :
    RefsOK (buildTable P) s (Validate.subRefsE e) := by
  rcases TRef.flat_cases h with ⟨rfl, rfl, _⟩ | ⟨id, extra, _, hr⟩
  · obtain ⟨a, ty, o⟩ := r
    exact hok.sub fun _ hr => .tail _ hr
  · exact alias_target_refsOK P hP _ _ _ _ _ _ hr

/-- an alias key names one alias definition: what `anonGraph`, which finds an alias by its key, needs of a program -/
def KeysDistinct (P : Program) : Prop := ((Cyc.aliasDefs P).map (·.1)).Nodup

theorem KeysDistinct.of_defKeys {P : Program} (h : ((Validate.allDefs P).map Validate.defKey).Nodup) : KeysDistinct P :=
  (aliasKeys_sublist P).nodup h

mutual
/-- `PlacedT nodes s r c`: in the node list `nodes` of the anonymous-type graph, `c` is what `Cyc.allocT` made of the
    reference `r` written in module scope `s` -/
def PlacedT (nodes : List Cyc.ANode) (s : String) : TRef → Cyc.AChild → Prop
  | .mk _ ty _, c => PlacedE nodes s ty c
def PlacedE (nodes : List Cyc.ANode) (s : String) : TyExpr → Cyc.AChild → Prop
  | .prim _, c => c = .leaf
  | .named id, c => c = .named id
  | .seq r, c => ∃ x c1, c = .node x ∧ nodes[x]? = some ⟨s, [c1]⟩ ∧ PlacedT nodes s r c1
  | .dict k v, c => ∃ x ck cv, c = .node x ∧ nodes[x]? = some ⟨s, [ck, cv]⟩ ∧ PlacedT nodes s k ck ∧ PlacedT nodes s v cv
  | .result a b, c => ∃ x ca cb, c = .node x ∧ nodes[x]? = some ⟨s, [ca, cb]⟩ ∧ PlacedT nodes s a ca ∧ PlacedT nodes s b cb
end

/-- a node `x` allocated at the end of `pre`, followed by what its first and its second reference allocate: where `x` sits
    in the list, and the list as seen from each of the two allocations -/
theorem alloc_split {α} {nodes pre post A B : List α} {x : α} (hn : nodes = pre ++ x :: (A ++ B) ++ post) :
    nodes[pre.length]? = some x ∧
    (nodes = (pre ++ [x]) ++ A ++ (B ++ post) ∧ pre.length + 1 = (pre ++ [x]).length) ∧
    (nodes = (pre ++ [x] ++ A) ++ B ++ post ∧ pre.length + 1 + A.length = (pre ++ [x] ++ A).length) := by
  subst hn
  simp
  omega

mutual
theorem allocT_placed : ∀ (r : TRef) (s : String) (nodes pre post : List Cyc.ANode) (off : Nat),
    nodes = pre ++ (Cyc.allocT s r off).2 ++ post → off = pre.length → PlacedT nodes s r (Cyc.allocT s r off).1
  | .mk a ty o, s, nodes, pre, post, off, hn, ho => by
    simp only [PlacedT, Cyc.allocT] at hn ⊢
    exact allocE_placed ty s nodes pre post off hn ho
theorem allocE_placed : ∀ (e : TyExpr) (s : String) (nodes pre post : List Cyc.ANode) (off : Nat),
    nodes = pre ++ (Cyc.allocE s e off).2 ++ post → off = pre.length → PlacedE nodes s e (Cyc.allocE s e off).1
  | .prim p, s, nodes, pre, post, off, hn, ho => by simp [PlacedE, Cyc.allocE]
  | .named id, s, nodes, pre, post, off, hn, ho => by simp [PlacedE, Cyc.allocE]
  | .seq r, s, nodes, pre, post, off, hn, ho => by
    subst ho
    simp only [Cyc.allocE] at hn ⊢
    rw [← List.append_nil (Cyc.allocT s r (pre.length + 1)).2] at hn
    obtain ⟨hx, ⟨hA, hlA⟩, _⟩ := alloc_split hn
    exact ⟨_, _, rfl, hx, allocT_placed r s nodes _ _ _ hA hlA⟩
  | .dict a b, s, nodes, pre, post, off, hn, ho | .result a b, s, nodes, pre, post, off, hn, ho => by
    subst ho
    simp only [Cyc.allocE] at hn ⊢
    obtain ⟨hx, ⟨hA, hlA⟩, hB, hlB⟩ := alloc_split hn
    exact ⟨_, _, _, rfl, hx, allocT_placed a s nodes _ _ _ hA hlA, allocT_placed b s nodes _ _ _ hB hlB⟩
end

def allocStep (acc : List Cyc.ANode × List (String × Cyc.AChild)) (a : String × String × TRef) :
    List Cyc.ANode × List (String × Cyc.AChild) :=
  (acc.1 ++ (Cyc.allocT a.2.1 a.2.2 acc.1.length).2, acc.2 ++ [(a.2.1, (Cyc.allocT a.2.1 a.2.2 acc.1.length).1)])

theorem anonAlloc_eq (p : Program) : Cyc.anonAlloc p = (Cyc.aliasDefs p).foldl allocStep ([], []) := rfl

theorem foldl_alloc : ∀ (as : List (String × String × TRef)) (acc : List Cyc.ANode × List (String × Cyc.AChild)),
    (∃ ext, (as.foldl allocStep acc).1 = acc.1 ++ ext) ∧
    (∃ ext2, (as.foldl allocStep acc).2 = acc.2 ++ ext2 ∧ ext2.length = as.length) ∧
    ∀ j a, as[j]? = some a → ∃ c, (as.foldl allocStep acc).2[acc.2.length + j]? = some (a.2.1, c) ∧
      PlacedT (as.foldl allocStep acc).1 a.2.1 a.2.2 c
  | [], acc => ⟨⟨[], by simp⟩, ⟨[], by simp⟩, by intro j a h; simp at h⟩
  | a0 :: as, acc => by
    obtain ⟨⟨ext, he⟩, ⟨ext2, he2, hl2⟩, ih3⟩ := foldl_alloc as (allocStep acc a0)
    rw [List.foldl_cons]
    have he' : (as.foldl allocStep (allocStep acc a0)).1 = acc.1 ++ (Cyc.allocT a0.2.1 a0.2.2 acc.1.length).2 ++ ext := he
    have he2' : (as.foldl allocStep (allocStep acc a0)).2 =
        acc.2 ++ (a0.2.1, (Cyc.allocT a0.2.1 a0.2.2 acc.1.length).1) :: ext2 := by rw [he2]; exact List.append_assoc ..
    refine ⟨⟨_, he'.trans (List.append_assoc ..)⟩, ⟨_, he2', congrArg (· + 1) hl2⟩, ?_⟩
    rintro (_ | j) a hj
    · cases hj
      exact ⟨_, by rw [he2', Nat.add_zero, List.getElem?_append_right (Nat.le_refl _), Nat.sub_self]; rfl,
        allocT_placed _ _ _ acc.1 ext _ he' rfl⟩
    · obtain ⟨c, hc, hp⟩ := ih3 j a hj
      refine ⟨c, ?_, hp⟩
      rwa [show (allocStep acc a0).2.length + j = acc.2.length + (j + 1) by simp [allocStep]; omega] at hc

def gKeys (P : Program) : List String := (Cyc.aliasDefs P).map (·.1)
def gNodes (P : Program) : List Cyc.ANode := (Cyc.anonAlloc P).1
def gStarts (P : Program) : List (String × Cyc.AChild) := (Cyc.anonAlloc P).2
def gBind (P : Program) : String → Cyc.AChild → Option Nat :=
  Cyc.bindChild (buildTable P) (gKeys P) (gStarts P) ((gStarts P).length + 1)

def gGraph (P : Program) : Cyc.IGraph := (gNodes P).map fun nd => nd.children.filterMap (gBind P nd.scope)
def gStartNodes (P : Program) : List (Option Nat) := (gStarts P).map fun sc => gBind P sc.1 sc.2

theorem anonGraph_eq (P : Program) : Cyc.anonGraph P = (gGraph P, gStartNodes P) := rfl

theorem gGraph_length (P : Program) : (gGraph P).length = (gNodes P).length := by simp [gGraph]

theorem gStarts_length (P : Program) : (gStarts P).length = (Cyc.aliasDefs P).length := by
  obtain ⟨_, ⟨ext2, h2, hl⟩, _⟩ := foldl_alloc (Cyc.aliasDefs P) ([], [])
  unfold gStarts
  rw [anonAlloc_eq, h2]
  simpa using hl

theorem gStarts_placed (P : Program) {j : Nat} {a : String × String × TRef} (h : (Cyc.aliasDefs P)[j]? = some a) :
    ∃ c, (gStarts P)[j]? = some (a.2.1, c) ∧ PlacedT (gNodes P) a.2.1 a.2.2 c := by
  obtain ⟨c, hc, hp⟩ := (foldl_alloc (Cyc.aliasDefs P) ([], [])).2.2 j a h
  exact ⟨c, by simpa [gStarts, anonAlloc_eq] using hc, by simpa [gNodes, anonAlloc_eq] using hp⟩

def childNode : Cyc.AChild → Option Nat
  | .node k => some k
  | _ => none

theorem bindChild_not_named (t : Table) (keys : List String) (starts : List (String × Cyc.AChild)) (fuel : Nat) (s : String)
    (c : Cyc.AChild) (h : ∀ id, c ≠ .named id) : Cyc.bindChild t keys starts fuel s c = childNode c := by
  cases c with
  | node k => cases fuel <;> rfl
  | leaf => cases fuel <;> rfl
  | named id => exact absurd rfl (h id)

def TyExpr.isAnon : TyExpr → Bool
  | .seq _ | .dict _ _ | .result _ _ => true
  | _ => false

theorem placedE_isAnon (nodes : List Cyc.ANode) (s : String) (e : TyExpr) (c : Cyc.AChild) (ha : e.isAnon = true)
    (h : PlacedE nodes s e c) : ∃ x, c = .node x ∧ x < nodes.length := by
  cases e with
  | prim _ | named _ => cases ha
  | seq r =>
    obtain ⟨x, _, h1, h2, _⟩ := h
    exact ⟨x, h1, (List.getElem?_eq_some_iff.mp h2).1⟩
  | dict a b | result a b =>
    obtain ⟨x, _, _, h1, h2, _⟩ := h
    exact ⟨x, h1, (List.getElem?_eq_some_iff.mp h2).1⟩

theorem placedE_not_named (nodes : List Cyc.ANode) (s : String) (e : TyExpr) (c : Cyc.AChild) (hne : ∀ id, e ≠ .named id)
    (h : PlacedE nodes s e c) : ∀ id, c ≠ .named id := by
  intro id hc
  subst hc
  cases e with
  | prim p => cases h
  | named x => exact hne x rfl
  | _ =>
    obtain ⟨_, hx, _⟩ := placedE_isAnon _ _ _ _ rfl h
    cases hx

theorem alias_indexed (P : Program) (hkn : KeysDistinct P) (n : NodeInfo) (u : TRef) (hn : ∃ k, (k, n) ∈ buildTable P)
    (ha : n.aliasOf = some u) :
    n.kind = .alias ∧ n.key ∈ gKeys P ∧
    ∃ c, (gStarts P)[(gKeys P).idxOf n.key]? = some (n.modScope, c) ∧ PlacedT (gNodes P) n.modScope u c := by
  obtain ⟨k, hk⟩ := hn
  obtain ⟨hkind, hmem⟩ := buildTable_alias_entry P (k, n) u hk ha
  have hget := getElem?_idxOf_fst (Cyc.aliasDefs P) hkn n.key (n.modScope, u) hmem
  exact ⟨hkind, List.mem_map.mpr ⟨_, hmem, rfl⟩, gStarts_placed P hget⟩

theorem bindChild_alias (P : Program) (hkn : KeysDistinct P) {id scope : String} {n : NodeInfo} {u : TRef}
    (hf : findNodeWithScope (buildTable P) id scope = some n) (hu : n.aliasOf = some u) :
    ∃ (a : Nat) (c : Cyc.AChild), (gStarts P)[a]? = some (n.modScope, c) ∧ PlacedT (gNodes P) n.modScope u c ∧
      ∀ fuel, Cyc.bindChild (buildTable P) (gKeys P) (gStarts P) (fuel + 1) scope (.named id) =
        Cyc.bindChild (buildTable P) (gKeys P) (gStarts P) fuel n.modScope c := by
  obtain ⟨hk, hc, c, hget, hpl⟩ := alias_indexed P hkn n u (findNodeWithScope_mem _ _ _ _ hf) hu
  refine ⟨_, c, hget, hpl, fun fuel => ?_⟩
  have hidx : Cyc.aliasIndexOf (buildTable P) (gKeys P) id scope = some ((gKeys P).idxOf n.key) := by
    simp [Cyc.aliasIndexOf, hf, hk, hc]
  simp only [Cyc.bindChild, hidx, List.getD_eq_getElem?_getD, hget, Option.getD_some]

theorem bindChild_non_alias (P : Program) {id scope : String} {n : NodeInfo}
    (hf : findNodeWithScope (buildTable P) id scope = some n) (hn : n.isAlias = false) (fuel : Nat) :
    Cyc.bindChild (buildTable P) (gKeys P) (gStarts P) fuel scope (.named id) = none := by
  cases fuel with
  | zero => rfl
  | succ f =>
    obtain ⟨k, hk⟩ := findNodeWithScope_mem _ _ _ _ hf
    have hkind : n.kind ≠ .alias := fun h => by
      rw [buildTable_isAlias P (k, n) hk, h] at hn
      cases hn
    have hidx : Cyc.aliasIndexOf (buildTable P) (gKeys P) id scope = none := by
      simp [Cyc.aliasIndexOf, hf, hkind]
    rw [Cyc.bindChild, hidx]

theorem placedT_named {nodes : List Cyc.ANode} {s : String} {u : TRef} {c : Cyc.AChild} {id : String}
    (h : PlacedT nodes s u c) (hty : u.ty = .named id) : c = .named id := by
  cases u with
  | mk a ty o => cases hty; simpa only [PlacedT, PlacedE] using h

/-- what `bindChild` makes of a name (`r`), by what the name resolves to -/
def BoundAs (P : Program) (r : Option Nat) : Target → Prop
  | .node _ => r = none
  | .expr e s => ∃ (a : Nat) (c : Cyc.AChild), (gStarts P)[a]? = some (s, c) ∧ PlacedE (gNodes P) s e c ∧ r = childNode c

theorem bindChild_along_path (P : Program) (hkn : KeysDistinct P) {n : NodeInfo} {links : List TRef} {tgt : Target}
    (hp : AliasPath (buildTable P) n links tgt) : ∀ (id scope : String) (k : Nat),
    findNodeWithScope (buildTable P) id scope = some n →
    BoundAs P (Cyc.bindChild (buildTable P) (gKeys P) (gStarts P) (links.length + k) scope (.named id)) tgt := by
  induction hp with
  | @endNode cur u id' n' hu hty hf' hn' =>
    intro id scope k hf
    obtain ⟨_, c, _, hpl, hstep⟩ := bindChild_alias P hkn hf hu
    cases placedT_named hpl hty
    rw [List.length_singleton, Nat.add_comm, hstep]
    exact bindChild_non_alias P hf' hn' k
  | @endExpr cur u hu hne =>
    intro id scope k hf
    obtain ⟨a, c, hget, hpl, hstep⟩ := bindChild_alias P hkn hf hu
    cases u with
    | mk a0 ty o =>
      refine ⟨a, c, hget, hpl, ?_⟩
      rw [List.length_singleton, Nat.add_comm, hstep]
      exact bindChild_not_named _ _ _ _ _ _ (placedE_not_named _ _ _ _ hne hpl)
  | @step cur u id' n' us tgt hu hty hf' hn' _ ih =>
    intro id scope k hf
    obtain ⟨_, c, _, hpl, hstep⟩ := bindChild_alias P hkn hf hu
    cases placedT_named hpl hty
    rw [List.length_cons, Nat.add_right_comm, hstep]
    exact ih id' cur.modScope k hf'

theorem bind_of_resolve (P : Program) (hkn : KeysDistinct P) {id scope : String} {tgt : Target} {extra : List Attr}
    (h : resolveNamed (buildTable P) .type id scope = .ok (tgt, extra)) : BoundAs P (gBind P scope (.named id)) tgt := by
  obtain ⟨n0, hf, _, ⟨ha, rfl, _⟩ | ⟨_, links, hp, _, hl⟩⟩ := resolveNamed_ok_path h
  · exact bindChild_non_alias P hf ha _
  · rw [numAliases_buildTable, ← gStarts_length] at hl
    obtain ⟨k, hk⟩ := Nat.le.dest hl
    rw [gBind, ← hk]
    exact bindChild_along_path P hkn hp id scope k hf

theorem gGraph_get (P : Program) {x : Nat} {s : String} {kids : List Cyc.AChild} (hx : (gNodes P)[x]? = some ⟨s, kids⟩) :
    (gGraph P)[x]? = some (kids.filterMap (gBind P s)) := by
  simp [gGraph, hx]

theorem mem_ibases_of_child (P : Program) (x : Nat) (s : String) (kids : List Cyc.AChild) (c : Cyc.AChild) (x' : Nat)
    (hx : (gNodes P)[x]? = some ⟨s, kids⟩) (hc : c ∈ kids) (hb : gBind P s c = some x') (hlt : x' < (gNodes P).length) :
    x' ∈ Cyc.ibases (gGraph P) x :=
  Cyc.mem_ibases.2 ⟨_, gGraph_get P hx, List.mem_filterMap.mpr ⟨c, hc, hb⟩, by rwa [gGraph_length]⟩

theorem reported_iff_start (P : Program) {a : Nat} {s : String} {c : Cyc.AChild} (hs : (gStarts P)[a]? = some (s, c)) :
    a ∈ Cyc.aliasGate (gGraph P) (gStartNodes P) ↔ ∃ x, gBind P s c = some x ∧ Cyc.ReachesCycle (gGraph P) x := by
  have hget : (gStartNodes P).getD a none = gBind P s c := by
    rw [List.getD_eq_getElem?_getD]
    simp only [gStartNodes, List.getElem?_map, hs, Option.map_some, Option.getD_some]
  have hlt : a < (gStartNodes P).length := by simpa [gStartNodes] using (List.getElem?_eq_some_iff.mp hs).1
  rw [Cyc.mem_aliasGate, hget]
  exact and_iff_right hlt

theorem placedE_kids {nodes : List Cyc.ANode} {s : String} {e : TyExpr} {x : Nat} (h : PlacedE nodes s e (.node x)) :
    ∃ cs, nodes[x]? = some ⟨s, cs⟩ ∧ (∀ r ∈ e.kids, ∃ c ∈ cs, PlacedT nodes s r c) ∧
      (∀ c ∈ cs, ∃ r ∈ e.kids, PlacedT nodes s r c) := by
  cases e with
  | prim _ | named _ => cases h
  | seq r =>
    obtain ⟨_, c1, h0, hk, h1⟩ := h
    cases h0
    refine ⟨_, hk, ?_⟩
    simp only [TyExpr.kids, List.mem_cons, List.not_mem_nil, or_false, exists_eq_left, forall_eq]
    exact ⟨h1, h1⟩
  | dict a b | result a b =>
    obtain ⟨_, ca, cb, h0, hk, h1, h2⟩ := h
    cases h0
    refine ⟨_, hk, ?_⟩
    simp only [TyExpr.kids, List.mem_cons, List.not_mem_nil, or_false, exists_eq_or_imp, exists_eq_left, forall_eq_or_imp, forall_eq]
    exact ⟨⟨.inl h1, .inr h2⟩, .inl h1, .inr h2⟩

theorem tyWithin_not_anon (t : Table) (s : String) (fuel : Nat) (e : TyExpr) (ha : e.isAnon = false) :
    tyWithin t s (fuel + 1) e = true := by
  cases e with
  | prim _ | named _ => simp only [tyWithin]
  | _ => cases ha

theorem placedT_flat (P : Program) (hkn : KeysDistinct P) {s : String} {r : TRef} {c : Cyc.AChild}
    (hpl : PlacedT (gNodes P) s r c) {s' : String} {e' : TyExpr} (hf : r.flat (buildTable P) s = some (s', e')) :
    ∃ c', PlacedE (gNodes P) s' e' c' ∧ gBind P s c = childNode c' := by
  rcases TRef.flat_cases hf with ⟨rfl, rfl, hne⟩ | ⟨id, extra, hty, hr⟩
  · obtain ⟨a, ty, o⟩ := r
    exact ⟨c, hpl, bindChild_not_named _ _ _ _ _ _ (placedE_not_named _ _ _ _ hne hpl)⟩
  · cases placedT_named hpl hty
    obtain ⟨_, c', _, hpl', hb⟩ := bind_of_resolve P hkn hr
    exact ⟨c', hpl', hb⟩

theorem down_step (P : Program) (hkn : KeysDistinct P) {s : String} {e : TyExpr} {x : Nat}
    (hpl : PlacedE (gNodes P) s e (.node x)) {r : TRef} (hr : r ∈ e.kids) {s' : String} {e' : TyExpr}
    (hf : r.flat (buildTable P) s = some (s', e')) (ha : e'.isAnon = true) :
    ∃ y, PlacedE (gNodes P) s' e' (.node y) ∧ y ∈ Cyc.ibases (gGraph P) x := by
  obtain ⟨kids, hk, hkids, _⟩ := placedE_kids hpl
  obtain ⟨c, hc, hpc⟩ := hkids r hr
  obtain ⟨c', hpl', hb⟩ := placedT_flat P hkn hpc hf
  obtain ⟨y, rfl, hy⟩ := placedE_isAnon _ _ _ _ ha hpl'
  exact ⟨y, hpl', mem_ibases_of_child P x s kids c y hk hc hb hy⟩

/-- the units the descent needs below a node of the graph that reaches no cycle: `2 f + 1` at `f = |graph| + 1`, the nested
    frames `Cyc.aliasGate` gives `revisits_anonymous_type`. With the `2 d + 2` of the written nesting this is the
    `2 d + 2 n + 5` of `accepted_gate_within`. -/
def gateFuel (P : Program) : Nat := 2 * ((gGraph P).length + 1) + 1

/-- by `Cyc.ReachesCycle.induct_not`: a node needs one frame, two units, more than its children -/
theorem descent_in_graph (P : Program) (hkn : KeysDistinct P) {x : Nat} (h : ¬ Cyc.ReachesCycle (gGraph P) x) (e : TyExpr)
    (s : String) (hpl : PlacedE (gNodes P) s e (.node x)) :
    tyWithin (buildTable P) s (gateFuel P) e = true := by
  refine Cyc.ReachesCycle.induct_not
    (fun f x => ∀ e s, PlacedE (gNodes P) s e (.node x) → tyWithin (buildTable P) s (2 * f + 1) e = true)
    (fun f x ih e s hpl => ?_) h e s hpl
  rw [show 2 * (f + 1) + 1 = (2 * f + 1) + 1 + 1 by omega, tyWithin_succ, List.all_eq_true]
  intro r hr
  rw [trefWithin_succ]
  intro s' e' hf
  cases ha : e'.isAnon with
  | false => exact tyWithin_not_anon _ _ _ _ ha
  | true =>
    obtain ⟨y, hpl', hy⟩ := down_step P hkn hpl hr hf ha
    exact ih y hy e' s' hpl'

theorem within_of_no_cycle (P : Program) (hkn : KeysDistinct P) {s : String} {e : TyExpr} {c : Cyc.AChild}
    (hpl : PlacedE (gNodes P) s e c) (h : ∀ x, c = .node x → ¬ Cyc.ReachesCycle (gGraph P) x) :
    tyWithin (buildTable P) s (gateFuel P) e = true := by
  cases he : e.isAnon with
  | false => exact tyWithin_not_anon _ _ _ _ he
  | true =>
    obtain ⟨x, rfl, _⟩ := placedE_isAnon _ _ _ _ he hpl
    exact descent_in_graph P hkn (h x rfl) e s hpl

mutual
def TRef.anonTypes : TRef → Nat
  | .mk _ ty _ => ty.anonTypes
def TyExpr.anonTypes : TyExpr → Nat
  | .prim _ => 0
  | .named _ => 0
  | .seq e => e.anonTypes + 1
  | .dict k v => k.anonTypes + v.anonTypes + 1
  | .result s f => s.anonTypes + f.anonTypes + 1
end

mutual
theorem allocT_length : ∀ (r : TRef) (s : String) (off : Nat), (Cyc.allocT s r off).2.length = r.anonTypes
  | .mk a ty o, s, off => by simp only [Cyc.allocT, TRef.anonTypes]; exact allocE_length ty s off
theorem allocE_length : ∀ (e : TyExpr) (s : String) (off : Nat), (Cyc.allocE s e off).2.length = e.anonTypes
  | .prim _, s, off | .named _, s, off => by simp [Cyc.allocE, TyExpr.anonTypes]
  | .seq r, s, off => by simp [Cyc.allocE, TyExpr.anonTypes, allocT_length r]
  | .dict a b, s, off | .result a b, s, off => by simp [Cyc.allocE, TyExpr.anonTypes, allocT_length a, allocT_length b]
end

theorem foldl_alloc_length : ∀ (as : List (String × String × TRef)) (acc : List Cyc.ANode × List (String × Cyc.AChild)),
    (as.foldl allocStep acc).1.length = acc.1.length + (as.map fun a => a.2.2.anonTypes).sum
  | [], acc => by simp
  | a :: as, acc => by
    simp only [List.foldl_cons, List.map_cons, List.sum_cons]
    rw [foldl_alloc_length as]
    simp only [allocStep, List.length_append, allocT_length]
    omega

def anonCount (P : Program) : Nat := ((Cyc.aliasDefs P).map fun a => a.2.2.anonTypes).sum

theorem gNodes_length (P : Program) : (gNodes P).length = anonCount P := by
  unfold gNodes anonCount
  rw [anonAlloc_eq, foldl_alloc_length]
  simp

theorem kid_of_step (P : Program) (x y : Nat) (s : String) (kids : List Cyc.AChild)
    (hx : (gNodes P)[x]? = some ⟨s, kids⟩) (hstep : y ∈ Cyc.ibases (gGraph P) x) :
    ∃ c ∈ kids, gBind P s c = some y := by
  obtain ⟨_, hr, hy, _⟩ := Cyc.mem_ibases.1 hstep
  cases (gGraph_get P hx).symm.trans hr
  exact List.mem_filterMap.mp hy

theorem placedT_bound (P : Program) (hkn : KeysDistinct P) {s : String} {r : TRef} {c : Cyc.AChild} {x : Nat}
    (hpl : PlacedT (gNodes P) s r c) (hok : ∀ id, r.ty = .named id → ∃ v, resolveNamed (buildTable P) .type id s = .ok v)
    (hb : gBind P s c = some x) :
    ∃ s' e', r.flat (buildTable P) s = some (s', e') ∧ PlacedE (gNodes P) s' e' (.node x) := by
  cases hf : r.flat (buildTable P) s with
  | some se =>
    obtain ⟨c', hpl', hb'⟩ := placedT_flat P hkn hpl hf
    rw [hb] at hb'
    cases c' <;> cases hb'
    exact ⟨_, _, rfl, hpl'⟩
  | none =>
    -- a name that resolves to a node: bound to nothing
    revert hf
    fun_cases TRef.flat (buildTable P) s r with
    | case2 _ id _ hne =>
      cases hpl
      obtain ⟨⟨tgt, extra⟩, hv⟩ := hok id rfl
      cases tgt with
      | node n => cases hb.symm.trans (show gBind P s (.named id) = none from bind_of_resolve P hkn hv)
      | expr e s' => exact (hne e s' extra hv).elim
    | _ => nofun

theorem step_down (P : Program) (hkn : KeysDistinct P) {s : String} {e : TyExpr} {x y : Nat}
    (hpl : PlacedE (gNodes P) s e (.node x)) (hok : RefsOK (buildTable P) s (Validate.subRefsE e))
    (hstep : y ∈ Cyc.ibases (gGraph P) x) :
    ∃ r ∈ e.kids, ∃ s' e', r.flat (buildTable P) s = some (s', e') ∧ PlacedE (gNodes P) s' e' (.node y) := by
  obtain ⟨kids, hk, _, hkids⟩ := placedE_kids hpl
  obtain ⟨c, hc, hby⟩ := kid_of_step P x y s kids hk hstep
  obtain ⟨r, hr, hpr⟩ := hkids c hc
  exact ⟨r, hr, placedT_bound P hkn hpr (hok r (subRefsE_kids e r hr r (mem_subRefsT_self r))) hby⟩

theorem unbounded_below_cycle (P : Program) (hkn : KeysDistinct P) (hP : SitesResolve P) :
    ∀ (F : Nat) (s : String) (e : TyExpr) (x : Nat), PlacedE (gNodes P) s e (.node x) →
      RefsOK (buildTable P) s (Validate.subRefsE e) → Cyc.ReachesCycle (gGraph P) x →
      tyWithin (buildTable P) s F e = false := by
  intro F
  induction F with
  | zero => intros; rfl
  | succ F ih =>
    intro s e x hpl hok hrc
    obtain ⟨y, hy, hrc'⟩ := hrc.base
    obtain ⟨r, hr, s', e', hf, hpl'⟩ := step_down P hkn hpl hok hy
    rw [Bool.eq_false_iff, Ne, tyWithin_succ, List.all_eq_true]
    intro hwi
    -- with one unit more the reference `r` steps on into `e'`, which the budget `F` does not cover
    have hr' := (within_mono _ F (F + 1) (Nat.le_succ F)).1 _ _ (hwi r hr)
    exact Bool.eq_false_iff.mp (ih s' e' y hpl' (hP.flat (hok.sub (subRefsE_kids e r hr)) hf) hrc')
      ((trefWithin_succ _ _ _ _).mp hr' s' e' hf)

/-- the `a`-th alias definition is reported by `revisits_anonymous_type` exactly when the flattening descent into its
    underlying type does not end, whatever the budget -/
theorem alias_reported_iff (P : Program) (hkn : KeysDistinct P) (hP : SitesResolve P)
    {a : Nat} {al : String × String × TRef} (ha : (Cyc.aliasDefs P)[a]? = some al) :
    a ∈ Cyc.aliasGate (gGraph P) (gStartNodes P) ↔ ¬ ∃ F, trefWithin (buildTable P) al.2.1 F al.2.2 = true := by
  obtain ⟨c, hc, hpl⟩ := gStarts_placed P ha
  rw [reported_iff_start P hc]
  constructor
  · rintro ⟨x, hsx, hrc⟩ ⟨F, hF⟩
    obtain ⟨k, s, u⟩ := al
    obtain ⟨f, hf, doc, attrs, name, hd, rfl, _⟩ := mem_aliasDefs (List.mem_of_getElem? ha)
    have hok := aliasDef_refsOK P hP hf hd
    obtain ⟨s', e', hfl, hpl'⟩ := placedT_bound P hkn hpl (hok _ (mem_subRefsT_self _)) hsx
    exact Bool.eq_false_iff.mp (unbounded_below_cycle P hkn hP F s' e' x hpl' (hP.flat hok hfl) hrc)
      ((trefWithin_succ _ _ _ _).mp ((within_mono _ F (F + 1) (Nat.le_succ F)).1 _ _ hF) s' e' hfl)
  · intro hunb
    refine Classical.byContradiction fun hnot => hunb ⟨gateFuel P + 1, ?_⟩
    rw [trefWithin_succ]
    intro s' e' hfl
    obtain ⟨c', hpl', hb⟩ := placedT_flat P hkn hpl hfl
    exact within_of_no_cycle P hkn hpl' fun x hc' hrc => hnot ⟨x, by subst hc'; exact hb, hrc⟩

/-- the bound: the reference's own written nesting, then at most one pass through the anonymous types written in alias
    definitions -/
theorem within_of_gate (P : Program) (hkn : KeysDistinct P) (hgate : Cyc.aliasGateErrors P = []) (scope : String) (r : TRef)
    (fuel : Nat) (h : 2 * r.nesting + 2 + gateFuel P ≤ fuel) : trefWithin (buildTable P) scope fuel r = true := by
  refine (within_of_names (buildTable P) scope (gateFuel P) (fun _ => True) (fun _ => True) (fun _ _ => trivial)
    (fun _ _ _ _ => trivial) ?_ fuel).1 r trivial h
  -- a name flattened into `e'`: `e'` is the start of an alias, which the gate does not report
  intro id _ e' s' extra hr
  obtain ⟨a', c, hs, hpl, _⟩ := bind_of_resolve P hkn hr
  refine within_of_no_cycle P hkn hpl fun x hc hrc => ?_
  have hnil : Cyc.aliasGate (gGraph P) (gStartNodes P) = [] := List.map_eq_nil_iff.mp hgate
  exact List.not_mem_nil (hnil ▸ (reported_iff_start P hs).2 ⟨x, hc ▸ rfl, hrc⟩)

theorem aliasGateErrors_length (P : Program) (hkn : KeysDistinct P)
    (hP : SitesResolve P) :
    (Cyc.aliasGateErrors P).length =
      (Cyc.aliasDefs P).countP fun al =>
        @decide (¬ ∃ F, trefWithin (buildTable P) al.2.1 F al.2.2 = true) (Classical.propDecidable _) := by
  unfold Cyc.aliasGateErrors
  rw [anonGraph_eq]
  simp only [List.length_map]
  have hl : (gStartNodes P).length = (Cyc.aliasDefs P).length := by simp [gStartNodes, gStarts_length]
  rw [Cyc.aliasGate, hl]
  apply filter_range_length
  intro i hi
  rw [Bool.eq_iff_iff, @decide_eq_true_iff _ (Classical.propDecidable _), ← alias_reported_iff P hkn hP (List.getElem?_eq_getElem hi), Cyc.aliasGate, List.mem_filter, List.mem_range, hl]
  exact (and_iff_right hi).symm

theorem gate_accepts_alias (P : Program) (h : (Cyc.gateOfProgram P).rejected = false) : Cyc.aliasGateErrors P = [] := by
  unfold Cyc.gateOfProgram Cyc.cycleGate at h
  cases hg : Cyc.aliasGateErrors P with
  | nil => rfl
  | cons a as => rw [hg] at h; simp [Cyc.GateOutcome.rejected] at h

end Slicec
