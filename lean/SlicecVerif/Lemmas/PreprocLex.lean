/-
  C06, the preprocessor lexer read position-free: what one call of `lex_next_preprocessor_token` / `Iterator::next`
  does to the remaining input (a `List Char`) and which token kind it returns.  Offsets and locations are recovered
  from the cursor invariant `CurInv` (`Lemmas/Preproc.lean`): a cursor is determined by its remaining input.
  Every token lowers a measure of the state (`nextLoop_meas`), so the fuel of `lexAllE` does not run out and the located
  token stream has a fuel-free form `lexES`; that the fuel of `nextLoop` itself suffices is part of the line-by-line
  reading `lexPreLE_reads` (`Lemmas/PreprocLines.lean`).  A directive line is lexed independently of what follows the
  line (the `_append` lemmas, for any `tl` with `stopNl tl`).
-/
import SlicecVerif.Lemmas.Preproc

namespace Slicec.Pp

theorem kwK_cases (r : List Char) : (∃ k, (kwK r).1 = .tok (.kw k)) ∨ (kwK r).1 = .err := by
  unfold kwK
  dsimp only
  split
  · exact Or.inl ⟨_, rfl⟩
  · exact Or.inr rfl

theorem kwK_ne_skip (r : List Char) : (kwK r).1 ≠ .skip := by
  rcases kwK_cases r with ⟨k, h⟩ | h <;> rw [h] <;> simp

theorem kwK_suffix (r : List Char) : (kwK r).2 <:+ r := by
  unfold kwK
  dsimp only
  have : (r.dropWhile isInlineWs).dropWhile isIdentChar <:+ r :=
    (List.dropWhile_suffix _).trans (List.dropWhile_suffix _)
  split <;> exact this

theorem isIdentChar_of_alpha (c : Char) (h : isAsciiAlpha c = true) : isIdentChar c = true := by
  simp [isIdentChar, h]

/-- what the kind of a directive token says about the input left of `c :: r` -/
inductive DirOut (c : Char) (r : List Char) : DirK × List Char → Prop
  | dend : c = '\n' → DirOut c r (.tok .dend, c :: r)
  | skip : DirOut c r (.skip, r.dropWhile notNewline)
  | err {r' : List Char} : r' <:+ c :: r → DirOut c r (.err, r')
  | tok {t : PTok} {r' : List Char} : t ≠ .dend → r' <:+ r → DirOut c r (.tok t, r')

theorem dirTokK_out (c : Char) (r : List Char) : DirOut c r (dirTokK c r) := by
  have hr : r <:+ c :: r := List.suffix_cons c r
  have ha := dirArm c
  generalize lexDirTok c = G at ha
  generalize dirTokK c = g at ha ⊢
  cases ha with
  | single t ht _ _ => exact .tok ht (List.suffix_refl r)
  | double t x s ht _ _ _ =>
    by_cases hh : r.head? = some x
    · simp only [if_pos hh]; exact .tok ht (List.tail_suffix r)
    · simp only [if_neg hh]; exact .err hr
  | hash _ =>
    rcases kwK_cases r with ⟨k, hk⟩ | hk
    · rw [show kwK r = (.tok (.kw k), (kwK r).2) from Prod.ext hk rfl]; exact .tok nofun (kwK_suffix r)
    · rw [show kwK r = (.err, (kwK r).2) from Prod.ext hk rfl]; exact .err ((kwK_suffix r).trans hr)
  | slash _ =>
    by_cases hh : r.head? = some '/'
    · simp only [if_pos hh]; exact .skip
    · simp only [if_neg hh]; exact .err hr
  | ident h8 =>
    simp only [List.dropWhile_cons, if_pos (isIdentChar_of_alpha c h8)]
    exact .tok nofun (List.dropWhile_suffix _)
  | symbol _ _ => exact .err hr
  | dend hc => exact .dend hc
  | space => exact .err (List.suffix_refl _)

theorem dirTokK_len (c : Char) (r : List Char) (h1 : (dirTokK c r).1 ≠ .tok .dend) (h2 : (dirTokK c r).1 ≠ .err) :
    (dirTokK c r).2.length ≤ r.length := by
  have ho := dirTokK_out c r
  generalize dirTokK c r = res at h1 h2 ho ⊢
  cases ho with
  | dend _ => exact absurd rfl h1
  | skip => exact length_dropWhile_le _ r
  | err _ => exact absurd rfl h2
  | tok _ hs => exact hs.length_le

theorem dirTokK_dend (c : Char) (r : List Char) (h : (dirTokK c r).1 = .tok .dend) :
    c = '\n' ∧ (dirTokK c r).2 = c :: r := by
  have ho := dirTokK_out c r
  generalize dirTokK c r = res at h ho ⊢
  cases ho with
  | dend hc => exact ⟨hc, rfl⟩
  | skip => cases h
  | err _ => cases h
  | tok ht _ => exact absurd (DirK.tok.inj h) ht

theorem dirTokK_skip (c : Char) (r : List Char) (h : (dirTokK c r).1 = .skip) : (dirTokK c r).2 = r.dropWhile notNewline := by
  have ho := dirTokK_out c r
  generalize dirTokK c r = res at h ho ⊢
  cases ho with
  | skip => rfl
  | _ => cases h

theorem dirTokK_suffix (c : Char) (r : List Char) : (dirTokK c r).2 <:+ c :: r := by
  have hr : r <:+ c :: r := List.suffix_cons c r
  have ho := dirTokK_out c r
  generalize dirTokK c r = res at ho ⊢
  cases ho with
  | dend _ => exact List.suffix_refl _
  | skip => exact (List.dropWhile_suffix _).trans hr
  | err hs => exact hs
  | tok _ hs => exact hs.trans hr

theorem dirTokK_nl (r : List Char) : dirTokK '\n' r = (.tok .dend, '\n' :: r) := rfl

theorem dirTokK_hash (r : List Char) : dirTokK '#' r = kwK r := by
  unfold dirTokK
  rw [if_neg (by decide), if_neg (by decide), if_neg (by decide), if_neg (by decide), if_neg (by decide), if_pos rfl]

def Mode.rank : Mode → Nat
  | .unknown => 0
  | .directive => 1
  | .sourceBlock => 2

/-- Decreases with every token.  Two tokens consume nothing: the block returned at a `#` (SourceBlock → Directive) or at
    the end of input (SourceBlock → Unknown) and the `DirectiveEnd` at a newline or at the end of input
    (Directive → Unknown); the ranks order these, and the factor 2 lets one consumed character outweigh any change of
    mode. -/
def LexSt.meas (st : LexSt) : Nat := 2 * st.cur.rest.length + st.mode.rank

theorem nextLoop_meas (f : List Char) (n : Nat) (st : LexSt) (start : Option (Loc × Nat)) (t : LTok) (st' : LexSt) :
    nextLoop f n st start = (some (.ok t), st') → st'.meas < st.meas := by
  -- going round the loop from `cur'.skipWs`: the new measure is below that of `cur'`
  have again : ∀ {cur' : Cur} {m : Mode}, st'.meas < LexSt.meas ⟨cur'.skipWs, m⟩ → st'.meas < 2 * cur'.rest.length + m.rank := by
    intro cur' m h
    have hw := length_dropWhile_le isInlineWs cur'.rest
    simp only [LexSt.meas, Cur.skipWs_rest] at h ⊢
    omega
  fun_induction nextLoop f n st start <;> intro h
  case case1 | case4 | case6 | case11 | case12 => cases h
  -- a block or `DirectiveEnd` that consumes nothing: the mode's rank falls
  case case2 st _ hr hm | case3 st _ hr hm | case9 st _ _ _ hm hr _ =>
    obtain ⟨_, rfl⟩ := Prod.mk.inj h
    simp [LexSt.meas, Mode.rank, hr, hm]
  case case5 st _ c r hr hm t1 st1 hd =>  -- directive mode, a token
    cases h
    have hk := (lexDirTok_spec c st r hr).2.2
    rw [hd] at hk
    simp only [DirStep.kind] at hk
    by_cases hdend : (dirTokK c r).1 = .tok .dend
    · have := dirTokK_dend c r hdend
      simp only [LexSt.meas, hk.2.1, hk.2.2, hdend, ↓reduceIte, this.2, hr, hm, Mode.rank]
      omega
    · have hl := dirTokK_len c r hdend (by rw [← hk.1]; simp)
      simp only [LexSt.meas, hk.2.1, hk.2.2, hdend, ↓reduceIte, hr, hm, Mode.rank, List.length_cons]
      omega
  case case7 st _ c r hr hm st1 hd ih =>  -- directive mode, a comment
    have h' := again (ih h)
    have hk := (lexDirTok_spec c st r hr).2.2
    rw [hd] at hk
    simp only [DirStep.kind] at hk
    have hne : (dirTokK c r).1 ≠ .tok .dend := by rw [← hk.1]; simp
    have hl := dirTokK_len c r hne (by rw [← hk.1]; simp)
    rw [hk.2.1, hk.2.2, if_neg hne] at h'
    simp only [LexSt.meas, hr, List.length_cons] at h' ⊢
    omega
  case case8 st _ r hm hr ih =>  -- a newline outside a directive
    have h' := again (ih h)
    rw [Cur.adv_rest, hr, List.tail_cons] at h'
    simp only [LexSt.meas, hr, List.length_cons] at h' ⊢
    omega
  case case10 st _ r hm t1 cur1 hd hsb hr _ =>  -- the keyword at a `#` in mode Unknown
    cases h
    have hk := lexKeyword_kind st.cur r hr
    have hl := (kwK_suffix r).length_le
    rw [hd] at hk
    have hmode : st.mode = .unknown := by cases hmm : st.mode <;> simp_all
    simp only [LexSt.meas, show cur1.rest = (kwK r).2 from hk.2, hr, hmode, Mode.rank, List.length_cons]
    omega
  case case13 st start c r hr hm hnl hc start' ih =>  -- a source line
    have h' := again (ih h)
    have hn := length_dropWhile_le notNewline r
    have hnn : notNewline c = true := by simp [notNewline, hnl]
    rw [Cur.toEol_rest, hr, List.dropWhile_cons, if_pos hnn] at h'
    simp only [LexSt.meas, Mode.rank, hr, List.length_cons] at h' ⊢
    omega

theorem lexNext_meas (f : List Char) (st : LexSt) (t : LTok) (st' : LexSt)
    (h : lexNext f st = (some (.ok t), st')) : st'.meas < st.meas := by
  unfold lexNext at h
  have := nextLoop_meas f _ _ _ _ _ h
  have hw := length_dropWhile_le isInlineWs st.cur.rest
  simp only [LexSt.meas, Cur.skipWs_rest] at this
  simp only [LexSt.meas]
  omega

def lexES (f : List Char) (st : LexSt) : List LTok × Option LexErr := lexAllE f (st.meas + 1) st

theorem lexAllE_eq_S (f : List Char) (st : LexSt) (n : Nat) (h : st.meas + 1 ≤ n) : lexAllE f n st = lexES f st := by
  refine fuel_irrelevant LexSt.meas (lexAllE f) ?_ _ _ st h (Nat.lt_succ_self _)
  intro n m st ih
  rw [lexAllE, lexAllE]
  cases hn : lexNext f st with
  | mk res st1 =>
    cases res with
    | none => rfl
    | some r =>
      cases r with
      | error e => rfl
      | ok t => simp only [ih st1 (lexNext_meas f st t st1 hn)]

def contE (f : List Char) : Option (Except LexErr LTok) × LexSt → List LTok × Option LexErr
  | (none, _) => ([], none)
  | (some (.error e), _) => ([], some e)
  | (some (.ok t), st') => (t :: (lexES f st').1, (lexES f st').2)

theorem lexES_unfold (f : List Char) (st : LexSt) : lexES f st = contE f (lexNext f st) := by
  unfold lexES
  rw [lexAllE]
  cases hn : lexNext f st with
  | mk res st1 =>
    cases res with
    | none => rfl
    | some r =>
      cases r with
      | error e => rfl
      | ok t =>
        have := lexNext_meas f st t st1 hn
        simp only [contE]
        rw [lexAllE_eq_S f st1 st.meas (by omega)]

theorem lexPreLE_eq_S (f : List Char) : lexPreLE f = lexES f (lexInit f) := by
  unfold lexPreLE
  exact lexAllE_eq_S f _ _ (by simp [LexSt.meas, lexInit, Mode.rank])

def stopNl : List Char → Prop
  | [] => True
  | c :: _ => c = '\n'

theorem stopNl.stops {tl : List Char} (h : stopNl tl) {p : Char → Bool} (hp : p '\n' = false) : stops p tl = true := by
  cases tl with
  | nil => rfl
  | cons c tl => simp only [stopNl] at h; subst h; simp [Slicec.stops, hp]

theorem dropWhile_stop (p : Char → Bool) (hp : p '\n' = false) (tl : List Char) (h : stopNl tl) : tl.dropWhile p = tl :=
  dropWhile_of_stops (h.stops hp)

theorem stopNl_dropWhile_notNewline (r : List Char) : stopNl (r.dropWhile notNewline) := by
  cases h : r.dropWhile notNewline with
  | nil => trivial
  | cons c tl => simpa [notNewline, stopNl] using dropWhile_head_not h

/-- one `next()` in directive mode on the remaining input: the token (`none` = lexical error) and the input left;
    a `//` comment runs to the end of the line, which ends the directive -/
def dirNextK (rest : List Char) : Option PTok × List Char :=
  match rest.dropWhile isInlineWs with
  | [] => (some .dend, [])
  | c :: r' =>
    match dirTokK c r' with
    | (.tok t, r'') => (some t, r'')
    | (.err, r'') => (none, r'')
    | (.skip, r'') => (some .dend, r'')

theorem dirNextK_suffix (r : List Char) : (dirNextK r).2 <:+ r := by
  fun_cases dirNextK r
  case case1 => exact List.nil_suffix
  case case2 c r' h0 _ _ hK | case3 c r' h0 _ hK | case4 c r' h0 _ hK =>
    have := (dirTokK_suffix c r').trans (h0 ▸ List.dropWhile_suffix (l := r) isInlineWs)
    rwa [hK] at this

theorem dirNextK_len (r : List Char) (t : PTok) (h : (dirNextK r).1 = some t) (ht : t ≠ .dend) :
    (dirNextK r).2.length < r.length := by
  revert h
  fun_cases dirNextK r <;> intro h <;> cases h
  case case2 c r' h0 r'' hK =>
    have h1 := length_dropWhile_le isInlineWs r
    have := dirTokK_len c r' (by rw [hK]; simpa using ht) (by rw [hK]; simp)
    rw [hK] at this
    rw [h0, List.length_cons] at h1
    exact Nat.lt_of_le_of_lt this h1
  all_goals exact absurd rfl ht

theorem dirNextK_hash (d : List Char) :
    dirNextK ('#' :: d) = match kwK d with
      | (.tok t, r) => (some t, r)
      | (.err, r) => (none, r)
      | (.skip, r) => (some .dend, r) := by
  unfold dirNextK
  simp only [List.dropWhile_cons, show isInlineWs '#' = false by decide, Bool.false_eq_true, ↓reduceIte, dirTokK_hash]

def dirLexR : Nat → List Char → Option (List PTok × List Char)
  | 0, _ => none
  | n + 1, rest =>
    match dirNextK rest with
    | (none, _) => none
    | (some t, r1) => if t = .dend then some ([], r1) else (dirLexR n r1).map (fun x => (t :: x.1, x.2))

/-- the tokens of a directive line `d` (from its `#` on), without the final `DirectiveEnd`; `none` = lexical error -/
def dirLine (d : List Char) : Option (List PTok) := (dirLexR (d.length + 1) d).map (·.1)

def curOf (f rest : List Char) : Cur := ⟨rest, f.length - rest.length, locAt f (f.length - rest.length)⟩
def stAt (f rest : List Char) (m : Mode) : LexSt := ⟨curOf f rest, m⟩

theorem CurInv.off_eq {f : List Char} {c : Cur} (h : CurInv f c) : c.off = f.length - c.rest.length := by
  have h1 := h.le
  have h2 := congrArg List.length h.rest
  rw [List.length_drop] at h2
  omega

theorem CurInv.eq_curOf {f : List Char} {c : Cur} (h : CurInv f c) : c = curOf f c.rest := by
  obtain ⟨rest, off, loc⟩ := c
  have ho := h.off_eq
  have hl := h.loc
  simp only at ho hl
  simp only [curOf, Cur.mk.injEq, true_and]
  rw [← ho]
  exact ⟨rfl, hl⟩

theorem LexSt.eq_stAt {f : List Char} {st : LexSt} (h : CurInv f st.cur) : st = stAt f st.cur.rest st.mode := by
  obtain ⟨cur, m⟩ := st
  simp only [stAt, LexSt.mk.injEq, and_true]
  exact h.eq_curOf

theorem noNl_of_suffix {a b : List Char} (h : a <:+ b) (hb : noNl b) : noNl a := fun x hx => hb x (h.subset hx)

theorem dropWhile_append_stop (p : Char → Bool) (hp : p '\n' = false) (a tl : List Char) (h : stopNl tl) :
    (a ++ tl).dropWhile p = a.dropWhile p ++ tl :=
  (span_append p a tl (.inr (h.stops hp))).2

theorem takeWhile_append_stop (p : Char → Bool) (hp : p '\n' = false) (a tl : List Char) (h : stopNl tl) :
    (a ++ tl).takeWhile p = a.takeWhile p :=
  (span_append p a tl (.inr (h.stops hp))).1

theorem head?_append_stop (x : Char) (hx : x ≠ '\n') (r tl : List Char) (h : stopNl tl) :
    ((r ++ tl).head? = some x) = (r.head? = some x) := by
  cases r with
  | nil =>
    cases tl with
    | nil => rfl
    | cons c tl =>
      simp only [stopNl] at h; subst h
      simp only [List.nil_append, List.head?_cons, Option.some.injEq, List.head?_nil, reduceCtorEq, eq_iff_iff, iff_false]
      exact fun e => hx e.symm
  | cons c r => rfl

theorem kwK_append (r tl : List Char) (h : stopNl tl) : kwK (r ++ tl) = ((kwK r).1, (kwK r).2 ++ tl) := by
  unfold kwK
  simp only [dropWhile_append_stop _ isInlineWs_nl _ _ h, takeWhile_append_stop _ isIdentChar_nl _ _ h,
    dropWhile_append_stop _ isIdentChar_nl _ _ h]
  split <;> rfl

theorem dirTokK_append (c : Char) (r tl : List Char) (hc : c ≠ '\n') (h : stopNl tl) :
    dirTokK c (r ++ tl) = ((dirTokK c r).1, (dirTokK c r).2 ++ tl) := by
  have ha := dirArm c
  generalize lexDirTok c = G at ha
  generalize dirTokK c = g at ha ⊢
  cases ha with
  | single _ _ _ _ => rfl
  | double t x s _ _ _ hx =>
    simp only [head?_append_stop x hx r tl h]
    by_cases hh : r.head? = some x
    · simp only [if_pos hh, List.tail_append_of_ne_nil (show r ≠ [] by rintro rfl; cases hh)]
    · simp only [if_neg hh]
  | hash _ => exact kwK_append r tl h
  | slash _ =>
    simp only [head?_append_stop '/' (by decide) r tl h]
    by_cases hh : r.head? = some '/'
    · simp only [if_pos hh, dropWhile_append_stop _ notNewline_nl _ _ h]
    · simp only [if_neg hh]
  | ident _ =>
    have e1 := takeWhile_append_stop _ isIdentChar_nl (c :: r) tl h
    have e2 := dropWhile_append_stop _ isIdentChar_nl (c :: r) tl h
    rw [List.cons_append] at e1 e2
    simp only [e1, e2]
  | symbol _ _ => rfl
  | dend hc' => exact absurd hc' hc
  | space => rfl

theorem dropWhile_notNewline_noNl (r : List Char) (h : noNl r) : r.dropWhile notNewline = [] :=
  dropWhile_eq_nil_iff.mpr (List.all_eq_true.mpr fun x hx => by simpa [notNewline] using h x hx)

theorem dirNextK_append (r tl : List Char) (hr : noNl r) (h : stopNl tl) :
    dirNextK (r ++ tl) = ((dirNextK r).1, (dirNextK r).2 ++ tl) ∧
    ((dirNextK r).1 = some .dend → (dirNextK r).2 = []) := by
  unfold dirNextK
  rw [dropWhile_append_stop _ isInlineWs_nl _ _ h]
  cases h0 : r.dropWhile isInlineWs with
  | nil =>
    simp only [List.nil_append, implies_true, and_true]
    cases tl with
    | nil => rfl
    | cons c tl =>
      simp only [stopNl] at h; subst h
      simp only [dirTokK_nl]
  | cons c r' =>
    have h1 : c :: r' <:+ r := by rw [← h0]; exact List.dropWhile_suffix _
    have hn := noNl_of_suffix h1 hr
    have hc : c ≠ '\n' := hn c (by simp)
    simp only [List.cons_append]
    rw [dirTokK_append c r' tl hc h]
    cases hK : dirTokK c r' with
    | mk k r'' =>
      cases k with
      | tok t =>
        refine ⟨rfl, ?_⟩
        intro ht
        cases ht
        exact absurd (dirTokK_dend c r' (by rw [hK])).1 hc
      | err => exact ⟨rfl, by simp⟩
      | skip =>
        refine ⟨rfl, fun _ => ?_⟩
        have := dirTokK_skip c r' (by rw [hK])
        rw [hK] at this
        simp only at this ⊢
        rw [this]
        exact dropWhile_notNewline_noNl r' (fun x hx => hn x (by simp [hx]))

end Slicec.Pp
