/-
  The parser model inverts the structural token printer (C02, parser half): operations, enumerators, definitions, the file
  (`parseFileRaw_shape`: every token sequence of a file's shape parses to that file, and no action reports an error).
-/
import SlicecVerif.Lemmas.SliceParser

namespace Slicec.SPar

open Slicec Slicec.SLex

theorem startsTypeRef_notLp (Z : Toks) (h : startsTypeRef Z = true) : notLp Z = true := by
  cases Z with
  | nil => rfl
  | cons t r =>
    cases t with
    | lparen => exact h
    | _ => rfl

theorem single_head (tag : Option IntLit) (stream : Bool) (ty : TRef) (h : trefRT ty = true) (X : Toks) :
    notLp (tagToks tag ++ (streamToks stream ++ (trefToks ty ++ X))) = true ∧
    notTag (streamToks stream ++ (trefToks ty ++ X)) = true := by
  obtain ⟨h1, h2, _⟩ := trefToks_head ty h X
  have hs : notLp (streamToks stream ++ (trefToks ty ++ X)) = true ∧ notTag (streamToks stream ++ (trefToks ty ++ X)) = true := by
    cases stream
    · exact ⟨startsTypeRef_notLp _ h1, h2⟩
    · exact ⟨rfl, rfl⟩
  cases tag
  · exact hs
  · exact ⟨rfl, hs.2⟩

theorem parseRet_toks (r : Ret) (h : retRT r = true) (T Y : Toks) (hT : RetSh r T) (hY : okNext Y = true) :
    parseRet (T ++ Y) = some ((r, false), Y) := by
  cases r with
  | none =>
    simp only [RetSh] at hT
    subst hT
    refine parseRet.eq_3 Y ?_ ?_
    · rintro r rfl
      cases hY
    · rintro r rfl
      cases hY
  | single tag stream ty =>
    simp only [RetSh] at hT
    subst hT
    simp only [retRT, Bool.and_eq_true] at h
    obtain ⟨g1, g2⟩ := single_head tag stream ty h.2 Y
    have e1 := parseTagOpt_toks tag h.1 (streamToks stream ++ (trefToks ty ++ Y)) g2
    have hlp : ∀ r, tagToks tag ++ (streamToks stream ++ (trefToks ty ++ Y)) ≠ .lparen :: r := by
      intro r e
      rw [e] at g1
      cases g1
    simp only [List.cons_append, List.append_assoc, parseRet.eq_2 _ hlp, e1,
      takeKw_stream stream _ (trefToks_head ty h.2 Y).2.2, parseTypeRef_toks ty h.2 Y (okNext_okTy Y hY)]
  | tuple ps =>
    simp only [RetSh] at hT
    obtain ⟨Tp, hTp, rfl⟩ := hT
    simp only [retRT] at h
    simp only [List.cons_append, List.append_assoc, List.nil_append, parseRet, parseParams_toks ps h Tp Y hTp]

theorem takeKw_idem (b : Bool) (s : List Char) (X : Toks) :
    takeKw "IdempotentKeyword" (idemToks b ++ .ident s :: X) = (b, .ident s :: X) :=
  takeKw_opt _ b _ nofun

theorem idem_ident_start (b : Bool) (s : List Char) (X : Toks) :
    notPre (idemToks b ++ .ident s :: X) = true ∧ startsOp (idemToks b ++ .ident s :: X) = true ∧
    elemStart (idemToks b ++ .ident s :: X) = true := by
  cases b <;> exact ⟨rfl, rfl, rfl⟩

theorem opStep_toks (o : Op) (h : opRT o = true) (T R : Toks) (hT : OpSh o T) (hR : okNext R = true) :
    opStep (T ++ R) = some (some ((o, false), R)) := by
  obtain ⟨Tp, Tr, hTp, hTr, rfl⟩ := hT
  simp only [opRT, Bool.and_eq_true] at h
  obtain ⟨⟨⟨_, hattrs⟩, hps⟩, hret⟩ := h
  obtain ⟨hp1, hp2, _⟩ := idem_ident_start o.idempotent o.name.toList (.lparen :: (Tp ++ .rparen :: (Tr ++ R)))
  have hb : parseOpBody o.doc o.attrs (idemToks o.idempotent ++ .ident o.name.toList :: .lparen :: (Tp ++ .rparen :: (Tr ++ R))) =
      some ((o, false), R) := by
    simp only [parseOpBody, takeKw_idem, parseParams_toks o.params hps Tp _ hTp, parseRet_toks o.ret hret Tr R hTr hR, String.ofList_toList,
      Bool.or_self]
  have := preStep_toks startsOp parseOpBody false o.doc o.attrs hattrs _ hp1 hp2 _ _ hb
  simpa only [opStep, List.append_assoc, List.cons_append, Bool.false_eq_true, if_false] using this

theorem opSh_start (o : Op) (T : Toks) (hT : OpSh o T) : elemStart T = true := by
  obtain ⟨Tp, Tr, _, _, rfl⟩ := hT
  exact elemStart_pre _ _ _ (idem_ident_start _ _ _).2.2

theorem parseOpBlock_toks (os : List Op) (h : os.all opRT = true) (T R : Toks) (hT : opsSh os T) :
    parseOpBlock (.lbrace :: (T ++ .rbrace :: R)) = some (os.map fun o => (o, false), R) := by
  rw [List.all_eq_true] at h
  have hm : many opStep (T ++ .rbrace :: R) = some (os.map fun o => (o, false), .rbrace :: R) :=
    many_elems opStep opStep_shrinks OpSh (fun o => (o, false)) os T _ hT opSh_start
      (fun o ho T1 R' e hR' => opStep_toks o (h o ho) T1 R' e hR') rfl (preStep_stop _ _ _ _ rfl rfl)
  simp only [parseOpBlock, hm]

theorem parseEnumFields_toks (fs : Option (List Field)) (h : (match fs with | none => true | some l => l.all fieldRT) = true)
    (T Y : Toks) (hT : EnumFieldsSh fs T) (hY : notLp Y = true) : parseEnumFields (T ++ Y) = some (fs, Y) := by
  cases fs with
  | none =>
    simp only [EnumFieldsSh] at hT
    subst hT
    refine parseEnumFields.eq_2 Y ?_
    rintro r rfl
    cases hY
  | some l =>
    simp only [EnumFieldsSh] at hT
    obtain ⟨T', hT', rfl⟩ := hT
    simp only [List.cons_append, List.append_assoc, List.nil_append, parseEnumFields,
      many_fields l h T' (.rparen :: Y) hT' rfl rfl rfl]

theorem parseEnumValue_toks (v : Option IntLit) (h : (match v with | none => true | some l => intRT l) = true)
    (Y : Toks) (hY : Y.head? ≠ some .equals) : parseEnumValue (valueToks v ++ Y) = some (v, Y) := by
  cases v with
  | none =>
    refine parseEnumValue.eq_2 Y ?_
    rintro r rfl
    exact hY rfl
  | some l => simp only [valueToks, List.cons_append, parseEnumValue, parseSignedInt_toks l h Y]

theorem valueToks_notLp (v : Option IntLit) (Y : Toks) (hY : notLp Y = true) : notLp (valueToks v ++ Y) = true := by
  cases v with
  | none => simpa [valueToks] using hY
  | some l => rfl

theorem enumeratorStep_toks (e : Enumerator) (h : enumeratorRT e = true) (T Y : Toks) (hT : EnumeratorSh e T)
    (hY : okNext (skipComma Y) = true) : enumeratorStep (T ++ Y) = some (some (e, skipComma Y)) := by
  obtain ⟨Tf, hTf, rfl⟩ := hT
  simp only [enumeratorRT, Bool.and_eq_true] at h
  obtain ⟨⟨⟨_, hattrs⟩, hfs⟩, hv⟩ := h
  obtain ⟨g1, g2⟩ := next_of_sep Y hY
  have hb : parseEnumeratorBody e.doc e.attrs (.ident e.name.toList :: (Tf ++ (valueToks e.value ++ Y))) = some (e, Y) := by
    simp only [parseEnumeratorBody, parseEnumFields_toks e.fields hfs Tf _ hTf (valueToks_notLp e.value _ g1),
      parseEnumValue_toks e.value hv _ g2, String.ofList_toList]
  have := preStep_toks startsEnumerator parseEnumeratorBody true e.doc e.attrs hattrs _ rfl rfl _ _ hb
  simpa only [enumeratorStep, List.append_assoc, List.cons_append, if_true] using this

theorem enumeratorSh_start (e : Enumerator) (T : Toks) (hT : EnumeratorSh e T) : elemStart T = true := by
  obtain ⟨Tf, _, rfl⟩ := hT
  exact elemStart_pre _ _ _ rfl

theorem parseEnumeratorBlock_toks (es : List Enumerator) (h : es.all enumeratorRT = true) (T R : Toks)
    (hT : enumeratorsSh es T) : parseEnumeratorBlock (.lbrace :: (T ++ .rbrace :: R)) = some (es, R) := by
  rw [List.all_eq_true] at h
  have hm : many enumeratorStep (T ++ .rbrace :: R) = some (es, .rbrace :: R) :=
    (many_sep enumeratorStep enumeratorStep_shrinks EnumeratorSh id es T _ hT enumeratorSh_start
      (fun e he T1 Y hs hY => enumeratorStep_toks e (h e he) T1 Y hs hY) rfl (preStep_stop _ _ _ _ rfl rfl)).trans
      (by rw [List.map_id])
  simp only [parseEnumeratorBlock, hm]

def defDoc : Def → List String
  | .struct d _ _ _ _ => d | .iface d _ _ _ _ => d | .enum d _ _ _ _ _ _ => d | .custom d _ _ => d | .alias d _ _ _ => d

def defAttrs : Def → List Attr
  | .struct _ a _ _ _ => a | .iface _ a _ _ _ => a | .enum _ a _ _ _ _ _ => a | .custom _ a _ => a | .alias _ a _ _ => a

theorem startsDef_append (X R : Toks) (h : startsDef X = true) :
    elemStart X = true ∧ startsDef (X ++ R) = true ∧ notPre (X ++ R) = true ∧ afterModuleKw (X ++ R) = none := by
  unfold startsDef at h
  split at h
  · refine ⟨rfl, h, rfl, afterModuleKw.eq_2 _ ?_⟩
    intro r' e
    rw [SliceTok.kw.inj (List.cons.inj e).1] at h
    exact absurd h (by decide +kernel)
  · cases h

theorem startsDef_kw {k : String} {r : Toks} (h : startsDef [.kw k] = true) : startsDef (.kw k :: r) = true := h

theorem parseFieldBlock_toks (fs : List Field) (h : fs.all fieldRT = true) (T R : Toks) (hT : fieldsSh fs T) :
    parseFieldBlock (.lbrace :: (T ++ .rbrace :: R)) = some (fs, R) := by
  simp only [parseFieldBlock, many_fields fs h T (.rbrace :: R) hT rfl rfl rfl]

theorem baseStep_toks (t : TRef) (h : trefRT t = true) (R : Toks) (hR : okTy R = true) :
    baseStep ((.comma :: trefToks t) ++ R) = some (some (t, R)) := by
  simp only [List.cons_append, baseStep, (trefToks_head t h R).1, if_true, parseTypeRef_toks t h R hR]

theorem parseBases_toks (b : TRef) (bs : List TRef) (h : (b :: bs).all trefRT = true) (Z : Toks) :
    parseBases (trefToks b ++ (bs.flatMap (fun t => .comma :: trefToks t) ++ .lbrace :: Z)) = some (b :: bs, .lbrace :: Z) := by
  simp only [List.all_cons, Bool.and_eq_true] at h
  have hbs := h.2
  rw [List.all_eq_true] at hbs
  have hm : many baseStep (bs.flatMap (fun t => .comma :: trefToks t) ++ .lbrace :: Z) = some (bs, .lbrace :: Z) := by
    refine (many_cat baseStep baseStep_shrinks (fun Y => okTy Y = true) (fun t T => T = .comma :: trefToks t) id bs _ _
      (catShape_flatMap _ bs) ?_ ?_ rfl rfl).trans (by rw [List.map_id])
    · intro t ht T1 R' e hR'; subst e; exact baseStep_toks t (hbs t ht) R' hR'
    · intro t _ T1 R' e; subst e; rfl
  have hok : okTy (bs.flatMap (fun t => .comma :: trefToks t) ++ .lbrace :: Z) = true := by
    cases bs with
    | nil => rfl
    | cons t ts => rfl
  simp only [parseBases, parseTypeRef_toks b h.1 _ hok, hm, skipComma]

theorem parseBasesOpt_toks (bs : List TRef) (h : bs.all trefRT = true) (Z : Toks) :
    parseBasesOpt (basesToks bs ++ .lbrace :: Z) = some (bs, .lbrace :: Z) := by
  cases bs with
  | nil => rfl
  | cons b bs =>
    simp only [basesToks, List.cons_append, List.append_assoc, parseBasesOpt, parseBases_toks b bs h Z]

theorem parseUnderlying_toks (u : Option TRef) (h : (match u with | none => true | some t => trefRT t) = true) (Z : Toks) :
    parseUnderlying (underlyingToks u ++ .lbrace :: Z) = some (u, .lbrace :: Z) := by
  cases u with
  | none => rfl
  | some t => simp only [underlyingToks, List.cons_append, parseUnderlying, parseTypeRef_toks t h (.lbrace :: Z) rfl]

theorem parseDefBody_struct (docs : List String) (attrs : List Attr) (compact : Bool) (r : Toks) :
    parseDefBody docs attrs (flagToks compact "CompactKeyword" ++ .kw "StructKeyword" :: r) =
      parseStructRest docs attrs compact r := by
  cases compact <;> rfl

theorem parseDefBody_enum (docs : List String) (attrs : List Attr) (compact unchecked : Bool) (r : Toks) :
    parseDefBody docs attrs (flagToks compact "CompactKeyword" ++ (flagToks unchecked "UncheckedKeyword" ++ .kw "EnumKeyword" :: r)) =
      parseEnumRest docs attrs compact unchecked r := by
  cases compact <;> cases unchecked <;> rfl

theorem defSh_split (d : Def) (T : Toks) (hT : DefSh d T) :
    ∃ X, T = docToks (defDoc d) ++ localAttrsToks (defAttrs d) ++ X ∧ startsDef X = true ∧
      (defRT d = true → ∀ R, okNext R = true → parseDefBody (defDoc d) (defAttrs d) (X ++ R) = some ((d, false), R)) := by
  cases d with
  | struct doc attrs compact name fields =>
    obtain ⟨Tf, hTf, rfl⟩ := hT
    refine ⟨_, rfl, by cases compact <;> exact startsDef_kw (by decide), fun h R _ => ?_⟩
    simp only [defRT, Bool.and_eq_true] at h
    simp only [defDoc, defAttrs, List.append_assoc, List.cons_append, List.nil_append, parseDefBody_struct, parseStructRest,
      parseFieldBlock_toks fields h.2 Tf R hTf, String.ofList_toList]
  | iface doc attrs name bases ops =>
    obtain ⟨To, hTo, rfl⟩ := hT
    refine ⟨_, rfl, startsDef_kw (by decide), fun h R _ => ?_⟩
    simp only [defRT, Bool.and_eq_true] at h
    have hb := parseBasesOpt_toks bases h.1.2 (To ++ .rbrace :: R)
    simp only [defDoc, defAttrs, List.append_assoc, List.cons_append, List.nil_append, parseDefBody, parseIfaceRest, hb,
      parseOpBlock_toks ops h.2 To R hTo, String.ofList_toList, (map_fst_false ops).1, (map_fst_false ops).2]
  | enum doc attrs compact unchecked name underlying es =>
    obtain ⟨Te, hTe, rfl⟩ := hT
    refine ⟨_, rfl, ?_, fun h R _ => ?_⟩
    · cases compact
      · cases unchecked <;> exact startsDef_kw (by decide)
      · exact startsDef_kw (by decide)
    · simp only [defRT, Bool.and_eq_true] at h
      have hu := parseUnderlying_toks underlying h.1.2 (Te ++ .rbrace :: R)
      simp only [defDoc, defAttrs, List.append_assoc, List.cons_append, List.nil_append, parseDefBody_enum, parseEnumRest, hu,
        parseEnumeratorBlock_toks es h.2 Te R hTe, String.ofList_toList]
  | custom doc attrs name =>
    refine ⟨_, hT, startsDef_kw (by decide), fun _ R _ => ?_⟩
    simp only [defDoc, defAttrs, List.cons_append, List.nil_append, parseDefBody, String.ofList_toList]
  | alias doc attrs name ty =>
    refine ⟨_, hT, startsDef_kw (by decide), fun h R hR => ?_⟩
    simp only [defRT, Bool.and_eq_true] at h
    simp only [defDoc, defAttrs, List.cons_append, parseDefBody, parseTypeRef_toks ty h.2 R (okNext_okTy R hR), String.ofList_toList]

theorem defSh_start (d : Def) (T : Toks) (hT : DefSh d T) : elemStart T = true := by
  obtain ⟨X, rfl, hX, _⟩ := defSh_split d T hT
  exact elemStart_pre _ _ _ (startsDef_append X [] hX).1

theorem defRT_attrs (d : Def) (h : defRT d = true) : (defAttrs d).all attrRT = true := by
  cases d <;> simp only [defRT, Bool.and_eq_true] at h <;> simp only [defAttrs]
  · exact h.1.2
  · exact h.1.1.2
  · exact h.1.1.2
  · exact h.2
  · exact h.1.2

theorem defStep_toks (d : Def) (h : defRT d = true) (T R : Toks) (hT : DefSh d T) (hR : okNext R = true) :
    defStep (T ++ R) = some (some ((d, false), R)) := by
  obtain ⟨X, rfl, hX, hb⟩ := defSh_split d T hT
  obtain ⟨_, hs, hp, _⟩ := startsDef_append X R hX
  have := preStep_toks startsDef parseDefBody false (defDoc d) (defAttrs d) (defRT_attrs d h) _ hp hs _ _ (hb h R hR)
  simpa only [defStep, List.append_assoc, Bool.false_eq_true, if_false] using this

theorem parseDefs_toks (ds : List Def) (h : ds.all defRT = true) (T : Toks) (hT : defsSh ds T) :
    parseDefs T = some (ds, false) := by
  rw [List.all_eq_true] at h
  have hm : many defStep (T ++ []) = some (ds.map fun d => (d, false), []) :=
    many_elems defStep defStep_shrinks DefSh (fun d => (d, false)) ds T _ hT defSh_start
      (fun d hd T1 R' e hR' => defStep_toks d (h d hd) T1 R' e hR') rfl (preStep_stop _ _ _ [] rfl rfl)
  rw [List.append_nil] at hm
  simp only [parseDefs, hm, (map_fst_false ds).1, (map_fst_false ds).2]

theorem defsSh_cases (ds : List Def) (h : ds.all defRT = true) (Td : Toks) (hT : defsSh ds Td) :
    (ds = [] ∧ Td = []) ∨
    (elemStart Td = true ∧ ∃ d as X, as.all attrRT = true ∧ Td = docToks d ++ localAttrsToks as ++ X ∧ notPre X = true ∧
      afterModuleKw X = none) := by
  cases ds with
  | nil => left; exact ⟨rfl, by simpa [defsSh, CatShape] using hT⟩
  | cons d ds =>
    right
    simp only [defsSh, List.map_cons, CatShape] at hT
    obtain ⟨T1, T2, h1, _, rfl⟩ := hT
    refine ⟨elemStart_append _ _ (defSh_start d T1 h1), ?_⟩
    obtain ⟨X, rfl, hX, _⟩ := defSh_split d T1 h1
    obtain ⟨_, _, hp, hm⟩ := startsDef_append X T2 hX
    simp only [List.all_cons, Bool.and_eq_true] at h
    exact ⟨defDoc d, defAttrs d, X ++ T2, defRT_attrs d h.1, by simp only [List.append_assoc], hp, hm⟩

theorem elemStart_not_dlbracket (Y : Toks) (h : elemStart Y = true) : Y.head? ≠ some .dlbracket := by
  intro e
  obtain ⟨r, rfl⟩ := List.head?_eq_some_iff.mp e
  cases h

/-- `parseFileRaw` reads a prelude before it knows whether `module` follows; by `defsSh_cases` that probe succeeds on the
    first definition's prelude too, and `parseDefs` starts again in front of it. -/
theorem parseFileRaw_shape (f : SFile) (h : fileRT f = true) (T : Toks) (hT : FileSh f T) :
    parseFileRaw T = some (f, false) := by
  obtain ⟨fa, m, ds⟩ := f
  obtain ⟨Td, hTd, rfl⟩ := hT
  simp only [fileRT, Bool.and_eq_true] at h
  obtain ⟨⟨hfa, hm⟩, hds⟩ := h
  simp only at hTd hfa hm hds
  have hpd := parseDefs_toks ds hds Td hTd
  have hcases := defsSh_cases ds hds Td hTd
  cases m with
  | some md =>
    obtain ⟨mattrs, path⟩ := md
    simp only [Bool.and_eq_true, pathRT, beq_iff_eq] at hm
    have hrest : (moduleToks (some ⟨mattrs, path⟩) ++ Td).head? ≠ some .dlbracket := by
      cases mattrs with
      | nil => simp [moduleToks, localAttrsToks]
      | cons a as => simp [moduleToks, localAttrsToks_cons]
    have hp := parsePrelude_toks [] mattrs hm.1 (.kw "ModuleKeyword" :: (nameToks path ++ Td)) rfl
    simp only [docToks_nil, List.nil_append] at hp
    have hdc : notDc Td = true := by
      rcases hcases with ⟨_, rfl⟩ | ⟨e, _⟩
      · rfl
      · exact okNext_notDc Td (elemStart_okNext Td e)
    have hrel := (relOf_append (nameToks path) Td path hm.2 hdc).1
    have e1 := many_fileAttrs fa hfa _ hrest
    simp only [moduleToks, List.append_assoc, List.cons_append] at e1
    simp only [parseFileRaw, moduleToks, List.append_assoc, List.cons_append, e1, hp, afterModuleKw, hrel, hpd]
    rfl
  | none =>
    simp only [moduleToks, List.nil_append]
    rcases hcases with ⟨rfl, rfl⟩ | ⟨hs, d, as, X, has, rfl, hX1, hX2⟩
    · simp only [parseFileRaw, many_fileAttrs fa hfa [] nofun, parsePrelude_stop [] rfl, afterModuleKw, hpd]
    · simp only [parseFileRaw, many_fileAttrs fa hfa _ (elemStart_not_dlbracket _ hs), parsePrelude_toks d as has X hX1, hX2, hpd]

end Slicec.SPar
