/-
  C09, C16: one call of the located comment lexer (Model/CommentLoc.lean) in any mode, `stepLoc`. `stepLoc_spec` says what
  the call consumed (blanks, then the characters the token or the error spells, at least one for a token), where the token
  lies (one column per character from the cursor) and where the cursor stands afterwards (`TagStepOk`); `stepLoc_erase`,
  that forgetting the locations gives the call of the plain lexer.
-/
import SlicecVerif.Model.CommentLoc
import SlicecVerif.Lemmas.Comment

namespace Slicec.CLoc

open Slicec

/-- `n` times `advance_buffer` -/
def cadvN (l : Loc) (n : Nat) : Loc := ⟨l.row, l.col + n⟩

theorem cadvN_zero (l : Loc) : cadvN l 0 = l := rfl

theorem cadv_eq (l : Loc) : cadv l = cadvN l 1 := rfl

theorem cadvN_cadvN (l : Loc) (a b : Nat) : cadvN (cadvN l a) b = cadvN l (a + b) := by
  simp [cadvN, Nat.add_assoc]

theorem cadvWhile_eq (p : Char → Bool) (cur : Loc) (cs : Str) :
    cadvWhile p cur cs = cadvN cur (cs.takeWhile p).length := by
  induction cs generalizing cur with
  | nil => rfl
  | cons c cs ih =>
    simp only [cadvWhile, List.takeWhile_cons]
    split
    · rw [ih, cadv_eq, cadvN_cadvN]; simp [Nat.add_comm]
    · rfl

theorem dropWhile_nil_all (p : Char → Bool) (cs : Str) (h : cs.dropWhile p = []) : cs.all p = true ∧ cs.takeWhile p = cs :=
  ⟨dropWhile_eq_nil_iff.mp h, takeWhile_of_all (dropWhile_eq_nil_iff.mp h)⟩

theorem lexMessageLoc_erase (cur : Loc) (cs : Str) :
    lexMessage cs = ((lexMessageLoc cur cs).1.tok, (lexMessageLoc cur cs).2.1, (lexMessageLoc cur cs).2.2.1) := by
  unfold lexMessageLoc
  -- along the arms of the plain function: the hypotheses of an arm make the located function take the same arm
  fun_cases lexMessage cs <;> simp +zetaDelta only [*]

theorem lexTagComponentLoc_erase (mode : LMode) (cur : Loc) (cs : Str) :
    (lexTagComponentLoc mode cur cs).erase = lexTagComponent mode cs := by
  unfold lexTagComponentLoc
  fun_cases lexTagComponent mode cs <;>
    simp only [*, LTagStep.erase, readTagKeywordLoc, if_true, Bool.false_eq_true, if_false]

/-- one call of the located lexer on a non-empty buffer, in any mode (`lexStep` with the cursor) -/
def stepLoc (mode : LMode) (cur : Loc) (cs : Str) : LTagStep :=
  match mode with
  | .message =>
    .tok (lexMessageLoc cur cs).1 (lexMessageLoc cur cs).2.1 (lexMessageLoc cur cs).2.2.1 (lexMessageLoc cur cs).2.2.2
  | _ => lexTagComponentLoc mode cur cs

theorem stepLoc_erase (mode : LMode) (cur : Loc) (cs : Str) : (stepLoc mode cur cs).erase = lexStep mode cs := by
  cases mode with
  | message => simp only [stepLoc, lexStep, LTagStep.erase, lexMessageLoc_erase cur cs]
  | blockTag => exact lexTagComponentLoc_erase _ _ _
  | inlineTag => exact lexTagComponentLoc_erase _ _ _

theorem readTagKeyword_spec (mode : LMode) (a : Str) :
    ∃ r, readTagKeyword mode a = (r, a.dropWhile isIdCharC) ∧
      match r with
      | .ok t => ∃ k inl, t = .kw k ∧ (a.takeWhile isIdCharC, k, inl) ∈ Gen.commentTagKeywords
      | .error e => cerrSpells e ('@' :: a.takeWhile isIdCharC) (a.dropWhile isIdCharC) := by
  fun_cases readTagKeyword mode a with
  | case1 ident rest isInline name k inl hf =>
    have hn : name = a.takeWhile isIdCharC := by simpa using List.find?_some hf
    exact ⟨_, rfl, k, inl, rfl, hn ▸ List.mem_of_find?_eq_some hf⟩
  | case2 => exact ⟨_, rfl, rfl⟩
  | case3 ident rest hf h => exact ⟨_, rfl, congrArg ('@' :: ·) (List.isEmpty_iff.mp h)⟩
  | case4 => exact ⟨_, rfl, rfl⟩

theorem lexMessageLoc_spec (cur : Loc) (cs : Str) (hne : cs ≠ []) :
    ∃ tk m rest mid, lexMessageLoc cur cs = (⟨cur, tk, cadvN cur mid.length⟩, m, rest, cadvN cur mid.length) ∧
      cs = mid ++ rest ∧ cspells tk mid rest ∧ mid ≠ [] := by
  fun_cases lexMessageLoc cur cs with
  | case1 r cur1 cur2 r' tail hd =>
    -- `{` and the blanks behind it, in front of an `@`
    refine ⟨.lbrace, .inlineTag, r', '{' :: r.takeWhile isWsC, ?_, ?_, ⟨_, rfl, List.all_takeWhile, by rw [hd]; rfl⟩, by simp⟩
    · rw [show cadvN cur ('{' :: r.takeWhile isWsC).length = cur2 by
        simp only [cur2, cur1, cadvWhile_eq, cadv_eq, cadvN_cadvN, List.length_cons, Nat.add_comm]]
    · simp [r', List.takeWhile_append_dropWhile]
  | case2 r cur1 cur2 ws r' cur3 hd =>
    refine ⟨.text _, .message, r'.dropWhile (· != '{'), '{' :: ws ++ r'.takeWhile (· != '{'), ?_, ?_, ⟨rfl, by simp⟩, by simp⟩
    · rw [show cadvN cur ('{' :: ws ++ r'.takeWhile (· != '{')).length = cur3 by
        simp only [cur3, cur2, cur1, ws, cadvWhile_eq, cadv_eq, cadvN_cadvN, List.length_cons, List.length_append]; congr 1; omega]
    · simp [ws, r', List.append_assoc, List.takeWhile_append_dropWhile]
  | case3 _ hx =>
    have hne' : cs.takeWhile (· != '{') ≠ [] := by
      cases cs with
      | nil => exact absurd rfl hne
      | cons c cs => have hc : c ≠ '{' := fun e => hx cs (by rw [e]); simp [hc]
    exact ⟨.text _, .message, cs.dropWhile (· != '{'), cs.takeWhile (· != '{'), by rw [← cadvWhile_eq],
      by simp [List.takeWhile_append_dropWhile], ⟨rfl, hne'⟩, hne'⟩

/-- what one call of the lexer says about locations, in any mode (`lex_message` skips no blanks: `ws = []`) -/
def TagStepOk (cur : Loc) (cs : Str) : LTagStep → Prop
  | .eol cur' => cs.all isWsC = true ∧ cur' = cadvN cur cs.length
  | .tok t _ rest cur' => ∃ ws mid, cs = ws ++ (mid ++ rest) ∧ ws.all isWsC = true ∧ mid ≠ [] ∧
      t.start = cadvN cur ws.length ∧ t.stop = cadvN cur (ws.length + mid.length) ∧ cur' = t.stop ∧ cspells t.tok mid rest
  | .err e => ∃ ws mid post, cs = ws ++ (mid ++ post) ∧ ws.all isWsC = true ∧ e.start = cadvN cur ws.length ∧
      e.stop = cadvN cur (ws.length + mid.length) ∧ cerrSpells e.err mid post

theorem TagStepOk.tok {cur : Loc} {ws mid rest : Str} (hws : ws.all isWsC = true) (tk : CTok) (m : LMode)
    (hsp : cspells tk mid rest) (hmid : mid ≠ []) :
    TagStepOk cur (ws ++ (mid ++ rest))
      (.tok ⟨cadvN cur ws.length, tk, cadvN cur (ws.length + mid.length)⟩ m rest (cadvN cur (ws.length + mid.length))) :=
  ⟨ws, mid, rfl, hws, hmid, rfl, rfl, rfl, hsp⟩

theorem TagStepOk.err {cur : Loc} {ws mid post : Str} (hws : ws.all isWsC = true) (e : CLexErr) (hsp : cerrSpells e mid post) :
    TagStepOk cur (ws ++ (mid ++ post)) (.err ⟨cadvN cur ws.length, e, cadvN cur (ws.length + mid.length)⟩) :=
  ⟨ws, mid, post, rfl, hws, rfl, rfl, hsp⟩

theorem lexTagComponentLoc_spec (mode : LMode) (cur : Loc) (cs : Str) : TagStepOk cur cs (lexTagComponentLoc mode cur cs) := by
  unfold lexTagComponentLoc
  dsimp only
  have hsplit : cs = cs.takeWhile isWsC ++ cs.dropWhile isWsC := (List.takeWhile_append_dropWhile).symm
  have hws : (cs.takeWhile isWsC).all isWsC = true := List.all_takeWhile
  rw [cadvWhile_eq]
  generalize cs.takeWhile isWsC = ws at hsplit hws
  generalize cs.dropWhile isWsC = r at hsplit
  subst hsplit
  split
  · exact ⟨by rw [List.append_nil]; exact hws, by rw [List.append_nil]⟩
  · rename_i rest
    obtain ⟨res, hU, hk⟩ := readTagKeyword_spec mode rest
    have hstop : cadvWhile isIdCharC (cadv (cadvN cur ws.length)) rest =
        cadvN cur (ws.length + ('@' :: rest.takeWhile isIdCharC).length) := by
      rw [cadvWhile_eq, cadv_eq, cadvN_cadvN, cadvN_cadvN, List.length_cons, Nat.add_comm 1]
    have hl : ws ++ '@' :: rest = ws ++ (('@' :: rest.takeWhile isIdCharC) ++ rest.dropWhile isIdCharC) := by
      rw [List.cons_append, List.takeWhile_append_dropWhile]
    unfold readTagKeywordLoc
    simp only
    rw [hstop, hl, hU]
    cases res with
    | ok t =>
      obtain ⟨k, inl, rfl, hm⟩ := hk
      exact TagStepOk.tok hws (.kw k) mode ⟨_, inl, hm, rfl⟩ (by simp)
    | error e => exact TagStepOk.err hws e hk
  · exact TagStepOk.tok (mid := [':', ':']) hws .dcolon mode rfl (by simp)
  · exact TagStepOk.tok (mid := [':']) hws .colon _ rfl (by simp)
  · exact TagStepOk.tok (mid := ['}']) hws .rbrace _ rfl (by simp)
  · rename_i c rest _ _ _ _
    split
    · rename_i ha
      have hne : (c :: rest).takeWhile isIdCharC ≠ [] := by simp [isAlpha_isIdChar c ha]
      have hl : ws ++ c :: rest = ws ++ ((c :: rest).takeWhile isIdCharC ++ (c :: rest).dropWhile isIdCharC) := by
        rw [List.takeWhile_append_dropWhile]
      rw [cadvWhile_eq, cadvN_cadvN, hl]
      exact TagStepOk.tok hws (.ident _) mode ⟨rfl, hne⟩ hne
    · exact TagStepOk.err (mid := [c]) hws _ rfl

theorem stepLoc_spec (mode : LMode) (cur : Loc) (c : Char) (cs : Str) :
    TagStepOk cur (c :: cs) (stepLoc mode cur (c :: cs)) := by
  cases mode with
  | message =>
    obtain ⟨tk, m, rest, mid, he, h1, h2, h3⟩ := lexMessageLoc_spec cur (c :: cs) (List.cons_ne_nil _ _)
    unfold stepLoc
    rw [he]
    exact ⟨[], mid, h1, rfl, h3, rfl, by rw [List.length_nil, Nat.zero_add], rfl, h2⟩
  | blockTag => exact lexTagComponentLoc_spec _ _ _
  | inlineTag => exact lexTagComponentLoc_spec _ _ _

end Slicec.CLoc
