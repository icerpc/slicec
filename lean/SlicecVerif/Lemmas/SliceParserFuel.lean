/-
  The fuel of the parser model is never exhausted (C02, parser half).
  Every parser of Model/SliceParser.lean returns no more tokens than it was given, every list step and the type-reference
  parser strictly fewer; hence `manyF step n ts` and `parseTypeRefF n ts` do not depend on `n` once `n > ts.length` — the
  value `ts.length + 1` that `many` / `parseTypeRef` supply is always enough. So `many` obeys the two equations a list
  parser without fuel would have (`many_stop`, `many_cons`); Lemmas/SliceParser.lean reasons with those.
-/
import SlicecVerif.Model.SliceParser
import SlicecVerif.Lemmas.Basic

namespace Slicec.SPar

open Slicec Slicec.SLex

def Shrinks {α : Type} (p : P α) : Prop := ∀ ts a r, p ts = some (a, r) → r.length < ts.length
def ShrinksLe {α : Type} (p : P α) : Prop := ∀ ts a r, p ts = some (a, r) → r.length ≤ ts.length
def StepShrinks {α : Type} (s : Step α) : Prop := ∀ ts a r, s ts = some (some (a, r)) → r.length < ts.length

theorem Shrinks.le {α : Type} {p : P α} (h : Shrinks p) : ShrinksLe p := fun ts a r e => Nat.le_of_lt (h ts a r e)

theorem manyF_le {α : Type} (s : Step α) (hs : StepShrinks s) (n : Nat) : ShrinksLe (manyF s n) := by
  intro ts
  fun_induction manyF s n ts
  any_goals (intro as r h; contradiction)
  next => rintro as r ⟨⟩; exact Nat.le_refl _
  next h1 _ _ h2 ih =>
    rintro as r ⟨⟩
    have := hs _ _ _ h1
    have := ih _ _ h2
    omega

theorem many_le {α : Type} (s : Step α) (hs : StepShrinks s) : ShrinksLe (many s) :=
  fun ts as r h => manyF_le s hs _ ts as r h

theorem manyF_fuel {α : Type} (s : Step α) (hs : StepShrinks s) :
    ∀ n m ts, ts.length < n → ts.length < m → manyF s n ts = manyF s m ts := by
  refine fuel_irrelevant List.length (manyF s) ?_
  intro n m ts ih
  simp only [manyF]
  cases hq : s ts with
  | none => rfl
  | some o =>
    cases o with
    | none => rfl
    | some p => simp only [ih p.2 (hs ts p.1 p.2 hq)]

theorem many_fuel {α : Type} (s : Step α) (hs : StepShrinks s) (n : Nat) (ts : Toks) (hn : ts.length < n) :
    manyF s n ts = many s ts :=
  manyF_fuel s hs n _ ts hn (Nat.lt_succ_self _)

theorem many_stop {α : Type} {s : Step α} {ts : Toks} (h : s ts = some none) : many s ts = some ([], ts) := by
  simp only [many, manyF, h]

theorem many_cons {α : Type} {s : Step α} (hs : StepShrinks s) {ts r : Toks} {a : α} (h : s ts = some (some (a, r))) :
    many s ts = (many s r).map fun p => (a :: p.1, p.2) := by
  rw [many, manyF, h]
  simp only []
  rw [many_fuel s hs _ r (hs ts a r h)]
  cases many s r <;> rfl

/-! Each fact below goes over the arms of its parser (`fun_cases`, `fun_induction`): an arm that returns `none` has nothing
    to show; in an arm that succeeds the rest is what the sub-parsers left, and their facts give the bound. -/

theorem parseScopedTail_le : ShrinksLe parseScopedTail := by
  intro ts
  fun_induction parseScopedTail ts
  any_goals (intro a r h; contradiction)
  next hrec ih =>
    rintro a r ⟨⟩
    have := ih _ _ hrec
    simp only [List.length_cons]
    omega
  next => rintro a r ⟨⟩; exact Nat.le_refl _

theorem parseRelIdent_lt : Shrinks parseRelIdent := by
  intro ts a r
  fun_cases parseRelIdent ts
  any_goals (intro h; contradiction)
  next h1 =>
    rintro ⟨⟩
    have := parseScopedTail_le _ _ _ h1
    simp only [List.length_cons]
    omega

theorem parseGlobalIdent_lt : Shrinks parseGlobalIdent := by
  intro ts a r
  fun_cases parseGlobalIdent ts
  any_goals (intro h; contradiction)
  next h1 =>
    rintro ⟨⟩
    have := parseScopedTail_le _ _ _ h1
    simp only [List.length_cons]
    omega

theorem parseArgsTail_lt : Shrinks parseArgsTail := by
  intro ts
  fun_induction parseArgsTail ts
  any_goals (intro a r h; contradiction)
  next => rintro a r ⟨⟩; exact Nat.lt_succ_self _
  next =>
    rintro a r ⟨⟩
    simp only [List.length_cons]
    omega
  next hrec ih =>
    rintro a r ⟨⟩
    have := ih _ _ hrec
    simp only [List.length_cons]
    omega

theorem parseArgs_lt : Shrinks parseArgs := by
  intro ts a r
  fun_cases parseArgs ts
  any_goals (intro h; contradiction)
  next => rintro ⟨⟩; exact Nat.lt_succ_self _
  next h1 =>
    rintro ⟨⟩
    have := parseArgsTail_lt _ _ _ h1
    simp only [List.length_cons]
    omega

theorem parseAttribute_lt : Shrinks parseAttribute := by
  intro ts a r
  fun_cases parseAttribute ts
  any_goals (intro h; contradiction)
  next h2 h1 =>
    rintro ⟨⟩
    have h1 := parseRelIdent_lt _ _ _ h1
    have := parseArgs_lt _ _ _ h2
    simp only [List.length_cons] at h1
    omega
  next h1 _ => rintro ⟨⟩; exact parseRelIdent_lt _ _ _ h1

/-- `"[" Attribute "]"` (or `"[[" Attribute "]]"`): the frame of the three attribute steps -/
theorem bracketed_lt {a : Attr} {t t' : SliceTok} {r r' : Toks} (h : parseAttribute r = some (a, t' :: r')) :
    r'.length < (t :: r).length := by
  have := parseAttribute_lt _ _ _ h
  simp only [List.length_cons] at this ⊢
  omega

theorem localAttrStep_shrinks : StepShrinks localAttrStep := by
  intro ts a r
  fun_cases localAttrStep ts
  any_goals (intro h; contradiction)
  next h1 => rintro ⟨⟩; exact bracketed_lt h1
  next => rintro ⟨⟩

theorem fileAttrStep_shrinks : StepShrinks fileAttrStep := by
  intro ts a r
  fun_cases fileAttrStep ts
  any_goals (intro h; contradiction)
  next h1 => rintro ⟨⟩; exact bracketed_lt h1
  next => rintro ⟨⟩

theorem preludeStep_shrinks : StepShrinks preludeStep := by
  intro ts a r
  fun_cases preludeStep ts
  any_goals (intro h; contradiction)
  next => rintro ⟨⟩; exact Nat.lt_succ_self _
  next h1 => rintro ⟨⟩; exact bracketed_lt h1
  next => rintro ⟨⟩

theorem parsePrelude_le : ShrinksLe parsePrelude := by
  intro ts a r
  fun_cases parsePrelude ts
  any_goals (intro h; contradiction)
  next h1 => rintro ⟨⟩; exact many_le _ preludeStep_shrinks _ _ _ h1

theorem parseSignedInt_lt : Shrinks parseSignedInt := by
  intro ts a r
  fun_cases parseSignedInt ts
  any_goals (intro h; contradiction)
  next => rintro ⟨⟩; exact Nat.lt_succ_self _
  next =>
    rintro ⟨⟩
    simp only [List.length_cons]
    omega

theorem parseTagOpt_le : ShrinksLe parseTagOpt := by
  intro ts a r
  fun_cases parseTagOpt ts
  any_goals (intro h; contradiction)
  next h1 =>
    rintro ⟨⟩
    have := parseSignedInt_lt _ _ _ h1
    simp only [List.length_cons] at this ⊢
    omega
  next => rintro ⟨⟩; exact Nat.le_refl _

theorem finTy_le (attrs : List Attr) (ty : TyExpr) : ShrinksLe (finTy attrs ty) := by
  intro ts a r
  fun_cases finTy attrs ty ts
  next => rintro ⟨⟩; exact Nat.le_succ _
  next => rintro ⟨⟩; exact Nat.le_refl _

theorem tyBody_lt (rec : P TRef) (hrec : ShrinksLe rec) (attrs : List Attr) : Shrinks (tyBody rec attrs) := by
  intro ts a r
  fun_cases tyBody rec attrs ts
  all_goals intro h
  any_goals have hf := finTy_le _ _ _ _ _ h
  case case1 h1 =>  -- `Sequence<T>`
    have := hrec _ _ _ h1
    simp only [List.length_cons] at this ⊢
    omega
  case case4 | case8 =>  -- `Dictionary<K, V>`, `Result<S, F>`
    rename_i h1 _ _ h2
    have := hrec _ _ _ h1
    have := hrec _ _ _ h2
    simp only [List.length_cons] at *
    omega
  case case12 => exact Nat.lt_succ_of_le hf  -- primitive
  case case14 h1 => exact Nat.lt_of_le_of_lt hf (parseRelIdent_lt _ _ _ h1)
  case case16 h1 => exact Nat.lt_of_le_of_lt hf (parseGlobalIdent_lt _ _ _ h1)
  all_goals cases h  -- the other arms return `none`

theorem parseTypeRefF_lt : ∀ n, Shrinks (parseTypeRefF n) := by
  intro n
  induction n with
  | zero => intro ts a r h; simp [parseTypeRefF] at h
  | succ n ih =>
    intro ts a r h
    simp only [parseTypeRefF] at h
    split at h
    · simp at h
    · rename_i attrs r0 heq
      have h1 := many_le _ localAttrStep_shrinks _ _ _ heq
      have h2 := tyBody_lt _ ih.le attrs _ _ _ h
      omega

theorem parseTypeRef_lt : Shrinks parseTypeRef := fun ts a r h => parseTypeRefF_lt _ ts a r h

theorem tyBody_congr (rec1 rec2 : P TRef) (attrs : List Attr) (ts : Toks)
    (h : ∀ ts', ts'.length < ts.length → rec1 ts' = rec2 ts') (h1 : ShrinksLe rec1) :
    tyBody rec1 attrs ts = tyBody rec2 attrs ts := by
  unfold tyBody
  split
  · rename_i k r1
    cases r1 with
    | nil => rfl
    | cons t r2 =>
      cases t with
      | lchevron =>
        have e2 : rec1 r2 = rec2 r2 := h r2 (by simp only [List.length_cons]; omega)
        simp only [e2]
        cases hq : rec2 r2 with
        | none => rfl
        | some p =>
          obtain ⟨e, r3⟩ := p
          have hle := h1 r2 e r3 (by rw [e2]; exact hq)
          cases r3 with
          | nil => rfl
          | cons u r4 =>
            cases u with
            | comma =>
              have e3 : rec1 r4 = rec2 r4 := h r4 (by simp only [List.length_cons] at hle ⊢; omega)
              simp only [e3]
            | _ => rfl
      | _ => rfl
  · rfl
  · rfl
  · rfl

theorem parseTypeRefF_fuel : ∀ n m ts, ts.length < n → ts.length < m → parseTypeRefF n ts = parseTypeRefF m ts := by
  refine fuel_irrelevant List.length parseTypeRefF ?_
  intro n m ts ih
  simp only [parseTypeRefF]
  cases hq : many localAttrStep ts with
  | none => rfl
  | some p =>
    have hle := many_le _ localAttrStep_shrinks _ _ _ hq
    exact tyBody_congr _ _ p.1 p.2 (fun ts' h' => ih ts' (by omega)) (parseTypeRefF_lt n).le

theorem parseTypeRef_fuel (n : Nat) (ts : Toks) (hn : ts.length < n) : parseTypeRefF n ts = parseTypeRef ts :=
  parseTypeRefF_fuel n _ ts hn (Nat.lt_succ_self _)

theorem skipComma_le (r : Toks) : (skipComma r).length ≤ r.length := by
  unfold skipComma
  split <;> simp

theorem takeKw_le (kind : String) (r : Toks) : (takeKw kind r).2.length ≤ r.length := by
  unfold takeKw
  split
  · split <;> simp
  · simp

theorem parseFieldBody_lt (docs : List String) (attrs : List Attr) : Shrinks (parseFieldBody docs attrs) := by
  intro ts a r
  fun_cases parseFieldBody docs attrs ts
  any_goals (intro h; contradiction)
  next h2 h1 =>
    rintro ⟨⟩
    have h1 := parseTagOpt_le _ _ _ h1
    have := parseTypeRef_lt _ _ _ h2
    simp only [List.length_cons] at h1
    omega

theorem preStep_shrinks {α : Type} (starts : Toks → Bool) (body : List String → List Attr → P α) (comma : Bool)
    (hb : ∀ d a, Shrinks (body d a)) : StepShrinks (preStep starts body comma) := by
  intro ts a r
  fun_cases preStep starts body comma ts
  any_goals (intro h; contradiction)
  next h1 _ _ r' h2 =>
    rintro ⟨⟩
    have := parsePrelude_le _ _ _ h1
    have := hb _ _ _ _ _ h2
    have := skipComma_le r'
    split <;> omega
  next => rintro ⟨⟩

theorem fieldStep_shrinks : StepShrinks fieldStep := preStep_shrinks _ _ _ parseFieldBody_lt

theorem parseParamBody_lt (docs : List String) (attrs : List Attr) : Shrinks (parseParamBody docs attrs) := by
  intro ts a r
  fun_cases parseParamBody docs attrs ts
  any_goals (intro h; contradiction)
  next r2 _ _ h2 h1 =>
    rintro ⟨⟩
    have h1 := parseTagOpt_le _ _ _ h1
    have := parseTypeRef_lt _ _ _ h2
    have := takeKw_le "StreamKeyword" r2
    simp only [List.length_cons] at h1
    omega

theorem paramStep_shrinks : StepShrinks paramStep := preStep_shrinks _ _ _ parseParamBody_lt

/-- `"(" list ")"` after the `(`, `"{" list "}"` after the `{`: what follows the closing token of a list -/
theorem closed_lt {α : Type} {s : Step α} (hs : StepShrinks s) {ts : Toks} {xs : List α} {t : SliceTok} {r : Toks}
    (h : many s ts = some (xs, t :: r)) : r.length < ts.length :=
  many_le s hs _ _ _ h

theorem parseParams_lt : Shrinks parseParams := by
  intro ts a r
  fun_cases parseParams ts
  any_goals (intro h; contradiction)
  next h1 => rintro ⟨⟩; exact closed_lt paramStep_shrinks h1

theorem parseRet_le : ShrinksLe parseRet := by
  intro ts a r
  fun_cases parseRet ts
  any_goals (intro h; contradiction)
  next h1 =>
    rintro ⟨⟩
    have := parseParams_lt _ _ _ h1
    simp only [List.length_cons]
    omega
  next r1 h1 _ _ h2 =>
    rintro ⟨⟩
    have := parseTagOpt_le _ _ _ h1
    have := parseTypeRef_lt _ _ _ h2
    have := takeKw_le "StreamKeyword" r1
    simp only [List.length_cons]
    omega
  next => rintro ⟨⟩; exact Nat.le_refl _

theorem parseOpBody_lt (docs : List String) (attrs : List Attr) : Shrinks (parseOpBody docs attrs) := by
  intro ts a r
  fun_cases parseOpBody docs attrs ts
  any_goals (intro h; contradiction)
  next h0 _ _ _ h1 _ _ _ h2 =>
    rintro ⟨⟩
    have h0' := takeKw_le "IdempotentKeyword" ts
    have := parseParams_lt _ _ _ h1
    have := parseRet_le _ _ _ h2
    rw [h0] at h0'
    simp only [List.length_cons] at h0'
    omega

theorem opStep_shrinks : StepShrinks opStep := preStep_shrinks _ _ _ parseOpBody_lt

theorem parseEnumFields_le : ShrinksLe parseEnumFields := by
  intro ts a r
  fun_cases parseEnumFields ts
  any_goals (intro h; contradiction)
  next h1 => rintro ⟨⟩; exact Nat.le_succ_of_le (Nat.le_of_lt (closed_lt fieldStep_shrinks h1))
  next => rintro ⟨⟩; exact Nat.le_refl _

theorem parseEnumValue_le : ShrinksLe parseEnumValue := by
  intro ts a r
  fun_cases parseEnumValue ts
  any_goals (intro h; contradiction)
  next h1 => rintro ⟨⟩; exact Nat.le_succ_of_le (Nat.le_of_lt (parseSignedInt_lt _ _ _ h1))
  next => rintro ⟨⟩; exact Nat.le_refl _

theorem parseEnumeratorBody_lt (docs : List String) (attrs : List Attr) : Shrinks (parseEnumeratorBody docs attrs) := by
  intro ts a r
  fun_cases parseEnumeratorBody docs attrs ts
  any_goals (intro h; contradiction)
  next h1 _ _ h2 =>
    rintro ⟨⟩
    have := parseEnumFields_le _ _ _ h1
    have := parseEnumValue_le _ _ _ h2
    simp only [List.length_cons]
    omega

theorem enumeratorStep_shrinks : StepShrinks enumeratorStep := preStep_shrinks _ _ _ parseEnumeratorBody_lt

theorem baseStep_shrinks : StepShrinks baseStep := by
  intro ts a r
  fun_cases baseStep ts
  any_goals (intro h; contradiction)
  next h1 => rintro ⟨⟩; exact Nat.lt_succ_of_lt (parseTypeRef_lt _ _ _ h1)
  next => rintro ⟨⟩
  next => rintro ⟨⟩

theorem parseBases_lt : Shrinks parseBases := by
  intro ts a r
  fun_cases parseBases ts
  any_goals (intro h; contradiction)
  next h1 _ r' h2 =>
    rintro ⟨⟩
    have := parseTypeRef_lt _ _ _ h1
    have := many_le _ baseStep_shrinks _ _ _ h2
    have := skipComma_le r'
    omega

theorem parseFieldBlock_lt : Shrinks parseFieldBlock := by
  intro ts a r
  fun_cases parseFieldBlock ts
  any_goals (intro h; contradiction)
  next h1 => rintro ⟨⟩; exact Nat.lt_succ_of_lt (closed_lt fieldStep_shrinks h1)

theorem parseStructRest_lt (docs : List String) (attrs : List Attr) (c : Bool) : Shrinks (parseStructRest docs attrs c) := by
  intro ts a r
  fun_cases parseStructRest docs attrs c ts
  any_goals (intro h; contradiction)
  next h1 => rintro ⟨⟩; exact Nat.lt_succ_of_lt (parseFieldBlock_lt _ _ _ h1)

theorem parseUnderlying_le : ShrinksLe parseUnderlying := by
  intro ts a r
  fun_cases parseUnderlying ts
  any_goals (intro h; contradiction)
  next h1 => rintro ⟨⟩; exact Nat.le_succ_of_le (Nat.le_of_lt (parseTypeRef_lt _ _ _ h1))
  next => rintro ⟨⟩; exact Nat.le_refl _

theorem parseEnumeratorBlock_lt : Shrinks parseEnumeratorBlock := by
  intro ts a r
  fun_cases parseEnumeratorBlock ts
  any_goals (intro h; contradiction)
  next h1 => rintro ⟨⟩; exact Nat.lt_succ_of_lt (closed_lt enumeratorStep_shrinks h1)

theorem parseEnumRest_lt (docs : List String) (attrs : List Attr) (c u : Bool) : Shrinks (parseEnumRest docs attrs c u) := by
  intro ts a r
  fun_cases parseEnumRest docs attrs c u ts
  any_goals (intro h; contradiction)
  next h1 _ _ h2 =>
    rintro ⟨⟩
    have := parseUnderlying_le _ _ _ h1
    have := parseEnumeratorBlock_lt _ _ _ h2
    simp only [List.length_cons]
    omega

theorem parseBasesOpt_le : ShrinksLe parseBasesOpt := by
  intro ts a r
  fun_cases parseBasesOpt ts
  next => intro h; exact Nat.le_succ_of_le (Nat.le_of_lt (parseBases_lt _ _ _ h))
  next => rintro ⟨⟩; exact Nat.le_refl _

theorem parseOpBlock_lt : Shrinks parseOpBlock := by
  intro ts a r
  fun_cases parseOpBlock ts
  any_goals (intro h; contradiction)
  next h1 => rintro ⟨⟩; exact Nat.lt_succ_of_lt (closed_lt opStep_shrinks h1)

theorem parseIfaceRest_lt (docs : List String) (attrs : List Attr) : Shrinks (parseIfaceRest docs attrs) := by
  intro ts a r
  fun_cases parseIfaceRest docs attrs ts
  any_goals (intro h; contradiction)
  next h1 _ _ h2 =>
    rintro ⟨⟩
    have := parseBasesOpt_le _ _ _ h1
    have := parseOpBlock_lt _ _ _ h2
    simp only [List.length_cons]
    omega

theorem parseDefBody_lt (docs : List String) (attrs : List Attr) : Shrinks (parseDefBody docs attrs) := by
  intro ts a r
  fun_cases parseDefBody docs attrs ts
  any_goals (intro h; contradiction)
  case case1 | case2 =>  -- `compact? struct`
    intro h
    have := parseStructRest_lt _ _ _ _ _ _ h
    simp only [List.length_cons]
    omega
  case case3 | case4 | case5 | case6 =>  -- `compact? unchecked? enum`
    intro h
    have := parseEnumRest_lt _ _ _ _ _ _ _ h
    simp only [List.length_cons]
    omega
  case case7 =>  -- `interface`
    intro h
    have := parseIfaceRest_lt _ _ _ _ _ h
    simp only [List.length_cons]
    omega
  case case8 =>  -- `custom`
    rintro ⟨⟩
    simp only [List.length_cons]
    omega
  case case9 h1 =>  -- `typealias`
    rintro ⟨⟩
    have := parseTypeRef_lt _ _ _ h1
    simp only [List.length_cons]
    omega

theorem defStep_shrinks : StepShrinks defStep := preStep_shrinks _ _ _ parseDefBody_lt

end Slicec.SPar
