/-
  C06, the parser and the evaluation of the preprocessor model (`Model/Preproc.lean`): the parser reads back what the
  printer writes and accepts nothing else; the stack machine on the lines of a tree computes `evalNodes` (`spec_nodes`),
  and what it emits is a sub-sequence of the blocks of its lines (`specRun_sub`), so the blocks of a preprocessed file
  are a sub-sequence of the chain of blocks that the lexer returns (`lexPre_chain`), hence a chain of located substrings
  of the file (`preprocess_chain`).
-/
import SlicecVerif.Lemmas.Preproc

namespace Slicec.Pp

mutual
  def PExpr.size : PExpr → Nat
    | .term t => t.size
    | .not t => t.size + 1
    | .and e t => e.size + t.size + 1
    | .or e t => e.size + t.size + 1
  def PTerm.size : PTerm → Nat
    | .sym _ => 1
    | .paren e => e.size + 1
end

def PExpr.ops : PExpr → Nat
  | .term _ => 0
  | .not _ => 0
  | .and e _ => e.ops + 1
  | .or e _ => e.ops + 1

theorem PTerm.size_pos (t : PTerm) : 1 ≤ t.size := by
  cases t <;> simp [PTerm.size]

theorem PExpr.ops_lt_size : ∀ e : PExpr, e.ops + 1 ≤ e.size
  | .term t => by simp only [PExpr.ops, PExpr.size]; have := PTerm.size_pos t; omega
  | .not t => by simp only [PExpr.ops, PExpr.size]; omega
  | .and e t | .or e t => by simp only [PExpr.ops, PExpr.size]; have := PExpr.ops_lt_size e; have := PTerm.size_pos t; omega

theorem PExpr.size_pos (e : PExpr) : 1 ≤ e.size := Nat.le_trans (Nat.le_add_left 1 e.ops) e.ops_lt_size

mutual
  theorem PExpr.size_le_toks : ∀ e : PExpr, e.size ≤ e.toks.length
    | .term t => by simp only [PExpr.size, PExpr.toks]; exact PTerm.size_le_toks t
    | .not t => by simp only [PExpr.size, PExpr.toks, List.length_cons]; have := PTerm.size_le_toks t; omega
    | .and e t | .or e t => by
      simp only [PExpr.size, PExpr.toks, List.length_append, List.length_cons]
      have := PExpr.size_le_toks e; have := PTerm.size_le_toks t; omega
  theorem PTerm.size_le_toks : ∀ t : PTerm, t.size ≤ t.toks.length
    | .sym _ => by simp [PTerm.size, PTerm.toks]
    | .paren e => by
      simp only [PTerm.size, PTerm.toks, List.length_append, List.length_cons, List.length_nil]
      have := PExpr.size_le_toks e; omega
end

def noOp : List PTok → Prop
  | .and :: _ => False
  | .or :: _ => False
  | _ => True

theorem exprLoop_stop (n : Nat) (acc : PExpr) (r : List PTok) (h : noOp r) : exprLoop (n + 1) acc r = some (acc, r) := by
  unfold exprLoop
  split
  · exact absurd h (by simp [noOp])
  · exact absurd h (by simp [noOp])
  · rfl

mutual
  theorem parseTerm_toks : ∀ (t : PTerm) (n : Nat) (r : List PTok), 2 * t.size ≤ n →
      parseTerm n (t.toks ++ r) = some (t, r)
    | .sym s, n, r, h => by
      obtain ⟨m, rfl⟩ := exists_add_one_of_le (a := 1) h
      rfl
    | .paren e, n, r, h => by
      simp only [PTerm.size] at h
      have hs := PExpr.ops_lt_size e
      obtain ⟨k, rfl⟩ : ∃ k, n = k + 1 + e.ops + 1 + 1 := ⟨n - e.ops - 3, by omega⟩
      have he := parseExpr_toks e (k + 1) (.rpar :: r) (by omega)
      rw [exprLoop_stop k e _ (by simp [noOp])] at he
      simp only [PTerm.toks, List.cons_append, List.append_assoc, List.nil_append, parseTerm]
      rw [he]
  /-- with fuel `k` beyond the operators of its left spine, the parser reads a printed expression and is left in the
      loop, with fuel `k`, in front of what follows -/
  theorem parseExpr_toks : ∀ (e : PExpr) (k : Nat) (r : List PTok), 2 * e.size ≤ k + e.ops →
      parseExpr (k + e.ops + 1) (e.toks ++ r) = exprLoop k e r
    | .term t, k, r, h => by
      simp only [PExpr.size, PExpr.ops, Nat.add_zero] at h ⊢
      have ht := parseTerm_toks t k r h
      -- the printed term starts with an identifier or `(`, not with `!`
      cases t with
      | sym s => simp only [PExpr.toks, PTerm.toks, List.cons_append, List.nil_append, parseExpr] at ht ⊢; rw [ht]
      | paren e => simp only [PExpr.toks, PTerm.toks, List.cons_append, parseExpr] at ht ⊢; rw [ht]
    | .not t, k, r, h => by
      simp only [PExpr.size, PExpr.ops, Nat.add_zero] at h ⊢
      have ht := parseTerm_toks t k r (by omega)
      simp only [PExpr.toks, List.cons_append, parseExpr]
      rw [ht]
    | .and e t, k, r, h | .or e t, k, r, h => by
      simp only [PExpr.size, PExpr.ops] at h ⊢
      have hs := PExpr.ops_lt_size e
      have ht := parseTerm_toks t k r (by omega)
      have hk : k + (e.ops + 1) + 1 = k + 1 + e.ops + 1 := by omega
      simp only [PExpr.toks, List.append_assoc, List.cons_append]
      -- the left operand leaves the loop in front of the operator, with one unit of fuel for this turn
      rw [hk, parseExpr_toks e (k + 1) _ (by omega)]
      simp only [exprLoop]
      rw [ht]
end

theorem parseExpr_print (e : PExpr) (n : Nat) (r : List PTok) (hn : 2 * e.size + 1 ≤ n) (hr : noOp r) :
    parseExpr n (e.toks ++ r) = some (e, r) := by
  have hs := PExpr.ops_lt_size e
  obtain ⟨k, rfl⟩ : ∃ k, n = k + 1 + e.ops + 1 := ⟨n - e.ops - 2, by omega⟩
  rw [parseExpr_toks e (k + 1) r (by omega), exprLoop_stop k e r hr]

theorem parseExpr_sound : ∀ n : Nat,
    (∀ toks t r, parseTerm n toks = some (t, r) → toks = t.toks ++ r) ∧
    (∀ toks e r, parseExpr n toks = some (e, r) → toks = e.toks ++ r) ∧
    (∀ acc toks e r, exprLoop n acc toks = some (e, r) → acc.toks ++ toks = e.toks ++ r) := by
  intro n
  induction n with
  | zero => simp [parseTerm, parseExpr, exprLoop]
  | succ n ih =>
    obtain ⟨ihT, ihE, ihL⟩ := ih
    -- a term `t` is read, then the loop goes on from `acc'`, whose printed form is `pre` followed by `t`
    have step : ∀ {pre toks r' r : List PTok} {t : PTerm} {acc' e : PExpr}, parseTerm n toks = some (t, r') →
        exprLoop n acc' r' = some (e, r) → acc'.toks = pre ++ t.toks → pre ++ toks = e.toks ++ r := by
      intro pre toks r' r t acc' e h1 h2 hacc
      rw [ihT _ _ _ h1, ← ihL _ _ _ _ h2, hacc, List.append_assoc]
    -- the branches of each function at fuel `m = n + 1`; in a failing branch `h` is `none = some _`
    generalize hm : n + 1 = m
    refine ⟨fun toks t r => ?_, fun toks e r => ?_, fun acc toks e r => ?_⟩
    · fun_cases parseTerm m toks <;> obtain ⟨⟩ := hm <;> intro h
      case case2 => cases h; rfl
      case case3 he => cases h; simp [PTerm.toks, ihE _ _ _ he]
      all_goals cases h
    · fun_cases parseExpr m toks <;> obtain ⟨⟩ := hm <;> intro h
      case case2 ht => exact step (pre := [.not]) ht h rfl
      case case4 ht => rw [ht] at h; exact step (pre := []) ht h rfl
      case case5 ht => rw [ht] at h; cases h
      cases h
    · fun_cases exprLoop m acc toks <;> obtain ⟨⟩ := hm <;> intro h
      case case2 ht | case4 ht =>
        rw [← List.singleton_append, ← List.append_assoc]
        exact step ht h (by simp [PExpr.toks])
      case case6 => cases h; rfl
      all_goals cases h

def Nodes.toks (ns : Nodes) : List PTok := linesToks ns.lines
def Node.toks (n : Node) : List PTok := linesToks n.lines
def CondRest.toks (c : CondRest) : List PTok := linesToks c.lines

theorem linesToks_append (a b : List ALine) : linesToks (a ++ b) = linesToks a ++ linesToks b := by
  simp [linesToks]

theorem linesToks_cons (a : ALine) (b : List ALine) : linesToks (a :: b) = a.toks ++ linesToks b := by
  simp [linesToks]

theorem Node.toks_cond_eq (e : PExpr) (body : Nodes) (rest : CondRest) (r : List PTok) :
    (Node.cond e body rest).toks ++ r = .kw .if_ :: (e.toks ++ .dend :: (body.toks ++ (rest.toks ++ r))) := by
  simp [Node.toks, Nodes.toks, CondRest.toks, Node.lines, linesToks_cons, linesToks_append, ALine.toks]

theorem CondRest.toks_elif_eq (e : PExpr) (body : Nodes) (rest : CondRest) (r : List PTok) :
    (CondRest.elif e body rest).toks ++ r = .kw .elif :: (e.toks ++ .dend :: (body.toks ++ (rest.toks ++ r))) := by
  simp [Nodes.toks, CondRest.toks, CondRest.lines, linesToks_cons, linesToks_append, ALine.toks]

theorem CondRest.toks_els_eq (body : Nodes) (r : List PTok) :
    (CondRest.els body).toks ++ r = .kw .else_ :: .dend :: (body.toks ++ .kw .endif :: .dend :: r) := by
  simp [Nodes.toks, CondRest.toks, CondRest.lines, ALine.toks, linesToks]

theorem Nodes.toks_cons_eq (nd : Node) (ns : Nodes) (r : List PTok) :
    (Nodes.cons nd ns).toks ++ r = nd.toks ++ (ns.toks ++ r) := by
  simp [Nodes.toks, Node.toks, Nodes.lines, linesToks_append]

theorem parseNodes_sound : ∀ n : Nat,
    (∀ toks ns r, parseNodes n toks = some (ns, r) → toks = ns.toks ++ r) ∧
    (∀ toks nd r, parseNode n toks = some (nd, r) → toks = nd.toks ++ r) ∧
    (∀ toks c r, parseRest n toks = some (c, r) → toks = c.toks ++ r) := by
  intro n
  induction n with
  | zero => simp [parseNodes, parseNode, parseRest]
  | succ n ih =>
    obtain ⟨ihNs, ihN, ihR⟩ := ih
    have hE := (parseExpr_sound n).2.1
    -- as in `parseExpr_sound`: the branches of each function at fuel `m = n + 1`
    generalize hm : n + 1 = m
    refine ⟨fun toks ns r => ?_, fun toks nd r => ?_, fun toks c r => ?_⟩
    · fun_cases parseNodes m toks <;> obtain ⟨⟩ := hm <;> intro h
      case case6 h2 h1 =>
        simp only [h1, h2] at h
        cases h
        rw [Nodes.toks_cons_eq, ihN _ _ _ h1, ihNs _ _ _ h2]
      case case7 h2 h1 => simp only [h1, h2] at h; cases h
      case case8 h1 => simp only [h1] at h; cases h
      -- in front of the end of the tokens or of a closer the result is the empty `Nodes`
      all_goals cases h; rfl
    · fun_cases parseNode m toks <;> obtain ⟨⟩ := hm <;> intro h
      case case5 he hb hr => cases h; rw [Node.toks_cond_eq, hE _ _ _ he, ihNs _ _ _ hb, ihR _ _ _ hr]
      -- a block, `#define`, `#undef`: the node is read off the tokens
      all_goals cases h
      all_goals rfl
    · fun_cases parseRest m toks <;> obtain ⟨⟩ := hm <;> intro h
      case case2 => cases h; rfl
      case case3 hb => cases h; rw [CondRest.toks_els_eq, ihNs _ _ _ hb]
      case case5 he hb hr => cases h; rw [CondRest.toks_elif_eq, hE _ _ _ he, ihNs _ _ _ hb, ihR _ _ _ hr]
      all_goals cases h

theorem parsePre_sound (toks : List PTok) (ns : Nodes) (h : parsePre toks = some ns) : toks = ns.toks := by
  revert h
  fun_cases parsePre toks with
  | case1 ns' heq => rintro ⟨⟩; simpa using (parseNodes_sound _).1 _ _ _ heq
  | case2 => exact nofun

theorem specRun_append (st : SpecSt) (a b : List ALine) :
    specRun st (a ++ b) = (specRun st a).bind (fun st' => specRun st' b) := by
  induction a generalizing st with
  | nil => rfl
  | cons l a ih =>
    simp only [List.cons_append, specRun]
    split
    · exact ih _
    · rfl

theorem allActive_cons (fr : Frame) (stk : List Frame) : allActive (fr :: stk) = (fr.active && allActive stk) := by
  simp [allActive]

mutual
  theorem spec_node : ∀ (n : Node) (stk : List Frame) (out : PState),
      specRun ⟨stk, out⟩ n.lines = some ⟨stk, if allActive stk then evalNode n out else out⟩
    | .block _, stk, out | .define _, stk, out | .undef _, stk, out => by
      simp only [Node.lines, specRun, specStep, evalNode]
      split <;> rfl
    | .cond e body rest, stk, out => by
      simp only [Node.lines, specRun, specStep]
      rw [specRun_append, spec_nodes body _ out]
      simp only [Option.bind]
      rw [spec_rest rest _ stk _ rfl]
      simp only [allActive_cons, evalNode]
      cases allActive stk <;> cases e.eval out.syms <;> simp
  theorem spec_nodes : ∀ (ns : Nodes) (stk : List Frame) (out : PState),
      specRun ⟨stk, out⟩ ns.lines = some ⟨stk, if allActive stk then evalNodes ns out else out⟩
    | .nil, stk, out => by simp [Nodes.lines, specRun, evalNodes]
    | .cons n ns, stk, out => by
      simp only [Nodes.lines]
      rw [specRun_append, spec_node n stk out]
      simp only [Option.bind]
      rw [spec_nodes ns stk _]
      simp only [evalNodes]
      cases allActive stk <;> simp
  theorem spec_rest : ∀ (c : CondRest) (fr : Frame) (stk : List Frame) (out : PState), fr.seenElse = false →
      specRun ⟨fr :: stk, out⟩ c.lines = some ⟨stk, if allActive stk && !fr.taken then evalRest c out else out⟩
    | .endif, fr, stk, out, _ => by
      simp [CondRest.lines, specRun, specStep, evalRest]
    | .els body, fr, stk, out, h => by
      simp only [CondRest.lines, specRun, specStep, h, Bool.false_eq_true, ↓reduceIte]
      rw [specRun_append, spec_nodes body _ out]
      simp only [Option.bind, specRun, specStep, allActive_cons, evalRest]
      cases allActive stk <;> cases fr.taken <;> simp
    | .elif e body rest, fr, stk, out, h => by
      simp only [CondRest.lines, specRun, specStep, h, Bool.false_eq_true, ↓reduceIte]
      rw [specRun_append, spec_nodes body _ out]
      simp only [Option.bind]
      rw [spec_rest rest _ stk _ rfl]
      simp only [allActive_cons, evalRest]
      cases allActive stk <;> cases fr.taken <;> cases e.eval out.syms <;> simp
end

theorem specFile_tree (ns : Nodes) (D : Syms) : specFile ns.lines D = some (evalNodes ns ⟨[], D⟩) := by
  unfold specFile
  rw [spec_nodes ns [] ⟨[], D⟩]
  simp [allActive]

theorem blocksOfToks_append (a b : List PTok) : blocksOfToks (a ++ b) = blocksOfToks a ++ blocksOfToks b := by
  induction a with
  | nil => rfl
  | cons t a ih => cases t <;> simp [blocksOfToks, ih]

mutual
  theorem PExpr.blocks_nil : ∀ e : PExpr, blocksOfToks e.toks = []
    | .term t => by simp only [PExpr.toks]; exact PTerm.blocks_nil t
    | .not t => by simp only [PExpr.toks, blocksOfToks]; exact PTerm.blocks_nil t
    | .and e t | .or e t => by
      simp only [PExpr.toks, blocksOfToks_append, blocksOfToks, PExpr.blocks_nil e, PTerm.blocks_nil t, List.append_nil]
  theorem PTerm.blocks_nil : ∀ t : PTerm, blocksOfToks t.toks = []
    | .sym _ => rfl
    | .paren e => by
      simp only [PTerm.toks, blocksOfToks_append, blocksOfToks, PExpr.blocks_nil e, List.append_nil]
end

def ALine.isSrc : ALine → Bool
  | .src _ => true
  | _ => false

theorem specStep_blocks (stk : List Frame) (bl : List Block) (syms : Syms) (a : ALine) (h : a.isSrc = false) :
    specStep ⟨stk, ⟨bl, syms⟩⟩ a = (specStep ⟨stk, ⟨[], syms⟩⟩ a).map (fun s => ⟨s.stack, ⟨bl, s.out.syms⟩⟩) := by
  cases a with
  | src b => simp [ALine.isSrc] at h
  | define s => simp only [specStep]; split <;> rfl
  | undef s => simp only [specStep]; split <;> rfl
  | if_ e => rfl
  | elif e =>
    cases stk with
    | nil => rfl
    | cons fr stk => simp only [specStep]; split <;> rfl
  | else_ =>
    cases stk with
    | nil => rfl
    | cons fr stk => simp only [specStep]; split <;> rfl
  | endif => cases stk <;> rfl

theorem specRun_sub : ∀ (ls : List ALine) (st st' : SpecSt), specRun st ls = some st' →
    ∃ sel, st'.out.blocks = st.out.blocks ++ sel ∧ sel.Sublist (blocksOfToks (linesToks ls))
  | [], st, st', h => ⟨[], by cases h; simp, List.nil_sublist _⟩
  | l :: ls, ⟨stk, bl, syms⟩, st', h => by
    rw [specRun] at h
    rw [linesToks_cons, blocksOfToks_append]
    -- the line emits `s1`: its block if it is a selected source line, else nothing
    obtain ⟨st1, s1, h1, hb, hs⟩ : ∃ st1 s1, specStep ⟨stk, bl, syms⟩ l = some st1 ∧ st1.out.blocks = bl ++ s1 ∧
        s1.Sublist (blocksOfToks l.toks) := by
      cases hl : l.isSrc with
      | true =>
        cases l with
        | src b =>
          cases ha : allActive stk
          · exact ⟨_, [], rfl, by simp [ha], List.nil_sublist _⟩
          · exact ⟨_, [b], rfl, by simp [ha], List.Sublist.refl _⟩
        | _ => cases hl
      | false =>
        rw [specStep_blocks stk bl syms l hl] at h ⊢
        cases hs : specStep ⟨stk, [], syms⟩ l with
        | none => rw [hs] at h; cases h
        | some s => exact ⟨_, [], rfl, by simp, List.nil_sublist _⟩
    rw [h1] at h
    obtain ⟨s2, h2, hs2⟩ := specRun_sub ls st1 st' h
    exact ⟨s1 ++ s2, by rw [h2, hb, List.append_assoc], hs.append hs2⟩

theorem evalNode_sub : ∀ (n : Node) (st : PState),
    ∃ sel, (evalNode n st).blocks = st.blocks ++ sel ∧ sel.Sublist (blocksOfToks n.toks) :=
  fun n st => specRun_sub n.lines ⟨[], st⟩ ⟨[], evalNode n st⟩ (spec_node n [] st)

theorem evalNodes_sub : ∀ (ns : Nodes) (st : PState),
    ∃ sel, (evalNodes ns st).blocks = st.blocks ++ sel ∧ sel.Sublist (blocksOfToks ns.toks) :=
  fun ns st => specRun_sub ns.lines ⟨[], st⟩ ⟨[], evalNodes ns st⟩ (spec_nodes ns [] st)

theorem evalRest_sub : ∀ (c : CondRest) (st : PState),
    ∃ sel, (evalRest c st).blocks = st.blocks ++ sel ∧ sel.Sublist (blocksOfToks c.toks) :=
  fun c st => specRun_sub c.lines ⟨[⟨false, false, false⟩], st⟩ ⟨[], evalRest c st⟩ (spec_rest c _ [] st rfl)

theorem preprocess_chain (f : List Char) (D : Syms) (bs : List Block) (D' : Syms)
    (h : preprocess f D = .ok (bs, D')) : Chain f 0 bs := by
  revert h
  fun_cases preprocess f D with
  | case1 | case2 => exact nofun
  | case3 toks hl ns hp st =>
    rintro ⟨⟩
    have hc := lexPre_chain f toks hl
    rw [parsePre_sound toks ns hp] at hc
    obtain ⟨sel, hs1, hs2⟩ := evalNodes_sub ns ⟨[], D⟩
    exact hs1 ▸ Chain.sublist hs2 hc

end Slicec.Pp
