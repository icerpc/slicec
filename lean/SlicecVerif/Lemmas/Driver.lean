/-
  C07 / C18 over `Model/Driver.lean`: the phase table as a gated fold, and with it the compilation seen whole
  (`compilePhases_spec`, `mem_ran_iff`, `compile_clean_iff`); one generator (`applyGen`: its round of the collection loop
  in terms of the per-generator view); the loop over the files and the loop over the generators, each with its invariant
  principle. `ranFrom` and `isRunGen` are the two notions the statements of the properties use beyond the model.
-/
import SlicecVerif.Model.Driver

namespace Slicec.Driver

/-- the phases that run, from a state without errors, when the phases `ps` are still to come -/
def ranFrom (o : PhaseOutcomes) : List Phase → List Phase
  | [] => []
  | p :: ps => p :: (if hasErrors (o.out p) then [] else ranFrom o ps)

/-- an E001 "unable to run code-generator" (`Diag.io .runGenerator`) -/
def isRunGen : Diag → Bool
  | .io .runGenerator _ => true
  | _ => false

theorem hasErrors_nil : hasErrors [] = false := rfl

theorem hasErrors_append (a b : List Diag) : hasErrors (a ++ b) = (hasErrors a || hasErrors b) := by
  simp [hasErrors, List.any_append]

theorem hasErrors_iff (ds : List Diag) : hasErrors ds = true ↔ ∃ d ∈ ds, d.isError = true := by
  simp [hasErrors, List.any_eq_true]

theorem hasErrors_false_iff (ds : List Diag) : hasErrors ds = false ↔ ∀ d ∈ ds, d.isError = false := by
  simp [hasErrors, List.any_eq_false]

/-- errors are never downgraded, lints are never errors -/
theorem level_error_iff (a : List String) (d : Diag) : d.level a = .error ↔ d.isError = true := by
  cases d <;> simp [Diag.level, Diag.isError]
  split <;> simp

theorem countErrors_zero_iff (a : List String) (ds : List Diag) :
    countErrors (ds.map fun d => (d, d.level a)) = 0 ↔ hasErrors ds = false := by
  rw [hasErrors_false_iff, countErrors, List.length_eq_zero_iff, List.filter_eq_nil_iff, List.forall_mem_map]
  exact forall₂_congr fun d _ => by rw [decide_eq_true_iff, level_error_iff, Bool.not_eq_true]

/-- the table read from the source is the one the model mirrors by hand -/
theorem phaseRows_eq : phaseRows =
    [(.resolve, false), (.parse, true), (.attributes, true), (.typeRefs, true), (.links, true),
     (.cycles, true), (.redefinitions, true), (.visitor, true)] := by decide +kernel

theorem allPhases_sorted : allPhases.Pairwise (fun a c => a.idx < c.idx) := by
  rw [allPhases, phaseRows_eq]; decide

theorem mem_allPhases (p : Phase) : p ∈ allPhases := by
  rw [allPhases, phaseRows_eq]; cases p <;> decide

/-- one step of the fold over the source's rows -/
def gstepRow (o : PhaseOutcomes) (s : CompileState) (r : Phase × Bool) : CompileState :=
  if r.2 && hasErrors s.diags then s else runPhase o r.1 s

theorem gstepRow_ok (o : PhaseOutcomes) (r : Phase × Bool) (s : CompileState) (h : hasErrors s.diags = false) :
    gstepRow o s r = runPhase o r.1 s := by simp [gstepRow, h]

theorem gstepRow_err (o : PhaseOutcomes) (r : Phase × Bool) (s : CompileState) (hr : r.2 = true)
    (h : hasErrors s.diags = true) : gstepRow o s r = s := by simp [gstepRow, hr, h]

theorem applyFn_runPhase (o : PhaseOutcomes) (p : Phase) (s : CompileState) :
    applyFn (runPhase o p) s = gstepRow o s (p, true) := by
  unfold applyFn gstepRow
  cases hasErrors s.diags <;> rfl

theorem foldl_gated_err (o : PhaseOutcomes) (rs : List (Phase × Bool)) (hg : ∀ r ∈ rs, r.2 = true) (s : CompileState)
    (h : hasErrors s.diags = true) : rs.foldl (gstepRow o) s = s := by
  induction rs with
  | nil => rfl
  | cons r t ih =>
    rw [List.foldl_cons, gstepRow_err o r s (hg r (List.mem_cons_self ..)) h]
    exact ih fun r' hr' => hg r' (List.mem_cons_of_mem _ hr')

/-- `apply` around a run of gated calls changes nothing -/
theorem applyFn_eq_fold (o : PhaseOutcomes) (f : CompileState → CompileState) (rs : List (Phase × Bool))
    (hg : ∀ r ∈ rs, r.2 = true) (s : CompileState) (hf : hasErrors s.diags = false → f s = rs.foldl (gstepRow o) s) :
    applyFn f s = rs.foldl (gstepRow o) s := by
  unfold applyFn
  cases h : hasErrors s.diags
  · exact hf h
  · exact (foldl_gated_err o rs hg s h).symm

theorem applyFn_patchAst (o : PhaseOutcomes) (s : CompileState) :
    applyFn (patchAst o) s = [(Phase.attributes, true), (.typeRefs, true), (.links, true)].foldl (gstepRow o) s :=
  applyFn_eq_fold o _ _ (by decide) s fun _ => by simp only [patchAst, applyFn_runPhase]; rfl

theorem applyFn_validateAst (o : PhaseOutcomes) (s : CompileState) :
    applyFn (validateAst o) s = [(Phase.cycles, true), (.redefinitions, true), (.visitor, true)].foldl (gstepRow o) s :=
  applyFn_eq_fold o _ _ (by decide) s fun h => by
    simp only [validateAst, List.foldl_cons, List.foldl_nil, gstepRow_ok o _ s h]
    cases h1 : hasErrors (runPhase o .cycles s).diags
    · rw [gstepRow_ok o _ _ h1]; rfl
    · rw [gstepRow_err o _ _ rfl h1, gstepRow_err o _ _ rfl h1]; rfl

/-- `compile_from_options`, written call by call in the model, is the fold of the source's phase table -/
theorem compilePhases_eq_rows (o : PhaseOutcomes) : compilePhases o = phaseRows.foldl (gstepRow o) ⟨[], []⟩ := by
  have h0 : compilePhases o = applyFn (compileFiles o) (runPhase o .resolve ⟨[], []⟩) := rfl
  rw [phaseRows_eq, List.foldl_cons, gstepRow_ok o _ ⟨[], []⟩ rfl, h0]
  exact applyFn_eq_fold o _ _ (by decide) _ fun h => by
    -- not `rfl`: `gstepRow` mentions its state in both branches, so unfolding it doubles the term at every row
    simp only [compileFiles, applyFn_patchAst, applyFn_validateAst, ← gstepRow_ok o (.parse, true) _ h,
      List.foldl_cons, List.foldl_nil]

/-- from a state without errors the first row runs whatever its gate; behind it every row is gated -/
theorem foldl_gated_spec (o : PhaseOutcomes) (rs : List (Phase × Bool)) (hg : ∀ r ∈ rs.tail, r.2 = true)
    (s : CompileState) (h : hasErrors s.diags = false) :
    rs.foldl (gstepRow o) s =
      ⟨s.diags ++ (ranFrom o (rs.map (·.1))).flatMap o.out, s.ran ++ ranFrom o (rs.map (·.1))⟩ := by
  induction rs generalizing s with
  | nil => simp [ranFrom]
  | cons r t ih =>
    rw [List.foldl_cons, gstepRow_ok o r s h, List.map_cons, ranFrom]
    cases ha : hasErrors (o.out r.1)
    · rw [ih (fun r' hr' => hg r' (List.mem_of_mem_tail hr')) _ (by simp [runPhase, hasErrors_append, h, ha])]
      simp [runPhase, List.flatMap_cons]
    · rw [foldl_gated_err o t hg _ (by simp [runPhase, hasErrors_append, ha])]
      simp [runPhase]

theorem compilePhases_spec (o : PhaseOutcomes) :
    compilePhases o = ⟨(ranFrom o allPhases).flatMap o.out, ranFrom o allPhases⟩ := by
  rw [compilePhases_eq_rows, foldl_gated_spec o phaseRows (by rw [phaseRows_eq]; decide) ⟨[], []⟩ rfl]
  rfl

theorem hasErrors_flatMap (o : PhaseOutcomes) (ps : List Phase) :
    hasErrors (ps.flatMap o.out) = ps.any (fun p => hasErrors (o.out p)) :=
  List.any_flatMap

theorem ranFrom_of_clean (o : PhaseOutcomes) (ps : List Phase) (h : ∀ p ∈ ps, hasErrors (o.out p) = false) :
    ranFrom o ps = ps := by
  induction ps with
  | nil => rfl
  | cons a t ih =>
    have ha := h a (by simp)
    simp [ranFrom, ha, ih (fun p hp => h p (List.mem_cons_of_mem _ hp))]

/-- the `any` is over every phase, run or not: the first that has an error to report did run -/
theorem hasErrors_ranFrom (o : PhaseOutcomes) (ps : List Phase) :
    hasErrors ((ranFrom o ps).flatMap o.out) = ps.any fun p => hasErrors (o.out p) := by
  induction ps with
  | nil => rfl
  | cons a t ih =>
    rw [ranFrom, List.flatMap_cons, hasErrors_append, List.any_cons]
    cases hasErrors (o.out a)
    · rw [if_neg Bool.false_ne_true, ih]
    · rfl

theorem mem_ranFrom_iff (o : PhaseOutcomes) (ps : List Phase) (hs : ps.Pairwise (fun a c => a.idx < c.idx)) (q : Phase) :
    q ∈ ranFrom o ps ↔ q ∈ ps ∧ ∀ p ∈ ps, p.idx < q.idx → hasErrors (o.out p) = false := by
  induction ps with
  | nil => simp [ranFrom]
  | cons a t ih =>
    obtain ⟨hat, ht⟩ := List.pairwise_cons.1 hs
    rw [ranFrom, List.mem_cons, List.mem_cons, List.forall_mem_cons]
    constructor
    · rintro (rfl | hq)
      · exact ⟨Or.inl rfl, fun h => absurd h (Nat.lt_irrefl _), fun p hp h => absurd (hat p hp) (Nat.lt_asymm h)⟩
      · cases ha : hasErrors (o.out a)
        · rw [ha, if_neg Bool.false_ne_true] at hq
          exact ⟨Or.inr ((ih ht).1 hq).1, fun _ => rfl, ((ih ht).1 hq).2⟩
        · rw [ha, if_pos rfl] at hq
          cases hq
    · rintro ⟨rfl | hq, ha, hcl⟩
      · exact Or.inl rfl
      · rw [ha (hat q hq), if_neg Bool.false_ne_true]
        exact Or.inr ((ih ht).2 ⟨hq, hcl⟩)

theorem mem_ran_iff (o : PhaseOutcomes) (q : Phase) :
    q ∈ (compilePhases o).ran ↔ ∀ p : Phase, p.idx < q.idx → hasErrors (o.out p) = false := by
  rw [compilePhases_spec, mem_ranFrom_iff o allPhases allPhases_sorted]
  exact ⟨fun h p => h.2 p (mem_allPhases p), fun h => ⟨mem_allPhases q, fun p _ => h p⟩⟩

theorem compile_clean_iff (o : PhaseOutcomes) :
    hasErrors (compilePhases o).diags = false ↔ ∀ p : Phase, hasErrors (o.out p) = false := by
  simp only [compilePhases_spec, hasErrors_ranFrom, List.any_eq_false, Bool.not_eq_true]
  exact ⟨fun h p => h p (mem_allPhases p), fun h p _ => h p⟩

theorem statusAccepted_some (code : Nat) : statusAccepted (some code) = (code == 0) := by
  -- the arms read from the source (`Gen.collectArms`), on `0` and on `n + 1`
  cases code <;> rfl

theorem statusAccepted_none : statusAccepted none = false := rfl

theorem collect_exited (code : Nat) (err out : Bytes) :
    collect (.exited code err out) =
      if !err.isEmpty then .error .stderrOutput else if code = 0 then .ok out else .error (.status code) := by
  simp only [collect, Gen.collectStderrCheck, statusAccepted_some, Bool.true_and]
  by_cases h : code = 0 <;> simp [h]

theorem collect_signalled (err out : Bytes) :
    collect (.signalled err out) = if !err.isEmpty then .error .stderrOutput else .error .interrupted := by
  simp [collect, Gen.collectStderrCheck, statusAccepted_none]

theorem collect_ok_iff (b : Behaviour) (out : Bytes) : collect b = .ok out ↔ b = .exited 0 [] out := by
  cases b with
  | exited code err o =>
    rw [collect_exited]
    cases err <;> cases code <;> simp
  | signalled err o => rw [collect_signalled]; split <;> simp
  | _ => simp [collect]

theorem spawnGen_eq (payload : Bytes) (g : GenRun) :
    spawnGen payload g =
      ⟨g.gen,
       if g.beh != .spawnError then some (payload ++ (encArguments g.gen.args).getD []) else none,
       if g.beh = .spawnError then .error .spawn
       else if (encArguments g.gen.args).isNone then .error .argsEncoding
       else if g.beh = .stdinError then .error .stdin else .ok g.beh⟩ := by
  fun_cases spawnGen payload g with
  | case1 h => simp [h]
  | case2 h hs => simp [h, eq_false hs]
  | case3 a ha hs h => simp [h, ha]
  | case4 a ha hs hi => simp [ha, eq_false hs, eq_false hi]

theorem genReply_ok_iff (g : GenRun) (r : List GenFile × List GDiag) :
    genReply g = .ok r ↔
      ∃ stdout rest, g.beh = .exited 0 [] stdout ∧ (encArguments g.gen.args).isSome = true ∧
        decReply stdout = .ok (r, rest) := by
  -- `collect` hands on the stdout of `exited 0 []` only; then the six branches of `genReply`: not spawned, arguments
  -- not encodable, stdin closed, `collect` fails, reply undecodable, accepted
  simp only [← collect_ok_iff]
  fun_cases genReply g with
  | case1 h => simp [h, collect]
  | case2 h => simp [h]
  | case3 a ha _ h => simp [h, collect]
  | case4 a ha e _ _ hc => simp [hc]
  | case5 a ha out e hd _ _ hc => simp [hc, hd]
  | case6 a ha out r' rest hd _ _ hc => simp [hc, ha, hd]

theorem failed_false_iff (g : GenRun) : g.failed = false ↔ ∃ r, genReply g = .ok r := by
  unfold GenRun.failed
  cases genReply g <;> simp

/-- what one round of the collection loop does to the world, in terms of the per-generator view -/
def applyGen (outDir : Option Path) (w : World) (g : GenRun) : World × List Diag :=
  if g.failed then (w, [Diag.io .runGenerator g.gen.path])
  else writeFiles outDir g.files { w with printed := w.printed ++ g.messages }

theorem applyGen_failed (outDir : Option Path) (w : World) (g : GenRun) (h : g.failed = true) :
    applyGen outDir w g = (w, [Diag.io .runGenerator g.gen.path]) := if_pos h

theorem applyGen_ok (outDir : Option Path) (w : World) (g : GenRun) (h : g.failed = false) :
    applyGen outDir w g = writeFiles outDir g.files { w with printed := w.printed ++ g.messages } :=
  if_neg (by simp [h])

/-- the per-generator view is `process.and_then(collect).and_then(handle)` on what `spawnGen` left: in each of the six
    branches of `genReply`, `spawnGen_eq` says which process `collectOne` meets -/
theorem collectOne_spawnGen (outDir : Option Path) (payload : Bytes) (w : World) (g : GenRun) :
    collectOne outDir w (spawnGen payload g) = applyGen outDir w g := by
  unfold applyGen GenRun.failed GenRun.files GenRun.messages collectOne
  rw [spawnGen_eq]
  fun_cases genReply g with
  | case1 h => simp [h]
  | case2 h hs => simp [h, if_neg hs]
  | case3 a ha hs h => simp [h, ha]
  | case4 a ha e hs hi hc => simp [ha, if_neg hs, if_neg hi, hc]
  | case5 a ha out e hd hs hi hc => simp [ha, if_neg hs, if_neg hi, hc, handleReply, hd]
  | case6 a ha out r' rest hd hs hi hc => simp [ha, if_neg hs, if_neg hi, hc, handleReply, hd]

theorem writeGenerated_world (outDir : Option Path) (w : World) (f : GenFile) :
    (writeGenerated outDir w f).1 = w ∨
    (w.fs.files (targetPath outDir f.path) ≠ some f.contents ∧
      (writeGenerated outDir w f).1 =
        { w with fs := w.fs.write (targetPath outDir f.path) f.contents,
                 writes := w.writes ++ [(targetPath outDir f.path, f.contents)] }) := by
  fun_cases writeGenerated outDir w f with
  | case1 p h => exact Or.inl rfl
  | case2 p h1 h2 => exact Or.inl rfl
  | case3 p h1 h2 => exact Or.inr ⟨h1, rfl⟩

theorem writeGenerated_writes (outDir : Option Path) (w : World) (f : GenFile) :
    ∀ pc ∈ (writeGenerated outDir w f).1.writes,
      pc ∈ w.writes ∨ (pc = (targetPath outDir f.path, f.contents) ∧ w.fs.files pc.1 ≠ some pc.2) := by
  intro pc hpc
  rcases writeGenerated_world outDir w f with e | ⟨hne, e⟩
  · exact Or.inl (e ▸ hpc)
  · rw [e] at hpc
    rcases List.mem_append.1 hpc with h | h
    · exact Or.inl h
    · cases List.mem_singleton.1 h
      exact Or.inr ⟨rfl, hne⟩

theorem writeGenerated_writes_mono (outDir : Option Path) (w : World) (f : GenFile) :
    ∀ pc ∈ w.writes, pc ∈ (writeGenerated outDir w f).1.writes := by
  intro pc h
  rcases writeGenerated_world outDir w f with e | ⟨_, e⟩
  · rw [e]; exact h
  · rw [e]; exact List.mem_append_left _ h

theorem writeGenerated_stable (outDir : Option Path) (w : World) (f : GenFile) (p : Path) (c : Bytes)
    (hp : w.fs.files p = some c) (hf : targetPath outDir f.path = p → f.contents = c) :
    (writeGenerated outDir w f).1.fs.files p = some c ∧
    ∀ pc ∈ (writeGenerated outDir w f).1.writes, pc ∈ w.writes ∨ pc.1 ≠ p := by
  rcases writeGenerated_world outDir w f with e | ⟨hne, e⟩
  · rw [e]; exact ⟨hp, fun pc h => Or.inl h⟩
  · -- the write goes to another path: at `p` the content would have been identical
    have hne' : targetPath outDir f.path ≠ p := fun e' => hne (by rw [e', hp, hf e'])
    rw [e]
    refine ⟨?_, fun pc h => ?_⟩
    · simp only [FileSystem.write]
      rw [if_neg (fun e' => hne' e'.symm)]
      exact hp
    · rcases List.mem_append.1 h with h | h
      · exact Or.inl h
      · cases List.mem_singleton.1 h
        exact Or.inr hne'

theorem writeFiles_diags (outDir : Option Path) (files : List GenFile) (w : World) :
    (writeFiles outDir files w).2.Sublist (files.map fun f => Diag.io .writeGenerated f.path) := by
  induction files generalizing w with
  | nil => exact .slnil
  | cons f rest ih =>
    simp only [writeFiles, List.map_cons]
    split
    · exact (ih _).cons_cons _
    · exact (ih _).cons _

theorem writeFiles_no_runGen (outDir : Option Path) (files : List GenFile) (w : World) :
    (writeFiles outDir files w).2.filter isRunGen = [] := by
  rw [List.filter_eq_nil_iff]
  intro d hd
  obtain ⟨f, _, rfl⟩ := List.mem_map.1 ((writeFiles_diags outDir files w).subset hd)
  simp [isRunGen]

theorem writeFiles_invariant (P : World → Prop) (outDir : Option Path) (files : List GenFile) (w : World) (h0 : P w)
    (hstep : ∀ w, P w → ∀ f ∈ files, P (writeGenerated outDir w f).1) : P (writeFiles outDir files w).1 := by
  induction files generalizing w with
  | nil => exact h0
  | cons f rest ih =>
    exact ih _ (hstep w h0 f (by simp)) fun w' h' f' hf' => hstep w' h' f' (List.mem_cons_of_mem _ hf')

theorem collectAll_spawn_cons (outDir : Option Path) (payload : Bytes) (g : GenRun) (rest : List GenRun) (w : World) :
    collectAll outDir ((g :: rest).map (spawnGen payload)) w =
      ((collectAll outDir (rest.map (spawnGen payload)) (applyGen outDir w g).1).1,
       (applyGen outDir w g).2 ++ (collectAll outDir (rest.map (spawnGen payload)) (applyGen outDir w g).1).2) := by
  rw [List.map_cons, collectAll, collectOne_spawnGen]

theorem collectAll_invariant (P : World → Prop) (outDir : Option Path) (payload : Bytes) (gens : List GenRun) (w : World)
    (h0 : P w) (hprint : ∀ w ms, P w → P { w with printed := w.printed ++ ms })
    (hfile : ∀ w, P w → ∀ g ∈ gens, g.failed = false → ∀ f ∈ g.files, P (writeGenerated outDir w f).1) :
    P (collectAll outDir (gens.map (spawnGen payload)) w).1 := by
  induction gens generalizing w with
  | nil => exact h0
  | cons g rest ih =>
    rw [collectAll_spawn_cons]
    refine ih _ ?_ fun w' h' g' hg' => hfile w' h' g' (List.mem_cons_of_mem _ hg')
    cases hf : g.failed
    · rw [applyGen_ok outDir w g hf]
      exact writeFiles_invariant P outDir g.files _ (hprint w _ h0) fun w' h' f hfm => hfile w' h' g (by simp) hf f hfm
    · rw [applyGen_failed outDir w g hf]
      exact h0

theorem collectAll_writes (outDir : Option Path) (payload : Bytes) (gens : List GenRun) (w : World) :
    ∀ pc ∈ (collectAll outDir (gens.map (spawnGen payload)) w).1.writes,
      pc ∈ w.writes ∨ ∃ g ∈ gens, g.failed = false ∧ ∃ f ∈ g.files, pc = (targetPath outDir f.path, f.contents) := by
  refine collectAll_invariant
    (fun w' => ∀ pc ∈ w'.writes,
      pc ∈ w.writes ∨ ∃ g ∈ gens, g.failed = false ∧ ∃ f ∈ g.files, pc = (targetPath outDir f.path, f.contents))
    outDir payload gens w (fun _ h => Or.inl h) (fun _ _ h => h) ?_
  intro w' h' g hg hok f hf pc hpc
  rcases writeGenerated_writes outDir w' f pc hpc with h | ⟨e, _⟩
  · exact h' pc h
  · exact Or.inr ⟨g, hg, hok, f, hf, e⟩

theorem requestsOf_spawn (payload : Bytes) (gens : List GenRun) :
    requestsOf (gens.map (spawnGen payload)) =
      (gens.filter (fun g => g.beh != .spawnError)).map
        (fun g => (g.gen, payload ++ (encArguments g.gen.args).getD [])) := by
  induction gens with
  | nil => rfl
  | cons g rest ih =>
    rw [requestsOf] at ih ⊢
    rw [List.map_cons, List.filterMap_cons, ih, spawnGen_eq, List.filter_cons]
    cases g.beh != .spawnError <;> rfl

theorem mainFlow_closed (opts : Options) (c : List Diag) (req : Option Bytes) (gens : List GenRun) (fs : FileSystem)
    (h : guardOpen opts c = false) : mainFlow opts c req gens fs = finish opts c [] [] ⟨fs, [], []⟩ := by
  simp [mainFlow, h]

theorem mainFlow_open_none (opts : Options) (c : List Diag) (gens : List GenRun) (fs : FileSystem)
    (h : guardOpen opts c = true) :
    mainFlow opts c none gens fs = { status := 79, diags := [], attempted := [], requests := [], world := ⟨fs, [], []⟩ } := by
  simp [mainFlow, h]

theorem mainFlow_open_some (opts : Options) (c : List Diag) (payload : Bytes) (gens : List GenRun) (fs : FileSystem)
    (h : guardOpen opts c = true) :
    mainFlow opts c (some payload) gens fs =
      finish opts (c ++ (collectAll opts.outputDir (gens.map (spawnGen payload)) ⟨fs, [], []⟩).2) (gens.map (·.gen))
        (requestsOf (gens.map (spawnGen payload))) (collectAll opts.outputDir (gens.map (spawnGen payload)) ⟨fs, [], []⟩).1 := by
  simp [mainFlow, h]

/-- the conjuncts read from `main.rs` (`Gen.driverGuard`) are these two, each known to `evalGuardAtom` -/
theorem guardOpen_iff (opts : Options) (c : List Diag) :
    guardOpen opts c = true ↔ hasErrors c = false ∧ opts.dryRun = false := by
  simp [guardOpen, Gen.driverGuard, evalGuardAtom]

theorem guardOpen_false_of_errors (opts : Options) (c : List Diag) (h : hasErrors c = true) :
    guardOpen opts c = false := by
  rw [← Bool.not_eq_true, guardOpen_iff, h]
  exact fun hc => Bool.noConfusion hc.1

theorem finish_status (opts : Options) (ds : List Diag) (a : List Generator) (r : List (Generator × Bytes)) (w : World) :
    (finish opts ds a r w).status = if hasErrors ds then 1 else 0 := by
  simp only [finish, countErrors_zero_iff]
  cases hasErrors ds <;> rfl

theorem finish_level (opts : Options) (ds : List Diag) (a : List Generator) (r : List (Generator × Bytes)) (w : World) :
    ∀ d ∈ (finish opts ds a r w).diags, (d.2 = .error ↔ d.1.isError = true) := by
  intro d hd
  obtain ⟨d0, _, rfl⟩ := List.mem_map.1 hd
  exact level_error_iff opts.allowedLints d0

theorem finish_error_iff (opts : Options) (ds : List Diag) (a : List Generator) (r : List (Generator × Bytes)) (w : World) :
    (∃ d ∈ (finish opts ds a r w).diags, d.2 = .error) ↔ hasErrors ds = true := by
  have h : hasErrors ds = (finish opts ds a r w).diags.any (·.1.isError) := by
    rw [finish, List.any_map]; rfl
  rw [h, List.any_eq_true]
  exact exists_congr fun d => and_congr_right fun hd => finish_level opts ds a r w d hd

end Slicec.Driver
