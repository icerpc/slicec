/-
  Lemmas for C03, after the notions its statements are written in. The lookup loop is set against the segment-level
  specification; the alias walk is bounded by pigeonhole on its chain and its successes follow an `AliasPath`; resolution is
  designation followed by the kind check.
-/
import SlicecVerif.Model.Bind
import SlicecVerif.Lemmas.Basic

namespace Slicec

def SegOK (s : String) : Prop := s ≠ "" ∧ ':' ∉ s.toList

def PathOK (l : List String) : Prop := l ≠ [] ∧ ∀ s ∈ l, SegOK s

/-- `AliasPath t a links tgt`: starting at the alias `a`, `links` are the underlying type references of the
    aliases walked through (in order), each resolved in the module scope of the alias it is written in, and
    `tgt` is what the last one designates: a node that is not an alias, or a written primitive / anonymous type -/
inductive AliasPath (t : Table) : NodeInfo → List TRef → Target → Prop
  | endNode {cur : NodeInfo} {u : TRef} {id : String} {n : NodeInfo} :
      cur.aliasOf = some u → u.ty = .named id → findNodeWithScope t id cur.modScope = some n → n.isAlias = false →
      AliasPath t cur [u] (.node n)
  | endExpr {cur : NodeInfo} {u : TRef} :
      cur.aliasOf = some u → (∀ id, u.ty ≠ .named id) → AliasPath t cur [u] (.expr u.ty cur.modScope)
  | step {cur : NodeInfo} {u : TRef} {id : String} {n : NodeInfo} {us : List TRef} {tgt : Target} :
      cur.aliasOf = some u → u.ty = .named id → findNodeWithScope t id cur.modScope = some n → n.isAlias = true →
      AliasPath t n us tgt → AliasPath t cur (u :: us) tgt

def Target.NonAlias : Target → Prop
  | .node n => n.isAlias = false
  | .expr e _ => ∀ id, e ≠ .named id

def Def.nodeKind : Def → NodeKind
  | .struct .. => .struct | .iface .. => .interface | .enum .. => .enum | .custom .. => .custom | .alias .. => .alias

/-- `EntityOf f key kind ident`: the file declares an entity with this parser-scoped identifier, kind and own identifier -/
inductive EntityOf (f : SFile) : String → NodeKind → String → Prop
  | defn (d : Def) : d ∈ f.defs → EntityOf f (scopedId d.name f.modPath) d.nodeKind d.name
  | field (doc attrs compact name fields) (fld : Field) :
      Def.struct doc attrs compact name fields ∈ f.defs → fld ∈ fields →
      EntityOf f (scopedId fld.name (scopedId name f.modPath)) .field fld.name
  | operation (doc attrs name bases ops) (o : Op) :
      Def.iface doc attrs name bases ops ∈ f.defs → o ∈ ops →
      EntityOf f (scopedId o.name (scopedId name f.modPath)) .operation o.name
  | enumerator (doc attrs compact unchecked name underlying es) (e : Enumerator) :
      Def.enum doc attrs compact unchecked name underlying es ∈ f.defs → e ∈ es →
      EntityOf f (scopedId e.name (scopedId name f.modPath)) .enumerator e.name
  | enumeratorField (doc attrs compact unchecked name underlying es) (e : Enumerator) (fs : List Field) (fld : Field) :
      Def.enum doc attrs compact unchecked name underlying es ∈ f.defs → e ∈ es → e.fields = some fs → fld ∈ fs →
      EntityOf f (scopedId fld.name (scopedId e.name (scopedId name f.modPath))) .field fld.name

def StoredAs (n : NodeInfo) (key : String) (kind : NodeKind) (ident : String) (file : Nat) : Prop :=
  n.key = key ∧ n.kind = kind ∧ n.ident = ident ∧ n.file = file

theorem splitAux_nil (acc : List Char) : splitAux acc [] = [acc] := by simp [splitAux]

theorem splitAux_sep (acc rest : List Char) : splitAux acc (':' :: ':' :: rest) = acc :: splitAux [] rest := by
  simp [splitAux]

theorem splitAux_cons_ne (acc : List Char) (c : Char) (rest : List Char) (h : c ≠ ':') :
    splitAux acc (c :: rest) = splitAux (acc ++ [c]) rest := by
  rw [splitAux]
  intro _ hc _
  exact h hc

theorem splitAux_run (s : List Char) (hs : ':' ∉ s) (acc tail : List Char) :
    splitAux acc (s ++ tail) = splitAux (acc ++ s) tail := by
  induction s generalizing acc with
  | nil => simp
  | cons c s ih =>
    have hc : c ≠ ':' := by intro h; apply hs; simp [h]
    have hs' : ':' ∉ s := by intro h; apply hs; simp [h]
    rw [List.cons_append, splitAux_cons_ne _ _ _ hc, ih hs']
    simp

theorem joinSegs_cons2 (a b : String) (r : List String) : joinSegs (a :: b :: r) = a ++ "::" ++ joinSegs (b :: r) := rfl

theorem splitAux_join (l : List String) (hne : l ≠ []) (hl : ∀ s ∈ l, ':' ∉ s.toList) :
    splitAux [] (joinSegs l).toList = l.map String.toList := by
  fun_induction joinSegs l with
  | case1 => exact absurd rfl hne
  | case2 a => simpa [splitAux_nil] using splitAux_run a.toList (hl a (by simp)) [] []
  | case3 a b r ih =>
    rw [String.toList_append, String.toList_append, toList_dcolon, List.append_assoc,
      splitAux_run a.toList (hl a (by simp))]
    simp only [List.nil_append, List.cons_append, splitAux_sep, List.map_cons]
    rw [ih (by simp) (fun s hs => hl s (by simp [hs]))]
    simp

theorem splitSegs_join (l : List String) (hne : l ≠ []) (hl : ∀ s ∈ l, ':' ∉ s.toList) :
    splitSegs (joinSegs l) = l := by
  unfold splitSegs
  rw [splitAux_join l hne hl, List.map_map]
  have : (String.ofList ∘ String.toList) = id := by funext s; simp
  rw [this]; simp

theorem splitSegs_empty : splitSegs "" = [""] := by decide

theorem joinSegs_inj (a b : List String) (ha : PathOK a) (hb : PathOK b) (h : joinSegs a = joinSegs b) : a = b := by
  have h1 := splitSegs_join a ha.1 (fun s hs => (ha.2 s hs).2)
  have h2 := splitSegs_join b hb.1 (fun s hs => (hb.2 s hs).2)
  rw [← h1, ← h2, h]

theorem stripGlobal_global (s : String) : stripGlobal ("::" ++ s) = some s := by
  unfold stripGlobal
  rw [String.toList_append, toList_dcolon]
  simp

theorem joinSegs_head (a : String) (r : List String) (ha : SegOK a) :
    ∃ c tl, c ≠ ':' ∧ (joinSegs (a :: r)).toList = c :: tl := by
  cases hc : a.toList with
  | nil => exact absurd (String.toList_eq_nil_iff.mp hc) ha.1
  | cons c cs =>
    have hne : c ≠ ':' := fun h => ha.2 (by rw [hc, h]; simp)
    cases r with
    | nil => exact ⟨c, cs, hne, hc⟩
    | cons b r => exact ⟨c, _, hne, by rw [joinSegs_cons2, String.toList_append, String.toList_append, hc]; rfl⟩

theorem stripGlobal_path (l : List String) (h : PathOK l) : stripGlobal (joinSegs l) = none := by
  obtain ⟨hne, hall⟩ := h
  cases l with
  | nil => exact absurd rfl hne
  | cons a r =>
    obtain ⟨c, tl, hc, htl⟩ := joinSegs_head a r (hall a (by simp))
    unfold stripGlobal
    rw [htl]
    split
    · rename_i heq; exact absurd (List.cons.inj heq).1 hc
    · rfl

theorem joinSegs_append (p id : List String) (hp : p ≠ []) (hid : id ≠ []) :
    joinSegs p ++ "::" ++ joinSegs id = joinSegs (p ++ id) := by
  fun_induction joinSegs p with
  | case1 => exact absurd rfl hp
  | case2 a =>
    cases id with
    | nil => exact absurd rfl hid
    | cons b r => rfl
  | case3 a b r ih =>
    rw [List.cons_append, List.cons_append, joinSegs_cons2, ← List.cons_append, ← ih (by simp)]
    simp only [String.append_assoc]

theorem scopedId_join (m : List String) (n : String) (hm : ∀ s ∈ m, SegOK s) :
    scopedId n (joinSegs m) = joinSegs (m ++ [n]) := by
  unfold scopedId
  cases m with
  | nil => simp [joinSegs]
  | cons a r =>
    obtain ⟨c, tl, _, htl⟩ := joinSegs_head a r (hm a (by simp))
    have hne : ¬ (joinSegs (a :: r)).isEmpty = true := fun h => by
      rw [String.isEmpty_iff.mp h] at htl; cases htl
    simp only [hne]
    have := joinSegs_append (a :: r) [n] (by simp) (by simp)
    simpa [joinSegs] using this

/-- `Table.find` searches from the end (the last writer wins), like `Validate.findDef` and `scopeAllowsOf` -/
theorem Table.find_eq (t : Table) (k : String) : t.find k = (t.reverse.find? (·.1 == k)).map (·.2) := by
  induction t with
  | nil => rfl
  | cons e t ih =>
    rw [Table.find, ih, List.reverse_cons, List.find?_append]
    cases t.reverse.find? (·.1 == k) with
    | some x => rfl
    | none => by_cases h : (e.1 == k) = true <;> simp [h]

theorem Table.find_mem {t : Table} {k : String} {n : NodeInfo} (h : t.find k = some n) : (k, n) ∈ t := by
  rw [Table.find_eq] at h
  obtain ⟨⟨k', _⟩, he, rfl⟩ := Option.map_eq_some_iff.mp h
  cases (eq_of_beq (List.find?_some (p := fun x : String × NodeInfo => x.1 == k) he) : k' = k)
  exact List.mem_reverse.mp (List.mem_of_find?_eq_some he)

theorem Table.find_append (a b : Table) (k : String) : Table.find (a ++ b) k = (b.find k).or (a.find k) := by
  simp only [Table.find_eq, List.reverse_append, List.find?_append, Option.map_or]

theorem Table.find_of_nodup (t : Table) (hnd : (t.map (·.1)).Nodup) (k : String) (n : NodeInfo) (h : (k, n) ∈ t) :
    t.find k = some n := by
  rw [Table.find_eq, find?_of_unique (x := (k, n)) (List.mem_reverse.mpr h) (beq_self_eq_true k)
    fun y hy hk => eq_of_nodup_map (·.1) hnd (List.mem_reverse.mp hy) h (eq_of_beq hk)]
  rfl

theorem SegTable.find_toTable (st : SegTable) (hst : ∀ e ∈ st, PathOK e.1) (c : List String) (hc : PathOK c) :
    st.toTable.find (joinSegs c) = st.find c := by
  induction st with
  | nil => simp [SegTable.toTable, Table.find, SegTable.find]
  | cons e rest ih =>
    have ih' := ih (fun x hx => hst x (by simp [hx]))
    simp only [SegTable.toTable, List.map_cons, Table.find, SegTable.find] at ih' ⊢
    rw [ih']
    cases SegTable.find rest c with
    | some m => rfl
    | none =>
      simp only
      by_cases hk : e.1 = c
      · simp [hk]
      · have : joinSegs e.1 ≠ joinSegs c := fun h => hk (joinSegs_inj _ _ (hst e (by simp)) hc h)
        simp [hk, this]

theorem SegTable.find_global_none (st : SegTable) (hst : ∀ e ∈ st, PathOK e.1) (x : String) :
    st.toTable.find ("::" ++ x) = none := by
  cases h : st.toTable.find ("::" ++ x) with
  | none => rfl
  | some n =>
    obtain ⟨e, he, heq⟩ := List.mem_map.mp (Table.find_mem h)
    have h1 := stripGlobal_path e.1 (hst e he)
    rw [(Prod.mk.inj heq).1, stripGlobal_global] at h1
    cases h1

theorem option_match_id {α} (x : Option α) : (match x with | some y => some y | none => none) = x := by
  cases x <;> rfl

theorem scopeLoop_spec (st : SegTable) (hst : ∀ e ∈ st, PathOK e.1) (id : List String) (hid : PathOK id)
    (m : List String) (hm : ∀ s ∈ m, SegOK s) :
    (match scopeLoop st.toTable (joinSegs id) m with
     | some n => some n
     | none => st.toTable.find (joinSegs id))
    = firstSome st.find ((scopesOutward m).map (· ++ id)) := by
  fun_induction scopesOutward m with
  | case1 =>
    simp only [scopeLoop, List.map_cons, List.map_nil, List.nil_append, firstSome]
    rw [SegTable.find_toTable st hst id hid]
    cases SegTable.find st id <;> rfl
  | case2 a m ih =>
    have hok : PathOK ((a :: m) ++ id) := ⟨by simp, fun s hs => by
      rcases List.mem_append.mp hs with h | h
      · exact hm s h
      · exact hid.2 s h⟩
    have ih' := ih (fun s hs => hm s (List.dropLast_subset _ hs))
    rw [scopeLoop]
    simp only [List.map_cons, firstSome]
    rw [joinSegs_append (a :: m) id (by simp) hid.1, SegTable.find_toTable st hst _ hok]
    cases hf : SegTable.find st (a :: m ++ id) with
    | some n => simp
    | none => simpa using ih'

theorem scopeLoop_mem (t : Table) (id : String) (m : List String) (n : NodeInfo)
    (h : scopeLoop t id m = some n) : ∃ k, (k, n) ∈ t := by
  fun_induction scopeLoop t id m with
  | case1 => cases h
  | case2 a m n' hf => cases h; exact ⟨_, Table.find_mem hf⟩
  | case3 a m hf ih => exact ih h

theorem findNodeWithScope_mem (t : Table) (id scope : String) (n : NodeInfo) :
    findNodeWithScope t id scope = some n → ∃ k, (k, n) ∈ t := by
  fun_cases findNodeWithScope t id scope with
  | case2 _ m hs => intro h; cases h; exact scopeLoop_mem t id _ _ hs
  | _ => exact fun h => ⟨_, Table.find_mem h⟩

theorem mem_aliasKeys (t : Table) (k : String) (n : NodeInfo) (h : (k, n) ∈ t) (ha : n.isAlias = true) :
    n.key ∈ aliasKeys t := by
  unfold aliasKeys
  exact List.mem_map.mpr ⟨(k, n), List.mem_filter.mpr ⟨h, ha⟩, rfl⟩

/-- invariant of the alias walk: the chain has no repeats and consists of identifiers of aliases of the table,
    so it is never longer than the number of aliases and the recursion bound is not reached -/
theorem walkAlias_no_fuel (t : Table) (fuel : Nat) (chain : List String) (attrs : List Attr) (cur : NodeInfo)
    (hnd : chain.Nodup) (hsub : ∀ k ∈ chain, k ∈ aliasKeys t) (hcur : ∃ k, (k, cur) ∈ t)
    (hlen : numAliases t + 1 ≤ chain.length + fuel) :
    walkAlias t fuel chain attrs cur ≠ .error .fuel := by
  fun_induction walkAlias t fuel chain attrs cur with
  | case1 =>
    -- no fuel left: pigeonhole, the chain would hold more distinct alias keys than the table has
    have := hnd.length_le_of_subset hsub
    unfold numAliases at hlen
    omega
  | case5 fuel chain _ cur hc u hu _ id _ n hf _ ih =>
    -- the recursive call: the chain grows by the key of `cur`, an alias of the table that was not in it
    obtain ⟨kc, hkc⟩ := hcur
    have hc : cur.key ∉ chain := by simpa using hc
    refine ih (List.nodup_append.mpr ⟨hnd, List.pairwise_singleton _ _, ?_⟩)
      (List.forall_mem_append.mpr ⟨hsub, List.forall_mem_singleton.mpr (mem_aliasKeys t kc cur hkc (by simp [NodeInfo.isAlias, hu]))⟩)
      (findNodeWithScope_mem t id _ n hf) ?_
    · intro a ha b hb hab
      rw [List.mem_singleton.mp hb] at hab
      exact hc (hab ▸ ha)
    · rw [List.length_append, List.length_singleton]; omega
  | _ => nofun

theorem AliasPath.nonAlias {t : Table} {cur : NodeInfo} {links : List TRef} {tgt : Target}
    (h : AliasPath t cur links tgt) : tgt.NonAlias := by
  induction h with
  | endNode _ _ _ hn => exact hn
  | endExpr _ hne => exact hne
  | step _ _ _ _ _ ih => exact ih

theorem AliasPath.node_mem {t : Table} {cur : NodeInfo} {links : List TRef} {n : NodeInfo}
    (h : AliasPath t cur links (.node n)) : ∃ k, (k, n) ∈ t := by
  generalize htgt : Target.node n = tgt at h
  induction h with
  | endNode _ _ hf _ => cases htgt; exact findNodeWithScope_mem t _ _ _ hf
  | endExpr _ _ => cases htgt
  | step _ _ _ _ _ ih => exact ih htgt

theorem walkAlias_spec (t : Table) (fuel : Nat) (chain : List String) (attrs : List Attr) (cur : NodeInfo)
    (tgt : Target) (out : List Attr)
    (h : walkAlias t fuel chain attrs cur = .ok (tgt, out)) (hcur : cur.isAlias = true) :
    ∃ links, AliasPath t cur links tgt ∧ out = attrs ++ links.flatMap TRef.attrs ∧ links.length ≤ fuel := by
  fun_induction walkAlias t fuel chain attrs cur with
  | case3 _ _ _ _ _ hu => simp [NodeInfo.isAlias, hu] at hcur
  | case5 _ _ _ _ _ u hu _ _ hty _ hf hn ih =>
    obtain ⟨links, hp, hout, hlen⟩ := ih h hn
    exact ⟨u :: links, .step hu hty hf hn hp, by rw [hout, List.flatMap_cons, List.append_assoc], Nat.succ_le_succ hlen⟩
  | case6 _ _ _ _ _ u hu _ _ hty _ hf hn =>
    obtain ⟨rfl, rfl⟩ := Prod.mk.inj (Except.ok.inj h)
    exact ⟨[u], .endNode hu hty hf (eq_false_of_ne_true hn), by rw [List.flatMap_singleton], Nat.succ_le_succ (Nat.zero_le _)⟩
  | case7 _ _ _ _ _ u hu _ hty =>
    obtain ⟨rfl, rfl⟩ := Prod.mk.inj (Except.ok.inj h)
    exact ⟨[u], .endExpr hu hty, by rw [List.flatMap_singleton], Nat.succ_le_succ (Nat.zero_le _)⟩
  | _ => cases h

theorem walkAlias_path_len (t : Table) : ∀ (fuel : Nat) (chain : List String) (attrs : List Attr) (cur : NodeInfo)
    (tgt : Target) (out : List Attr),
    walkAlias t fuel chain attrs cur = .ok (tgt, out) → cur.isAlias = true →
    ∃ links, AliasPath t cur links tgt ∧ links.length ≤ fuel :=
  fun fuel chain attrs cur tgt out h hcur =>
    let ⟨links, hp, _, hl⟩ := walkAlias_spec t fuel chain attrs cur tgt out h hcur
    ⟨links, hp, hl⟩

/-- what a name designates once aliases are looked through, before the kind is checked. Not a function of slicec:
    `resolveNamed` (which mirrors `resolve_definition`) is split into this and `checkKind` for the proofs only -/
def designate (t : Table) (id scope : String) : Except ResErr (Target × List Attr) :=
  match findNodeWithScope t id scope with
  | none => .error (.doesNotExist id)
  | some n => if n.isAlias then walkAlias t (numAliases t + 1) [] [] n else .ok (.node n, [])

/-- the node kinds a type position accepts, with the variants of `dyn Type` as extracted (`Gen.typeNodeVariants`) -/
theorem acceptable_type_eq (k : NodeKind) :
    acceptable .type k = (k == .struct || k == .enum || k == .custom || k == .alias || k == .primitive) := by
  cases k <;> decide +kernel

def checkKind (w : Want) : Target × List Attr → Except ResErr (Target × List Attr)
  | (.node m, a) => if acceptable w m.kind then .ok (.node m, a) else .error (.typeMismatch (wantName w) m.kind.str)
  | (.expr e s, a) => if acceptableExpr w e then .ok (.expr e s, a) else .error (.typeMismatch (wantName w) "type")

theorem resolveNamed_eq (t : Table) (w : Want) (id scope : String) :
    resolveNamed t w id scope = (designate t id scope).bind (checkKind w) := by
  unfold resolveNamed designate
  cases findNodeWithScope t id scope with
  | none => rfl
  | some n =>
    dsimp only
    cases n.isAlias with
    | false => rfl
    | true =>
      simp only [if_true]
      cases walkAlias t (numAliases t + 1) [] [] n with
      | error e => rfl
      | ok v =>
        obtain ⟨tgt, a⟩ := v
        cases tgt <;> rfl

theorem checkKind_ok {w : Want} {x y : Target × List Attr} :
    checkKind w x = .ok y →
    y = x ∧ (match x.1 with | .node m => acceptable w m.kind = true | .expr e _ => acceptableExpr w e = true) := by
  fun_cases checkKind w x with
  | case1 _ _ h | case3 _ _ _ h => exact fun e => ⟨(Except.ok.inj e).symm, h⟩
  | case2 | case4 => nofun

theorem checkKind_ne_fuel (w : Want) (x : Target × List Attr) : checkKind w x ≠ .error .fuel := by
  fun_cases checkKind w x <;> nofun

theorem resolveNamed_ok {t : Table} {w : Want} {id scope : String} {x : Target × List Attr}
    (h : resolveNamed t w id scope = .ok x) :
    designate t id scope = .ok x ∧
      (match x.1 with | .node m => acceptable w m.kind = true | .expr e _ => acceptableExpr w e = true) := by
  rw [resolveNamed_eq] at h
  cases hd : designate t id scope with
  | error e => rw [hd] at h; cases h
  | ok y =>
    rw [hd] at h
    obtain ⟨rfl, hk⟩ := checkKind_ok h
    exact ⟨rfl, hk⟩

theorem designate_ok_path {t : Table} {id scope : String} {tgt : Target} {extra : List Attr} :
    designate t id scope = .ok (tgt, extra) →
    ∃ n0, findNodeWithScope t id scope = some n0 ∧
      ((n0.isAlias = false ∧ tgt = .node n0 ∧ extra = []) ∨
       (n0.isAlias = true ∧ ∃ links, AliasPath t n0 links tgt ∧ extra = links.flatMap TRef.attrs ∧
         links.length ≤ numAliases t + 1)) := by
  fun_cases designate t id scope with
  | case1 => nofun
  | case2 n0 hf hn =>
    intro hw
    obtain ⟨links, hp, hout, hlen⟩ := walkAlias_spec t _ _ _ _ _ _ hw hn
    exact ⟨n0, hf, .inr ⟨hn, links, hp, by rw [hout, List.nil_append], hlen⟩⟩
  | case3 n0 hf hn =>
    intro h
    cases h
    exact ⟨n0, hf, .inl ⟨eq_false_of_ne_true hn, rfl, rfl⟩⟩

theorem resolveNamed_ok_path {t : Table} {w : Want} {id scope : String} {tgt : Target} {extra : List Attr} :
    resolveNamed t w id scope = .ok (tgt, extra) →
    ∃ n0, findNodeWithScope t id scope = some n0 ∧
      (match tgt with | .node m => acceptable w m.kind = true | .expr e _ => acceptableExpr w e = true) ∧
      ((n0.isAlias = false ∧ tgt = .node n0 ∧ extra = []) ∨
       (n0.isAlias = true ∧ ∃ links, AliasPath t n0 links tgt ∧ extra = links.flatMap TRef.attrs ∧
         links.length ≤ numAliases t + 1)) := by
  intro h
  obtain ⟨hd, hk⟩ := resolveNamed_ok h
  obtain ⟨n0, hf, hp⟩ := designate_ok_path hd
  exact ⟨n0, hf, hk, hp⟩

theorem resolveNamed_nonAlias {t : Table} {w : Want} {id scope : String} {tgt : Target} {extra : List Attr}
    (h : resolveNamed t w id scope = .ok (tgt, extra)) : tgt.NonAlias := by
  obtain ⟨n0, _, _, ⟨hn, rfl, _⟩ | ⟨_, _, hp, _⟩⟩ := resolveNamed_ok_path h
  · exact hn
  · exact hp.nonAlias

theorem resolveNamed_node (t : Table) (w : Want) (id scope : String) (n : NodeInfo) (extra : List Attr)
    (h : resolveNamed t w id scope = .ok (.node n, extra)) :
    (∃ k, (k, n) ∈ t) ∧ n.isAlias = false ∧ acceptable w n.kind = true := by
  obtain ⟨n0, hf, hacc, ⟨_, hn, _⟩ | ⟨_, _, hp, _⟩⟩ := resolveNamed_ok_path h
  · cases hn
    exact ⟨findNodeWithScope_mem t _ _ _ hf, resolveNamed_nonAlias h, hacc⟩
  · exact ⟨hp.node_mem, resolveNamed_nonAlias h, hacc⟩

theorem designate_ne_fuel (t : Table) (id scope : String) : designate t id scope ≠ .error .fuel := by
  fun_cases designate t id scope with
  | case2 n0 hf =>
    exact walkAlias_no_fuel t (numAliases t + 1) [] [] n0 List.nodup_nil (fun _ h => nomatch h)
      (findNodeWithScope_mem t id scope n0 hf) (Nat.le_add_left _ _)
  | _ => nofun

theorem resolveNamed_no_fuel (t : Table) (w : Want) (id scope : String) : resolveNamed t w id scope ≠ .error .fuel := by
  rw [resolveNamed_eq]
  cases hd : designate t id scope with
  | ok x => exact checkKind_ne_fuel w x
  | error e =>
    intro h
    cases h
    exact designate_ne_fuel t id scope hd

theorem modPath_of_module (f : SFile) (m : ModDecl) (h : f.module = some m) : f.modPath = m.path := by
  unfold SFile.modPath; rw [h]

theorem mem_buildTable (p : Program) (f : SFile) (i : Nat) (d : Def) (e : String × NodeInfo)
    (hf : (f, i) ∈ p.zipIdx) (hd : d ∈ f.defs) (he : e ∈ defEntries i f.modPath d) : e ∈ buildTable p := by
  unfold buildTable
  apply List.mem_append_right
  apply List.mem_flatMap.mpr
  refine ⟨(f, i), hf, ?_⟩
  simp only [fileEntries]
  apply List.mem_append_left
  exact List.mem_flatMap.mpr ⟨d, hd, he⟩

theorem defEntries_self (i : Nat) (ms : String) (d : Def) :
    ∃ n, (scopedId d.name ms, n) ∈ defEntries i ms d ∧ StoredAs n (scopedId d.name ms) d.nodeKind d.name i := by
  cases d with
  | custom doc attrs name => exact ⟨_, List.mem_singleton_self _, rfl, rfl, rfl, rfl⟩
  | «alias» doc attrs name ty => exact ⟨_, List.mem_singleton_self _, rfl, rfl, rfl, rfl⟩
  | _ => exact ⟨_, List.mem_append_right _ (List.mem_singleton_self _), rfl, rfl, rfl, rfl⟩

theorem fieldEntries_self (i : Nat) (ms key : String) {fields : List Field} {fld : Field} (h : fld ∈ fields) :
    ∃ n, (scopedId fld.name key, n) ∈ fieldEntries i ms key fields ∧ StoredAs n (scopedId fld.name key) .field fld.name i :=
  ⟨_, List.mem_map.mpr ⟨fld, h, rfl⟩, rfl, rfl, rfl, rfl⟩

theorem opEntries_self (i : Nat) (ms key : String) (o : Op) :
    ∃ n, (scopedId o.name key, n) ∈ opEntries i ms key o ∧ StoredAs n (scopedId o.name key) .operation o.name i :=
  ⟨_, List.mem_append_right _ (List.mem_singleton_self _), rfl, rfl, rfl, rfl⟩

theorem enumeratorEntries_self (i : Nat) (ms key : String) (e : Enumerator) :
    ∃ n, (scopedId e.name key, n) ∈ enumeratorEntries i ms key e ∧ StoredAs n (scopedId e.name key) .enumerator e.name i :=
  ⟨_, List.mem_append_right _ (List.mem_singleton_self _), rfl, rfl, rfl, rfl⟩

theorem entity_mem (p : Program) (f : SFile) (i : Nat) (hf : (f, i) ∈ p.zipIdx) (key : String) (kind : NodeKind)
    (ident : String) (h : EntityOf f key kind ident) :
    ∃ n, (key, n) ∈ buildTable p ∧ StoredAs n key kind ident i := by
  cases h with
  | defn d hd =>
    obtain ⟨n, hn, hs⟩ := defEntries_self i f.modPath d
    exact ⟨n, mem_buildTable p f i d _ hf hd hn, hs⟩
  | field doc attrs compact name fields fld hd hfld =>
    obtain ⟨n, hn, hs⟩ := fieldEntries_self i f.modPath (scopedId name f.modPath) hfld
    exact ⟨n, mem_buildTable p f i _ _ hf hd (List.mem_append_left _ hn), hs⟩
  | operation doc attrs name bases ops o hd ho =>
    obtain ⟨n, hn, hs⟩ := opEntries_self i f.modPath (scopedId name f.modPath) o
    exact ⟨n, mem_buildTable p f i _ _ hf hd (List.mem_append_left _ (List.mem_flatMap.mpr ⟨o, ho, hn⟩)), hs⟩
  | enumerator doc attrs compact unchecked name underlying es e hd he =>
    obtain ⟨n, hn, hs⟩ := enumeratorEntries_self i f.modPath (scopedId name f.modPath) e
    exact ⟨n, mem_buildTable p f i _ _ hf hd (List.mem_append_left _ (List.mem_flatMap.mpr ⟨e, he, hn⟩)), hs⟩
  | enumeratorField doc attrs compact unchecked name underlying es e fs fld hd he hfs hfld =>
    obtain ⟨n, hn, hs⟩ := fieldEntries_self i f.modPath (scopedId e.name (scopedId name f.modPath)) hfld
    refine ⟨n, mem_buildTable p f i _ _ hf hd (List.mem_append_left _ (List.mem_flatMap.mpr ⟨e, he, ?_⟩)), hs⟩
    rw [enumeratorEntries, hfs]
    exact List.mem_append_left _ hn

theorem errCodes_ne_nil (e : ResErr) : errCodes e ≠ [] := by
  cases e with
  | aliasCycle b id => cases b <;> simp [errCodes]
  | _ => simp [errCodes]

theorem boundOfTarget_isBound (tgt : Target) : (boundOfTarget tgt).isBound = true := by
  cases tgt with
  | node n => simp only [boundOfTarget]; cases n.prim <;> rfl
  | expr e s => cases e <;> rfl

theorem bindRef_bound_iff (t : Table) (w : Want) (scope : String) (r : TRef) :
    (bindRef t w scope r).bound.isBound = true ↔ (bindRef t w scope r).codes = [] := by
  fun_cases bindRef t w scope r with
  | case2 => simp [boundOfTarget_isBound]
  | case3 => simp [Bound.isBound, errCodes_ne_nil]
  | _ => simp [Bound.isBound]

theorem bindBasesGo_spec (t : Table) (scope : String) (bs : List TRef) :
    match bindBasesGo t scope bs with
    | (none, c) => c ≠ []
    | (some rs, c) => c = [] ∧ ∀ r ∈ rs, r.bound.isBound = true := by
  fun_induction bindBasesGo t scope bs with
  | case1 => exact ⟨rfl, fun _ h => nomatch h⟩
  | case2 b bs r hb rs c hgo ih =>
    rw [hgo] at ih
    exact ⟨ih.1, List.forall_mem_cons.mpr ⟨hb, ih.2⟩⟩
  | case3 b bs r hb c hgo ih => rwa [hgo] at ih
  | case4 b bs r hb => exact fun hc => hb ((bindRef_bound_iff t .interface scope b).mpr hc)

theorem site_bound_of_no_codes (t : Table) (s : Site) (h : siteCodes t s = []) :
    ∀ l ∈ siteLines t s, l.res.bound.isBound = true := by
  cases s with
  | ref path w scope r =>
    intro l hl
    simp only [siteLines, List.mem_singleton] at hl
    subst hl
    exact (bindRef_bound_iff t w scope r).mpr h
  | bases path scope bs =>
    intro l hl
    simp only [siteCodes, bindBases] at h
    simp only [siteLines, bindBases] at hl
    have spec := bindBasesGo_spec t scope bs
    cases hgo : bindBasesGo t scope bs with
    | mk o c =>
      rw [hgo] at h hl spec
      cases o with
      | none => simp at h; exact absurd h spec
      | some rs =>
        simp only at hl
        obtain ⟨x, hx, rfl⟩ := List.mem_map.mp hl
        have h1 := List.fst_mem_of_mem_zipIdx hx
        have h2 := (List.of_mem_zip (a := x.1.1) (b := x.1.2) h1).1
        exact spec.2 _ h2

end Slicec
