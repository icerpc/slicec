/-
  C08 with the complete pipeline: acceptance by `validateFull` (Model/Pipeline.lean) gives the two hypotheses of
  `compiled_programs_resolve_gate` that `validate` does not give — every base of an interface is written as a name (the
  parser's E017) and the alias gate is silent (E019 of `detect_cycles`). What stays explicit is what no phase of the compiler
  looks at: a module declaration with an empty path (only the abstract syntax can express it), and the descent constant of
  the converter MODEL (`NestingSmall`).
-/
import SlicecVerif.Lemmas.RequestBridge
import SlicecVerif.Lemmas.Pipeline

namespace Slicec

/-- every module declaration names a module. The grammar demands an identifier after `module`, so every parsed file satisfies
    this; the abstract syntax can express `module ""`, which no phase of the compiler (hence of the model) would notice. -/
def ModulesNamed (P : Program) : Bool :=
  P.all fun f => match f.module with | some m => !m.path.isEmpty | none => true

theorem parserShaped_of_shape (P : Program) (hm : ModulesNamed P = true) (hs : Validate.ShapeOK P) : ParserShaped P = true := by
  unfold ParserShaped
  rw [List.all_eq_true]
  intro f hf
  unfold fileShaped
  rw [Bool.and_eq_true]
  refine ⟨(List.all_eq_true.mp hm) f hf, ?_⟩
  rw [List.all_eq_true]
  intro d hd
  have hsd := hs f hf d hd
  cases d with
  | iface doc attrs name bases ops =>
    simp only [List.all_eq_true]
    intro b hb
    obtain ⟨id, hid⟩ := hsd b hb
    rw [hid]
  | _ => rfl

theorem modulesNamed_of_parserShaped (P : Program) (h : ParserShaped P = true) : ModulesNamed P = true := by
  unfold ModulesNamed
  rw [List.all_eq_true]
  exact fun f hf => (Bool.and_eq_true_iff.mp (List.all_eq_true.mp h f hf)).1

end Slicec

namespace Slicec.C08Demo
open Slicec

theorem demo_accepted_full : validateFull (programOf files) = [] :=
  (Validate.validateFull_nil_iff _).mpr ⟨demo_accepted, by decide, demo_gate, by decide +kernel⟩

theorem demo_modules_named : ModulesNamed (programOf files) = true := by decide

/-- the two programs that show `validate` lacks a phase are rejected by the complete pipeline, with the compiler's code: they are
    C04's witnesses `aliasLoop` and `primitiveBase` -/
theorem aliasLoop_rejected_full :
    validateFull (programOf aliasLoop) = [Validate.code "SelfReferentialTypeAliasNeedsConcreteType"] := C04.aliasLoop_rejected.2.2

theorem primBase_rejected_full : validateFull (programOf primBase) = [Validate.code "TypeMismatch"] := C04.primitiveBase_rejected.2.2

/-- what stays explicit: a module declaration without a name passes every phase, and 32 nested sequences are accepted -/
theorem noName_accepted_full :
    validateFull (programOf noName) = [] ∧ ModulesNamed (programOf noName) = false ∧ AllResolve noName = false := by
  refine ⟨by decide +kernel, by decide, by decide +kernel⟩

theorem deep_accepted_full :
    validateFull (programOf deep) = [] ∧ ModulesNamed (programOf deep) = true ∧ NestingSmall (programOf deep) = false ∧
    AllResolve deep = false := by
  refine ⟨(Validate.validateFull_nil_iff _).mpr ⟨deep_accepted_not_within.1, by decide, by decide +kernel, by decide +kernel⟩,
    by decide, by decide +kernel, deep_accepted_not_within.2.2.2.1⟩

end Slicec.C08Demo
