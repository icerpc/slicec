/-
  Lemmas about `Model/PreprocErrors.lean`: the recovery mirror on a located token stream, one line at a time (`mir_block`,
  `mir_dir`); every reported span is the span of a token of the located lexer model, the zero-width end of one, the
  zero-width initial location, or the span of its lexical error (`reported_spans`).
-/
import SlicecVerif.Lemmas.Preproc

namespace Slicec.Pp

theorem takeLine_some (r ts : List LTok) (d : LTok) (rest : List LTok) (h : takeLine r = (ts, some d, rest)) :
    r = ts ++ d :: rest ∧ d.tok = .dend ∧ ∀ t ∈ ts, t.tok ≠ .dend := by
  fun_induction takeLine r generalizing ts with
  | case1 => cases h
  | case2 t r ht => cases h; exact ⟨rfl, ht, fun _ h => nomatch h⟩
  | case3 t r ht x ih =>
    simp only [Prod.mk.injEq] at h
    obtain ⟨rfl, h2, h3⟩ := h
    obtain ⟨e1, e2, e3⟩ := ih x.1 (by rw [← h2, ← h3])
    exact ⟨by rw [List.cons_append, ← e1], e2, List.forall_mem_cons.mpr ⟨ht, e3⟩⟩

theorem takeLine_append : ∀ (ts : List LTok) (d : LTok) (rest : List LTok), (∀ t ∈ ts, t.tok ≠ .dend) → d.tok = .dend →
    takeLine (ts ++ d :: rest) = (ts, some d, rest) := by
  intro ts
  induction ts with
  | nil => intro d rest _ hd; simp [takeLine, hd]
  | cons t ts ih =>
    intro d rest h hd
    obtain ⟨ht, hts⟩ := List.forall_mem_cons.mp h
    rw [List.cons_append, takeLine, if_neg ht, ih d rest hts hd]

theorem takeLine_none : ∀ (ts : List LTok), (∀ t ∈ ts, t.tok ≠ .dend) → takeLine ts = (ts, none, []) := by
  intro ts
  induction ts with
  | nil => intro _; rfl
  | cons t ts ih =>
    intro h
    obtain ⟨ht, hts⟩ := List.forall_mem_cons.mp h
    rw [takeLine, if_neg ht, ih hts]

theorem tokLines_nil (n : Nat) : tokLines n [] = ([], []) := by cases n <;> rfl

theorem tokLines_block (n : Nat) (t : LTok) (r : List LTok) (b : Block) (h : t.tok = .block b) :
    tokLines (n + 1) (t :: r) = (.block t :: (tokLines n r).1, (tokLines n r).2) := by
  rw [tokLines]
  simp only [h]

theorem tokLines_dir (n : Nat) (K : LTok) (ts : List LTok) (d : LTok) (rest : List LTok) (hK1 : K.tok.notBlock)
    (hK2 : K.tok ≠ .dend) (hts : ∀ t ∈ ts, t.tok ≠ .dend) (hd : d.tok = .dend) :
    tokLines (n + 1) (K :: (ts ++ d :: rest)) = (.dir K ts d :: (tokLines n rest).1, (tokLines n rest).2) := by
  rw [tokLines]
  split
  · rename_i b hb; rw [hb] at hK1; exact False.elim hK1
  · rename_i hb; exact absurd hb hK2
  · rw [takeLine_append ts d rest hts hd]

theorem tokLines_cut (ts : List LTok) (hts : ∀ t ∈ ts, t.tok ≠ .dend ∧ t.tok.notBlock) :
    tokLines (ts.length + 1) ts = ([], ts) := by
  cases ts with
  | nil => rfl
  | cons K ts =>
    rw [tokLines]
    split
    · rename_i b hb
      have := (hts K (by simp)).2
      rw [hb] at this
      exact False.elim this
    · rename_i hb; exact absurd hb (hts K (by simp)).1
    · rw [takeLine_none ts (fun x hx => (hts x (by simp [hx])).1)]

/-- the fuel of `tokLines` counts lines, so the number of tokens suffices -/
theorem tokLines_fuel : ∀ n m ts, ts.length < n → ts.length < m → tokLines n ts = tokLines m ts := by
  refine fuel_irrelevant List.length tokLines fun n m ts ih => ?_
  cases ts with
  | nil => rfl
  | cons t r =>
    rw [tokLines, tokLines, ih r (Nat.lt_succ_self _)]
    split
    · rfl
    · rfl
    · split
      · rename_i tl d rest h
        rw [ih rest (by rw [(takeLine_some r tl d rest h).1]; simp; omega)]
      · rfl

/-- the recovery mirror on a located stream, with the fuel `reportedFull` gives `tokLines` -/
def mir (S : List LTok × Option LexErr) (stk : List Bool) (pend : Option Span) (last : Loc) : List Span × Bool :=
  runLines (tokLines (S.1.length + 1) S.1).1 stk pend last (tokLines (S.1.length + 1) S.1).2 S.2

theorem commit_none (x : List Span × Bool) : commit none x = x := rfl

theorem mir_block (t : LTok) (S : List LTok × Option LexErr) (b : Block) (h : t.tok = .block b)
    (stk : List Bool) (pend : Option Span) (last : Loc) :
    mir (t :: S.1, S.2) stk pend last = commit pend (mir S stk none t.e) := by
  unfold mir
  rw [List.length_cons, tokLines_block _ t S.1 b h, runLines]

theorem mir_dir (K : LTok) (ts : List LTok) (d : LTok) (S : List LTok × Option LexErr)
    (hK1 : K.tok.notBlock) (hK2 : K.tok ≠ .dend) (hts : ∀ t ∈ ts, t.tok ≠ .dend) (hd : d.tok = .dend)
    (stk : List Bool) (pend : Option Span) (last : Loc) :
    mir (K :: (ts ++ d :: S.1), S.2) stk pend last =
      commit pend (match lineStep stk K ts with
        | some stk' => mir S stk' none d.e
        | none => mir S stk (some (badTokG stk.head? K ts d).span) d.e) := by
  unfold mir
  rw [List.length_cons, tokLines_dir _ K ts d S.1 hK1 hK2 hts hd,
    tokLines_fuel _ (S.1.length + 1) S.1 (by simp; omega) (Nat.lt_succ_self _), runLines]
  cases lineStep stk K ts <;> rfl

def TLine.all (Q : LTok → Prop) : TLine → Prop
  | .block t => Q t
  | .dir K ts d => Q K ∧ (∀ t ∈ ts, Q t) ∧ Q d

theorem tokLines_all (Q : LTok → Prop) (n : Nat) (ts : List LTok) (h : ∀ t ∈ ts, Q t) :
    (∀ l ∈ (tokLines n ts).1, l.all Q) ∧ (∀ t ∈ (tokLines n ts).2, Q t) := by
  fun_induction tokLines n ts with
  | case1 => exact ⟨(fun _ h => nomatch h), h⟩
  | case2 => exact ⟨(fun _ h => nomatch h), fun _ h => nomatch h⟩
  | case3 n t r b _ x ih =>
    obtain ⟨ht, hr⟩ := List.forall_mem_cons.mp h
    exact ⟨List.forall_mem_cons.mpr ⟨ht, (ih hr).1⟩, (ih hr).2⟩
  | case4 n t r _ x ih =>
    obtain ⟨ht, hr⟩ := List.forall_mem_cons.mp h
    exact ⟨List.forall_mem_cons.mpr ⟨⟨ht, (fun _ h => nomatch h), ht⟩, (ih hr).1⟩, (ih hr).2⟩
  | case5 n t r tl d rest htl _ _ x ih =>
    obtain ⟨ht, hr⟩ := List.forall_mem_cons.mp h
    rw [(takeLine_some r tl d rest htl).1] at hr
    have hr' := List.forall_mem_append.mp hr
    obtain ⟨hd, hrest⟩ := List.forall_mem_cons.mp hr'.2
    exact ⟨List.forall_mem_cons.mpr ⟨⟨ht, hr'.1, hd⟩, (ih hrest).1⟩, (ih hrest).2⟩
  | case6 => exact ⟨(fun _ h => nomatch h), h⟩

theorem badTokG_mem (top : Option Bool) (K : LTok) (ts : List LTok) (d : LTok) : badTokG top K ts d ∈ K :: ts ++ [d] := by
  unfold badTokG
  simp only
  split
  · assumption
  · simp

theorem commit_all {Q : Span → Prop} {pend : Option Span} {r : List Span × Bool} (hp : ∀ sp, pend = some sp → Q sp)
    (hr : ∀ sp ∈ r.1, Q sp) : ∀ sp ∈ (commit pend r).1, Q sp :=
  fun sp h => (List.mem_append.mp h).elim (fun h => hp sp (Option.mem_toList.mp h)) (hr sp)

theorem runLines_spans (P : Loc → Loc → Prop) (ls : List TLine) (stk : List Bool) (pend : Option Span) (last : Loc)
    (left : List LTok) (le : Option LexErr)
    (hls : ∀ l ∈ ls, l.all (fun t => P t.s t.e ∧ P t.e t.e)) (hp : ∀ sp, pend = some sp → P sp.1 sp.2) (hlast : P last last)
    (hleft : ∀ t ∈ left, P t.e t.e) (hle : ∀ e, le = some e → P e.s e.e) :
    ∀ sp ∈ (runLines ls stk pend last left le).1, P sp.1 sp.2 := by
  have one : ∀ (a b : Loc), P a b → ∀ sp ∈ [(a, b)], P sp.1 sp.2 := fun a b h sp hsp => by
    rw [List.mem_singleton.mp hsp]; exact h
  have none' : ∀ sp : Span, (none : Option Span) = some sp → P sp.1 sp.2 := fun _ h => nomatch h
  fun_induction runLines ls stk pend last left le with
  | case1 stk pend last left e =>
    intro sp hsp
    rcases List.mem_append.mp hsp with h | h
    · split at h
      · cases h
      · exact hp sp (Option.mem_toList.mp h)
    · exact one _ _ (hle e rfl) sp h
  | case2 stk pend last left hgl =>
    refine commit_all hp ?_
    split
    · exact fun _ h => nomatch h
    · exact one _ _ hlast
  | case3 stk pend last left t hgl => exact commit_all hp (one _ _ (hleft t (List.mem_of_getLast? hgl)))
  | case4 t ls stk pend _ left le ih =>
    obtain ⟨hl, hls'⟩ := List.forall_mem_cons.mp hls
    exact commit_all hp (ih hls' none' hl.2 hleft hle)
  | case5 K ts d ls stk pend _ left le ih1 ih2 =>
    obtain ⟨⟨hK, hts, hd⟩, hls'⟩ := List.forall_mem_cons.mp hls
    refine commit_all hp ?_
    split
    · exact ih1 _ hls' none' hd.2 hleft hle
    · refine ih2 hls' (fun sp' hsp' => ?_) hd.2 hleft hle
      cases hsp'
      -- the error token is a token of the line
      have hm := badTokG_mem stk.head? K ts d
      simp only [List.cons_append, List.mem_cons, List.mem_append, List.not_mem_nil, or_false] at hm
      rcases hm with hm | hm | hm
      · rw [hm]; exact hK.1
      · exact (hts _ hm).1
      · rw [hm]; exact hd.1

theorem reported_spans (P : Loc → Loc → Prop) (f : List Char) (h0 : P Loc.init Loc.init)
    (ht : ∀ t ∈ (lexPreLE f).1, P t.s t.e ∧ P t.e t.e) (he : ∀ e, (lexPreLE f).2 = some e → P e.s e.e) :
    ∀ sp ∈ reportedErrors f, P sp.1 sp.2 := by
  obtain ⟨h3, h4⟩ := tokLines_all (fun t => P t.s t.e ∧ P t.e t.e) ((lexPreLE f).1.length + 1) (lexPreLE f).1 ht
  exact runLines_spans P _ _ _ _ _ _ h3 (fun _ h => nomatch h) h0 (fun t ht => (h4 t ht).2) he

def TokEnd (f : List Char) (l : Loc) : Prop :=
  l = Loc.init ∨ (∃ t ∈ (lexPreLE f).1, l = t.s ∨ l = t.e) ∨ (∃ e, (lexPreLE f).2 = some e ∧ (l = e.s ∨ l = e.e))

theorem reported_tokEnd (f : List Char) : ∀ sp ∈ reportedErrors f, TokEnd f sp.1 ∧ TokEnd f sp.2 :=
  have hs (t : LTok) (ht : t ∈ (lexPreLE f).1) : TokEnd f t.s := .inr (.inl ⟨t, ht, .inl rfl⟩)
  have he (t : LTok) (ht : t ∈ (lexPreLE f).1) : TokEnd f t.e := .inr (.inl ⟨t, ht, .inr rfl⟩)
  reported_spans (fun s e => TokEnd f s ∧ TokEnd f e) f ⟨.inl rfl, .inl rfl⟩
    (fun t ht => ⟨⟨hs t ht, he t ht⟩, he t ht, he t ht⟩)
    (fun e h => ⟨.inr (.inr ⟨e, h, .inl rfl⟩), .inr (.inr ⟨e, h, .inr rfl⟩)⟩)

end Slicec.Pp
