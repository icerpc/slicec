/-
  The part spans of a parsed doc comment (`LDoc.partSpans`, Model/CommentDocLoc.lean), C09: whose spans they are, that
  they are made of token boundaries, and that each end of a comment lint's span is that end of one of them
  (`elemLintsLoc_ends`).
-/
import SlicecVerif.Lemmas.CommentDocLoc

namespace Slicec.CLoc

open Slicec

theorem link_id_mem_msg_spans {m : LMsg} {lk : LLink} (h : lk ∈ m.links) : lk.idSpan ∈ m.spans := by
  simp only [LMsg.spans, List.mem_cons, List.mem_flatMap]
  exact Or.inr ⟨lk, h, by simp⟩

theorem msg_spans_sub_tag {t : LTag} {s : Sp} (h : s ∈ t.message.spans) : s ∈ t.spans := by
  simp only [LTag.spans, List.mem_cons, List.mem_append]
  exact Or.inr h

theorem tag_span_mem (t : LTag) : t.span ∈ t.spans := by simp [LTag.spans]

theorem tag_msg_span_mem (t : LTag) : t.message.span ∈ t.spans := msg_spans_sub_tag (by simp [LMsg.spans])

theorem mem_partSpans {d : LDoc} {s : Sp} :
    s ∈ d.partSpans ↔ (∃ m, d.overview = some m ∧ s ∈ m.spans) ∨ (∃ t, (t ∈ d.params ∨ t ∈ d.returns) ∧ s ∈ t.spans) ∨
      ∃ l ∈ d.see, s = l.span ∨ s = l.idSpan := by
  simp only [LDoc.partSpans, List.mem_append, List.mem_flatMap, List.mem_cons, List.not_mem_nil, or_false]
  cases d.overview with
  | none => simp only [List.not_mem_nil, false_or, reduceCtorEq, false_and, exists_false, or_and_right, exists_or]
  | some m => simp only [Option.some.injEq, exists_eq_left', or_and_right, exists_or, or_assoc]

theorem msgOk_spans {toks : List LCTok} {m : LMsg} (h : MsgOk toks m) : ∀ s ∈ m.spans, SpOk toks s := by
  intro s hs
  simp only [LMsg.spans, List.mem_cons, List.mem_flatMap, List.not_mem_nil, or_false] at hs
  rcases hs with rfl | ⟨l, hl, rfl | rfl⟩
  · exact h.1
  · exact (h.2 l hl).1
  · exact (h.2 l hl).2

theorem tagOk_spans {toks : List LCTok} {t : LTag} (h : TagOk toks t) : ∀ s ∈ t.spans, SpOk toks s := by
  intro s hs
  simp only [LTag.spans, List.mem_cons, List.mem_append] at hs
  rcases hs with (rfl | h1) | h1
  · exact h.1
  · cases hi : t.ident with
    | none => rw [hi] at h1; cases h1
    | some x =>
      obtain ⟨i, sp⟩ := x
      rw [hi] at h1
      exact List.mem_singleton.mp h1 ▸ h.2.1 i sp hi
  · exact msgOk_spans h.2.2 s h1

theorem DocPartsOk.partSpans {toks : List LCTok} {d : LDoc} (h : DocPartsOk toks d) : ∀ s ∈ d.partSpans, SpOk toks s := by
  obtain ⟨_, k1, k2, k3, k4⟩ := h
  intro s hs
  rcases mem_partSpans.mp hs with ⟨m, hm, hs⟩ | ⟨t, ht | ht, hs⟩ | ⟨l, hl, rfl | rfl⟩
  · exact msgOk_spans (k1 m hm) s hs
  · exact tagOk_spans (k2 t ht) s hs
  · exact tagOk_spans (k3 t ht) s hs
  · exact (k4 l hl).1
  · exact (k4 l hl).2

/-- where `BrokenDocLink` is reported: the identifier of a link of the comment -/
theorem link_idSpan_mem_partSpans {c : LDoc} {lk : LLink} (h : lk ∈ c.allLinks) : lk.idSpan ∈ c.partSpans := by
  refine mem_partSpans.mpr ?_
  simp only [LDoc.allLinks, List.mem_append, List.mem_flatMap] at h
  rcases h with ((h | h) | ⟨t, ht, h⟩) | h
  · cases ho : c.overview with
    | none => rw [ho] at h; cases h
    | some m => rw [ho] at h; exact Or.inl ⟨m, rfl, link_id_mem_msg_spans h⟩
  · obtain ⟨t, ht, h⟩ := h
    exact Or.inr (Or.inl ⟨t, Or.inl ht, msg_spans_sub_tag (link_id_mem_msg_spans h)⟩)
  · exact Or.inr (Or.inl ⟨t, Or.inr ht, msg_spans_sub_tag (link_id_mem_msg_spans h)⟩)
  · exact Or.inr (Or.inr ⟨lk, h, Or.inr rfl⟩)

/-- where `IncorrectDocComment` is reported: a `@param` or `@returns` tag of the comment, alone or with its message -/
theorem illFittingSpans_mem {shape : ElemShape} {c : LDoc} {s : Sp} (h : s ∈ illFittingSpans shape c) :
    ∃ t, (t ∈ c.params ∨ t ∈ c.returns) ∧ (s = t.span ∨ s = t.withMessage) := by
  have sp : ∀ (ts : List LTag) (p : LTag → Bool), (∀ t ∈ ts, t ∈ c.params ∨ t ∈ c.returns) → s ∈ (ts.filter p).map (·.span) →
      ∃ t, (t ∈ c.params ∨ t ∈ c.returns) ∧ (s = t.span ∨ s = t.withMessage) := by
    intro ts p hts hs
    obtain ⟨t, ht, rfl⟩ := List.mem_map.mp hs
    exact ⟨t, hts t (List.mem_filter.mp ht).1, Or.inl rfl⟩
  have wm : ∀ ts : List LTag, (∀ t ∈ ts, t ∈ c.params ∨ t ∈ c.returns) → s ∈ ts.map (·.withMessage) →
      ∃ t, (t ∈ c.params ∨ t ∈ c.returns) ∧ (s = t.span ∨ s = t.withMessage) := by
    intro ts hts hs
    obtain ⟨t, ht, rfl⟩ := List.mem_map.mp hs
    exact ⟨t, hts t ht, Or.inr rfl⟩
  unfold illFittingSpans at h
  split at h
  · rcases List.mem_append.mp h with h | h
    · exact wm _ (fun _ => Or.inl) h
    · exact wm _ (fun _ => Or.inr) h
  · exact wm _ (fun _ => Or.inr) h
  · rcases List.mem_append.mp h with h | h
    · exact sp _ _ (fun _ => Or.inl) h
    · split at h
      · exact wm _ (fun _ => Or.inr) h
      · exact sp _ _ (fun _ => Or.inr) h
      · exact sp _ _ (fun _ => Or.inr) h

theorem Sp.add_ends (a b : Sp) : ((a.add b).start = a.start ∨ (a.add b).start = b.start) ∧ ((a.add b).stop = a.stop ∨ (a.add b).stop = b.stop) := by
  unfold Sp.add
  constructor <;> (simp only; split <;> simp)

/-- the two ends can be those of different part spans (a tag with its message) -/
theorem elemLintsLoc_ends {t : Table} {e : DocElem} {c : LDoc} {l : LLint} (hl : l ∈ elemLintsLoc t e (.ok c)) :
    (∃ s ∈ c.partSpans, l.span.start = s.start) ∧ ∃ s ∈ c.partSpans, l.span.stop = s.stop := by
  rcases List.mem_append.mp hl with h | h
  · obtain ⟨lk, hlk, rfl⟩ := List.mem_map.mp h
    have hs := link_idSpan_mem_partSpans (List.mem_filter.mp hlk).1
    exact ⟨⟨_, hs, rfl⟩, _, hs, rfl⟩
  · obtain ⟨s, hs, rfl⟩ := List.mem_map.mp h
    obtain ⟨tg, htg, hs⟩ := illFittingSpans_mem hs
    have h1 := mem_partSpans.mpr (Or.inr (Or.inl ⟨tg, htg, tag_span_mem tg⟩))
    have h2 := mem_partSpans.mpr (Or.inr (Or.inl ⟨tg, htg, tag_msg_span_mem tg⟩))
    rcases hs with rfl | rfl
    · exact ⟨⟨_, h1, rfl⟩, _, h1, rfl⟩
    · obtain ⟨e1, e2⟩ := Sp.add_ends tg.span tg.message.span
      exact ⟨e1.elim (⟨_, h1, ·⟩) (⟨_, h2, ·⟩), e2.elim (⟨_, h1, ·⟩) (⟨_, h2, ·⟩)⟩

end Slicec.CLoc
