/-
  The model of the Slice lexer (Model/SliceLexer.lean), C02. The first part leads to the separation lemma `lexRun_append`:
  if the text read so far ends in a way that what follows cannot change (`compat`), reading the two together is reading
  one after the other. It holds because one call of `lexNext` is local in the same sense (`lexNext_append`). After it: what
  single spellings read as (under `lexRun_one`), what the conditions of the separation check say of a spelling
  (`ckText_eq_some`, `nameTextOk_iff`), the separators and comments that read as nothing (`GapOk`), the keyword table.
-/
import SlicecVerif.Model.SliceLexer
import SlicecVerif.Model.Print
import SlicecVerif.Lemmas.Basic

namespace Slicec.SLex

open Slicec

def simpleToks : List (Char × SliceTok) :=
  [('(', .lparen), (')', .rparen), ('{', .lbrace), ('}', .rbrace), ('<', .lchevron), ('>', .rchevron),
   (',', .comma), ('=', .equals), ('?', .qmark)]

theorem simpleTok_mem {c : Char} {t : SliceTok} : simpleTok c = some t → (c, t) ∈ simpleToks := by
  fun_cases simpleTok c <;> intro h <;> cases h <;> rename_i hc <;> cases eq_of_beq hc <;> decide

theorem beq_false_of_pred (p : Char → Bool) (c d : Char) (hd : p d = false) (hc : p c = true) : (c == d) = false := by
  by_cases h : c = d
  · subst h; rw [hc] at hd; cases hd
  · simpa using h

/-- the characters the arms in front of the class tests look for -/
def punctChars : List Char := simpleToks.map (·.1) ++ ['[', ']', ':', '-', '"', '/', '\\']

theorem lexNext_class (p : Char → Bool) (hp : ∀ x ∈ punctChars, p x = false) (a : Bool) (c : Char) (cs : List Char)
    (hc : p c = true) :
    lexNext a c cs = if c.isAlpha then lexWord a c cs else if c.isDigit then lexInteger a c cs
      else if isWs c then lexWhitespace a cs else ⟨.err (.unknownSymbol [c] none), cs, a⟩ := by
  have ne : ∀ x ∈ punctChars, (c == x) = false := fun x hx => beq_false_of_pred p c x (hp x hx) hc
  have h0 : simpleTok c = none := by
    cases h : simpleTok c with
    | none => rfl
    | some t =>
      have := ne c (List.mem_append_left _ (List.mem_map_of_mem (simpleTok_mem h)))
      simp at this
  simp only [lexNext, h0, ne '[' (by decide), ne ']' (by decide), ne ':' (by decide), ne '-' (by decide),
    ne '"' (by decide), ne '/' (by decide), ne '\\' (by decide), Bool.false_eq_true, if_false]

theorem isAlpha_false_of_isDigit (c : Char) (h : c.isDigit = true) : c.isAlpha = false := by
  simp only [Char.isDigit, Char.isAlpha, Char.isUpper, Char.isLower, Bool.and_eq_true, Bool.or_eq_false_iff,
    Bool.and_eq_false_iff, decide_eq_true_eq, decide_eq_false_iff_not, ge_iff_le, UInt32.le_iff_toNat_le] at h ⊢
  have : '0'.val.toNat = 48 ∧ '9'.val.toNat = 57 ∧ 'A'.val.toNat = 65 ∧ 'Z'.val.toNat = 90 ∧ 'a'.val.toNat = 97 ∧
    'z'.val.toNat = 122 := by decide
  omega

theorem lexNext_alpha (a : Bool) (c : Char) (cs : List Char) (hc : c.isAlpha = true) : lexNext a c cs = lexWord a c cs := by
  rw [lexNext_class Char.isAlpha (by decide) a c cs hc, if_pos hc]

theorem lexNext_digit (a : Bool) (c : Char) (cs : List Char) (h : c.isDigit = true) : lexNext a c cs = lexInteger a c cs := by
  rw [lexNext_class Char.isDigit (by decide) a c cs h, isAlpha_false_of_isDigit c h, if_neg Bool.false_ne_true, if_pos h]

theorem lexNext_slash (a : Bool) (cs : List Char) : lexNext a '/' cs = lexSlash a cs := rfl

theorem isWordChar_of_isWs (c : Char) (h : isWs c = true) : isWordChar c = false := by
  have hu : c ≠ '_' := by rintro rfl; revert h; decide
  simp only [isWs, isWordChar, Char.isAlphanum, Char.isDigit, Char.isAlpha, Char.isUpper, Char.isLower, Bool.and_eq_true,
    Bool.or_eq_true, Bool.or_eq_false_iff, Bool.and_eq_false_iff, decide_eq_true_eq, decide_eq_false_iff_not, ge_iff_le,
    UInt32.le_iff_toNat_le, beq_iff_eq, beq_eq_false_iff_ne, ne_eq, Char.toNat] at h ⊢
  have : '0'.val.toNat = 48 ∧ '9'.val.toNat = 57 ∧ 'A'.val.toNat = 65 ∧ 'Z'.val.toNat = 90 ∧ 'a'.val.toNat = 97 ∧
    'z'.val.toNat = 122 := by decide
  exact ⟨by omega, hu⟩

theorem lexNext_ws (a : Bool) (c : Char) (cs : List Char) (h : isWs c = true) : lexNext a c cs = lexWhitespace a cs := by
  have hw : (c.isAlpha = false ∧ c.isDigit = false) ∧ ¬c = '_' := by
    simpa [isWordChar, Char.isAlphanum] using isWordChar_of_isWs c h
  rw [lexNext_class isWs (by decide) a c cs h, hw.1.1, hw.1.2, if_neg Bool.false_ne_true, if_neg Bool.false_ne_true, if_pos h]

/-! Every helper of `lexNext` hands the attribute mode it is given on unchanged (`lexWord`, `lexInteger` and
  `lexWhitespace` by `rfl`); only the `[` and `]` arms call `lexPair` with a constant instead. -/

theorem lexPair_attr (second : Char) (single double : SliceTok) (a : Bool) (cs : List Char) :
    (lexPair second single double a cs).attr = a := by
  fun_cases lexPair second single double a cs <;> rfl

theorem lexString_attr (a : Bool) (cs : List Char) : (lexString a cs).attr = a := by
  fun_cases lexString a cs <;> rfl

theorem lexLineComment_attr (a : Bool) (cs : List Char) : (lexLineComment a cs).attr = a := by
  fun_cases lexLineComment a cs <;> rfl

theorem lexSlash_attr (a : Bool) (cs : List Char) : (lexSlash a cs).attr = a := by
  fun_cases lexSlash a cs
  case case1 => exact lexLineComment_attr a _
  all_goals rfl

theorem lexBackslash_attr (a : Bool) (cs : List Char) : (lexBackslash a cs).attr = a := by
  fun_cases lexBackslash a cs <;> rfl

theorem readString_suffix (e : Bool) (cs : List Char) : (readString e cs).2 <:+ cs := by
  fun_induction readString e cs with
  | case1 | case2 => exact List.suffix_refl _
  | case3 c cs _ _ ih | case5 _ c cs _ _ _ _ ih => exact ih.trans (List.suffix_cons c cs)
  | case4 => exact List.suffix_cons _ _

theorem consumeBlock_suffix (s : Bool) (cs rest : List Char) (h : consumeBlock s cs = some rest) : rest <:+ cs := by
  fun_induction consumeBlock s cs with
  | case1 => cases h
  | case2 => cases h; exact List.suffix_cons _ _
  | case3 _ c cs _ ih => exact (ih h).trans (List.suffix_cons c cs)

theorem lexPair_suffix (d : Char) (s t : SliceTok) (a : Bool) (cs : List Char) : (lexPair d s t a cs).rest <:+ cs := by
  fun_cases lexPair d s t a cs
  case case1 => exact List.suffix_cons _ _
  all_goals exact List.suffix_refl _

theorem lexLineComment_suffix (a : Bool) (cs : List Char) : (lexLineComment a cs).rest <:+ cs := by
  fun_cases lexLineComment a cs
  case case3 => exact List.dropWhile_suffix _
  all_goals exact (List.dropWhile_suffix _).trans (List.suffix_cons _ _)

theorem lexSlash_suffix (a : Bool) (cs : List Char) : (lexSlash a cs).rest <:+ cs := by
  fun_cases lexSlash a cs
  case case1 => exact (lexLineComment_suffix a _).trans (List.suffix_cons _ _)
  case case2 rest h => exact (consumeBlock_suffix _ _ _ h).trans (List.suffix_cons _ _)
  case case3 => exact List.nil_suffix
  case case4 => exact List.suffix_refl _

theorem lexBackslash_suffix (a : Bool) (cs : List Char) : (lexBackslash a cs).rest <:+ cs := by
  fun_cases lexBackslash a cs
  case case1 => exact List.dropWhile_suffix _
  all_goals exact List.suffix_refl _

theorem lexString_suffix (a : Bool) (cs : List Char) : (lexString a cs).rest <:+ cs := by
  have := readString_suffix false cs
  fun_cases lexString a cs <;> rename_i h <;> rwa [h] at this

theorem lexNext_suffix (a : Bool) (c : Char) (cs : List Char) : (lexNext a c cs).rest <:+ cs := by
  fun_cases lexNext a c cs
  case case1 | case12 => exact List.suffix_refl _
  case case2 | case3 | case4 | case5 => exact lexPair_suffix _ _ _ _ _
  case case6 => exact lexString_suffix _ _
  case case7 => exact lexSlash_suffix _ _
  case case8 => exact lexBackslash_suffix _ _
  case case9 | case10 | case11 => exact List.dropWhile_suffix _

theorem lexNext_rest_le (a : Bool) (c : Char) (cs : List Char) : (lexNext a c cs).rest.length ≤ cs.length :=
  (lexNext_suffix a c cs).length_le

theorem lexRunF_fuel (n m : Nat) (a : Bool) (cs : List Char) (hn : cs.length ≤ n) (hm : cs.length ≤ m) :
    lexRunF n a cs = lexRunF m a cs := by
  refine fuel_irrelevant_le (fun s : Bool × List Char => s.2.length) (fun n s => lexRunF n s.1 s.2) ?_ ?_ n m (a, cs) hn hm
  · rintro m ⟨a, cs⟩ h
    cases List.length_eq_zero_iff.mp h
    cases m <;> rfl
  · rintro n m ⟨a, cs⟩ ih
    cases cs with
    | nil => rfl
    | cons c cs =>
      simp only [lexRunF]
      rw [ih (_, _) (Nat.lt_succ_of_le (lexNext_rest_le a c cs))]

@[simp] theorem lexRun_nil (a : Bool) : lexRun a [] = ⟨[], a, .closed⟩ := rfl

/-- the loop of `Iterator::next`, without fuel -/
theorem lexRun_cons (a : Bool) (c : Char) (cs : List Char) :
    lexRun a (c :: cs) =
      ⟨(lexNext a c cs).res.items ++ (lexRun (lexNext a c cs).attr (lexNext a c cs).rest).items,
       (lexRun (lexNext a c cs).attr (lexNext a c cs).rest).attr,
       if (lexNext a c cs).rest.isEmpty then (lexNext a c cs).res.endClass
       else (lexRun (lexNext a c cs).attr (lexNext a c cs).rest).last⟩ := by
  have hr := lexNext_rest_le a c cs
  simp only [lexRun, List.length_cons, lexRunF]
  rw [lexRunF_fuel cs.length (lexNext a c cs).rest.length _ _ hr (Nat.le_refl _)]

theorem lexRun_one {a a' : Bool} {c : Char} {cs : List Char} {res : StepRes} (h : lexNext a c cs = ⟨res, [], a'⟩) :
    lexRun a (c :: cs) = ⟨res.items, a', res.endClass⟩ := by
  rw [lexRun_cons, h]
  exact congrArg (LexRun.mk · a' res.endClass) (List.append_nil _)

theorem lexRun_induction {P : Bool → List Char → Prop} (nil : ∀ a, P a [])
    (cons : ∀ a c cs, P (lexNext a c cs).attr (lexNext a c cs).rest → P a (c :: cs)) (a : Bool) (cs : List Char) : P a cs := by
  induction hn : cs.length using Nat.strongRecOn generalizing a cs with
  | _ n ih =>
    cases cs with
    | nil => exact nil a
    | cons c cs =>
      subst hn
      have hle := lexNext_rest_le a c cs
      exact cons a c cs (ih _ (by simp only [List.length_cons]; omega) _ _ rfl)

theorem lexLineComment_slashes (a : Bool) (t : List Char) :
    lexLineComment a ('/' :: '/' :: t) = ⟨.skip .lineComment, ('/' :: t).dropWhile (· != '\n'), a⟩ := rfl

theorem lexLineComment_doc (a : Bool) (t : List Char) (h : t.head? ≠ some '/') :
    lexLineComment a ('/' :: t) = ⟨.tok (.doc (stripCr (t.takeWhile (· != '\n')))), t.dropWhile (· != '\n'), a⟩ := by
  simp only [lexLineComment]
  split
  · exact absurd rfl h
  · rfl

theorem lexLineComment_plain (a : Bool) (t : List Char) (h : t.head? ≠ some '/') :
    lexLineComment a t = ⟨.skip .lineComment, t.dropWhile (· != '\n'), a⟩ := by
  unfold lexLineComment
  split
  · exact absurd rfl h
  · rfl

theorem readString_append (e : Bool) (cs r : List Char)
    (h : (readString e cs).2 ≠ [] ∨ (readString e cs).1.isSome = true) :
    readString e (cs ++ r) = ((readString e cs).1, (readString e cs).2 ++ r) := by
  fun_induction readString e cs with
  | case1 => simp at h
  | case2 _ c cs hc => simp only [List.cons_append, readString, hc, if_true]
  | case3 c cs hc _ ih =>
    simp only [List.cons_append, readString, hc, if_true, Bool.false_eq_true, if_false]
    rw [ih (by simpa using h)]
  | case4 _ c cs hc he hq => simp only [List.cons_append, readString, hc, he, hq, if_true, Bool.false_eq_true, if_false]
  | case5 _ c cs hc he hq _ ih =>
    simp only [List.cons_append, readString, hc, he, hq, Bool.false_eq_true, if_false]
    rw [ih (by simpa using h)]

theorem consumeBlock_append (s : Bool) (cs r rest : List Char) (h : consumeBlock s cs = some rest) :
    consumeBlock s (cs ++ r) = some (rest ++ r) := by
  fun_induction consumeBlock s cs with
  | case1 => cases h
  | case2 _ c cs hc => cases h; simp only [List.cons_append, consumeBlock, hc, if_true]
  | case3 _ c cs hc ih => simp only [List.cons_append, consumeBlock, hc, Bool.false_eq_true, if_false]; exact ih h

/-! One call of `lex_next_slice_token` is local: if it stopped inside the buffer, or consumed it entirely but what follows
  cannot change what it read (`compat`), then appending text `x :: r` to the buffer changes nothing but the unread rest.
  The white-space arm is the exception: it reads on as long as white space follows, although its end class is `.closed`;
  it is local only when it stopped inside the buffer, and `lexRun_append` sets a buffer that is all white space apart
  (`lexNext_append_of_compat`). -/

/-- the conclusion shared by the `…_append` lemmas about one call -/
def Step.extends (S S' : Step) (r : List Char) : Prop := S' = ⟨S.res, S.rest ++ r, S.attr⟩

theorem lexString_append (a : Bool) (cs : List Char) (x : Char) (r : List Char)
    (h : (lexString a cs).rest ≠ [] ∨ compat (lexString a cs).res.endClass (x :: r) = true) :
    (lexString a cs).extends (lexString a (cs ++ x :: r)) (x :: r) := by
  revert h
  unfold Step.extends
  fun_cases lexString a cs <;> intro h <;> rename_i hq
  · simp only [lexString, readString_append false cs (x :: r) (by rw [hq]; exact Or.inr rfl), hq]
  · -- an unterminated string is an error, which nothing may follow: the scan stopped inside the buffer
    simp only [lexString, readString_append false cs (x :: r) (by rw [hq]; exact Or.inl (h.resolve_right Bool.false_ne_true)), hq]

theorem lexLineComment_append (a : Bool) (cs : List Char) (x : Char) (r : List Char)
    (h : (lexLineComment a cs).rest ≠ [] ∨ compat (lexLineComment a cs).res.endClass (x :: r) = true) :
    (lexLineComment a cs).extends (lexLineComment a (cs ++ x :: r)) (x :: r) := by
  -- every case scans a tail `l` of the buffer for the line break and ends in class `.line`
  have line : ∀ l : List Char, (l.dropWhile (· != '\n') ≠ [] ∨ (x == '\n') = true) →
      (l ++ x :: r).takeWhile (· != '\n') = l.takeWhile (· != '\n') ∧
      (l ++ x :: r).dropWhile (· != '\n') = l.dropWhile (· != '\n') ++ x :: r :=
    fun l hl => span_append _ l (x :: r) (hl.imp_right fun e => by rw [eq_of_beq e]; rfl)
  -- and the case is the same on the longer buffer: no slash is appended where the case looks for one
  have head : ∀ t : List Char, t.head? ≠ some '/' → (t.dropWhile (· != '\n') ≠ [] ∨ (x == '\n') = true) →
      (t ++ x :: r).head? ≠ some '/' := by
    intro t ht hl
    cases t with
    | cons d t => exact ht
    | nil =>
      rcases hl with hl | hl
      · exact absurd rfl hl
      · rw [eq_of_beq hl]; simp
  unfold Step.extends
  by_cases h1 : cs.head? = some '/'
  · obtain ⟨t, rfl⟩ := List.head?_eq_some_iff.mp h1
    by_cases h2 : t.head? = some '/'
    · obtain ⟨t, rfl⟩ := List.head?_eq_some_iff.mp h2
      rw [lexLineComment_slashes] at h
      rw [List.cons_append, List.cons_append, lexLineComment_slashes, lexLineComment_slashes, ← List.cons_append,
        (line _ h).2]
    · rw [lexLineComment_doc a t h2] at h
      rw [List.cons_append, lexLineComment_doc a t h2, lexLineComment_doc a _ (head t h2 h), (line t h).1, (line t h).2]
  · rw [lexLineComment_plain a cs h1] at h
    rw [lexLineComment_plain a cs h1, lexLineComment_plain a _ (head cs h1 h), (line cs h).2]

theorem lexSlash_append (a : Bool) (cs : List Char) (x : Char) (r : List Char)
    (h : (lexSlash a cs).rest ≠ [] ∨ compat (lexSlash a cs).res.endClass (x :: r) = true) :
    (lexSlash a cs).extends (lexSlash a (cs ++ x :: r)) (x :: r) := by
  revert h
  fun_cases lexSlash a cs <;> intro h
  · exact lexLineComment_append a _ x r h
  · rename_i hb
    simp only [Step.extends, List.cons_append, lexSlash, consumeBlock_append _ _ _ _ hb]
  · exact absurd h (by simp [StepRes.endClass, compat])
  · -- neither `/` nor `*` follows: an error in front of the buffer, which is therefore not empty
    rename_i h1 h2
    cases cs with
    | nil => exact absurd h (by simp [StepRes.endClass, compat])
    | cons c cs =>
      unfold Step.extends lexSlash
      split
      · rename_i heq; cases heq; exact absurd rfl (h1 _)
      · rename_i heq; cases heq; exact absurd rfl (h2 _)
      · rfl

theorem endClass_wordTok (a : Bool) (w : List Char) :
    (StepRes.tok (if a = true then SliceTok.ident w else checkKeyword w)).endClass = .word := by
  cases a with
  | true => rfl
  | false =>
    simp only [Bool.false_eq_true, if_false, checkKeyword]
    split <;> rfl

theorem compat_word (r : List Char) : compat .word r = stops isWordChar r := by cases r <;> rfl

theorem lexBackslash_append (a : Bool) (cs : List Char) (x : Char) (r : List Char)
    (h : (lexBackslash a cs).rest ≠ [] ∨ compat (lexBackslash a cs).res.endClass (x :: r) = true) :
    (lexBackslash a cs).extends (lexBackslash a (cs ++ x :: r)) (x :: r) := by
  revert h
  unfold Step.extends
  fun_cases lexBackslash a cs <;> intro h <;> simp only [lexBackslash, List.cons_append, *, if_true]
  · have := span_append isWordChar _ (x :: r) (h.imp_right ((compat_word _).symm.trans ·))
    rw [← List.cons_append, this.1, this.2]
  · rfl
  · exact absurd h (by simp [StepRes.endClass, compat])

theorem lexWord_append (a : Bool) (c : Char) (cs r : List Char)
    (h : (lexWord a c cs).rest ≠ [] ∨ compat (lexWord a c cs).res.endClass r = true) :
    (lexWord a c cs).extends (lexWord a c (cs ++ r)) r := by
  have hc : compat (lexWord a c cs).res.endClass r = stops isWordChar r := by
    unfold lexWord; rw [endClass_wordTok, compat_word]
  have := span_append isWordChar cs r (h.imp_right (hc.symm.trans ·))
  simp only [lexWord, Step.extends, this.1, this.2]

theorem lexInteger_append (a : Bool) (c : Char) (cs r : List Char)
    (h : (lexInteger a c cs).rest ≠ [] ∨ compat (lexInteger a c cs).res.endClass r = true) :
    (lexInteger a c cs).extends (lexInteger a c (cs ++ r)) r := by
  have := span_append isWordChar cs r (h.imp_right ((compat_word r).symm.trans ·))
  simp only [lexInteger, Step.extends, this.1, this.2]

theorem lexWhitespace_append (a : Bool) (cs r : List Char) (h : (lexWhitespace a cs).rest ≠ []) :
    (lexWhitespace a cs).extends (lexWhitespace a (cs ++ r)) r := by
  have := span_append isWs cs r (Or.inl h)
  simp only [lexWhitespace, Step.extends, this.2]

/-- `s` is the token of a first character on its own, which only a following `d` would change -/
theorem lexPair_append (d : Char) (s t : SliceTok) (a : Bool) (cs : List Char) (x : Char) (r : List Char)
    (hs : ∀ x r', compat (StepRes.tok s).endClass (x :: r') = (x != d))
    (h : (lexPair d s t a cs).rest ≠ [] ∨ compat (lexPair d s t a cs).res.endClass (x :: r) = true) :
    (lexPair d s t a cs).extends (lexPair d s t a (cs ++ x :: r)) (x :: r) := by
  revert h
  unfold Step.extends
  fun_cases lexPair d s t a cs <;> intro h <;> simp only [lexPair, List.cons_append, List.nil_append, *, if_true]
  · rfl
  · have hx : (x == d) = false := by simpa [hs] using h
    simp only [hx, Bool.false_eq_true, if_false]

theorem lexNext_append (a : Bool) (c : Char) (cs : List Char) (x : Char) (r : List Char)
    (h : (lexNext a c cs).rest ≠ [] ∨ (isWs c = false ∧ compat (lexNext a c cs).res.endClass (x :: r) = true)) :
    (lexNext a c cs).extends (lexNext a c (cs ++ x :: r)) (x :: r) := by
  have h' := h.imp_right And.right
  revert h h'
  -- which arm is taken depends on `c` alone: the case hypotheses send the call on the longer buffer the same way
  fun_cases lexNext a c cs <;> intro h h' <;> simp only [lexNext, *, if_true]
  case case1 | case12 => rfl
  case case2 | case3 | case4 | case5 => exact lexPair_append _ _ _ _ _ _ _ (fun _ _ => rfl) h'
  case case6 => exact lexString_append _ _ _ _ h'
  case case7 => exact lexSlash_append _ _ _ _ h'
  case case8 => exact lexBackslash_append _ _ _ _ h'
  case case9 => exact lexWord_append _ _ _ _ h'
  case case10 => exact lexInteger_append _ _ _ _ h'
  case case11 hw => exact lexWhitespace_append _ _ _ (h.resolve_right fun hc => Bool.false_ne_true (hc.1.symm.trans hw))

theorem lexRun_dropWhile_ws (a : Bool) (t : List Char) : lexRun a (t.dropWhile isWs) = lexRun a t := by
  cases t with
  | nil => rfl
  | cons x r =>
    by_cases hx : isWs x = true
    · rw [List.dropWhile_cons_of_pos hx, lexRun_cons a x r, lexNext_ws a x r hx, lexWhitespace]
      -- the end class of skipped white space is that of the empty text
      generalize r.dropWhile isWs = d
      cases d <;> rfl
    · rw [List.dropWhile_cons_of_neg hx]

theorem lexRun_ws_append (a : Bool) (g t : List Char) (h : g.all isWs = true) : lexRun a (g ++ t) = lexRun a t := by
  rw [← lexRun_dropWhile_ws a (g ++ t), List.dropWhile_append_of_pos (List.all_eq_true.mp h), lexRun_dropWhile_ws]

theorem lexRun_ws (a : Bool) (g : List Char) (h : g.all isWs = true) : lexRun a g = ⟨[], a, .closed⟩ := by
  rw [← List.append_nil g, lexRun_ws_append a g [] h]
  rfl

theorem lexNext_append_of_compat (a : Bool) (c : Char) (cs : List Char) (x : Char) (r : List Char)
    (h : compat (lexRun a (c :: cs)).last (x :: r) = true) :
    (c :: cs).all isWs = true ∨
    ((lexNext a c cs).extends (lexNext a c (cs ++ x :: r)) (x :: r) ∧
      compat (lexRun (lexNext a c cs).attr (lexNext a c cs).rest).last (x :: r) = true) := by
  rw [lexRun_cons] at h
  by_cases hrest : (lexNext a c cs).rest = []
  · have hlast : compat (lexNext a c cs).res.endClass (x :: r) = true := by simpa [hrest] using h
    by_cases hc : isWs c = true
    · rw [lexNext_ws a c cs hc] at hrest
      refine Or.inl ?_
      rw [List.all_cons, hc, Bool.true_and, List.all_eq_true]
      exact List.all_eq_true.mp (dropWhile_eq_nil_iff.mp hrest)
    · exact Or.inr ⟨lexNext_append a c cs x r (Or.inr ⟨Bool.eq_false_iff.mpr hc, hlast⟩), by rw [hrest]; rfl⟩
  · exact Or.inr ⟨lexNext_append a c cs x r (Or.inl hrest), by simpa [hrest] using h⟩

theorem lexRun_append (a : Bool) (s r : List Char) (h : compat (lexRun a s).last r = true) :
    lexRun a (s ++ r) =
      ⟨(lexRun a s).items ++ (lexRun (lexRun a s).attr r).items, (lexRun (lexRun a s).attr r).attr,
       if r.isEmpty then (lexRun a s).last else (lexRun (lexRun a s).attr r).last⟩ := by
  cases r with
  | nil => simp
  | cons x r =>
  induction a, s using lexRun_induction with
  | nil a => simp
  | cons a c cs ih =>
    rcases lexNext_append_of_compat a c cs x r h with hws | ⟨hstep, hcompat⟩
    · rw [lexRun_ws_append a _ _ hws, lexRun_ws a _ hws]
      rfl
    · unfold Step.extends at hstep
      rw [List.cons_append, lexRun_cons a c (cs ++ x :: r), hstep]
      simp only []
      rw [ih hcompat, lexRun_cons a c cs]
      simp [List.append_assoc]

theorem toList_nl : ("\n" : String).toList = ['\n'] := by decide
theorem toList_backslash : ("\\" : String).toList = ['\\'] := by decide
theorem toList_slashes : ("///" : String).toList = ['/', '/', '/'] := by decide
theorem toList_docLine (s : String) : ("///" ++ s).toList = '/' :: '/' :: '/' :: s.toList := by
  rw [String.toList_append, toList_slashes]; rfl
theorem toList_0x : ("0x" : String).toList = ['0', 'x'] := by decide
theorem toList_0b : ("0b" : String).toList = ['0', 'b'] := by decide
theorem toList_quote : ("\"" : String).toList = ['"'] := by decide

theorem compat_head (e : EndClass) (c : Char) (r : List Char) : compat e (c :: r) = compat e [c] := by
  cases e <;> rfl

theorem compat_append (e : EndClass) {w : List Char} (hw : w ≠ []) (r : List Char) : compat e (w ++ r) = compat e w := by
  obtain ⟨c, t, rfl⟩ := List.exists_cons_of_ne_nil hw
  rw [List.cons_append, compat_head, ← compat_head e c t]

theorem compat_closed (r : List Char) : compat .closed r = true := by cases r <;> rfl

theorem compat_nil (e : EndClass) : compat e [] = true := by cases e <;> rfl

theorem compat_word_start (e : EndClass) (w : List Char) (hid : isIdentText w = true)
    (he : e ∈ [EndClass.closed, .afterLBracket, .afterRBracket, .afterColon, .afterMinus]) : compat e w = true := by
  cases w with
  | nil => simp [isIdentText] at hid
  | cons c r =>
    simp only [isIdentText, Bool.and_eq_true] at hid
    have h1 := beq_false_of_pred Char.isAlpha c '[' (by decide) hid.1
    have h2 := beq_false_of_pred Char.isAlpha c ']' (by decide) hid.1
    have h3 := beq_false_of_pred Char.isAlpha c ':' (by decide) hid.1
    have h4 := beq_false_of_pred Char.isAlpha c '>' (by decide) hid.1
    simp only [List.mem_cons, List.mem_nil_iff, or_false] at he
    rcases he with rfl | rfl | rfl | rfl | rfl <;> simp [compat, bne, h1, h2, h3, h4]

theorem isIdentText_ne_nil {w : List Char} (h : isIdentText w = true) : w ≠ [] := by
  intro e; subst e; cases h

theorem lexRun_word (a : Bool) (w : List Char) (h : isIdentText w = true) :
    lexRun a w = ⟨[.tok (if a = true then .ident w else checkKeyword w)], a, .word⟩ := by
  cases w with
  | nil => simp [isIdentText] at h
  | cons c cs =>
    simp only [isIdentText, Bool.and_eq_true] at h
    rw [lexRun_one (by rw [lexNext_alpha a c cs h.1, lexWord, dropWhile_eq_nil_iff.mpr h.2]), takeWhile_of_all h.2,
      endClass_wordTok]
    rfl

theorem isWordChar_of_isAlpha (c : Char) (h : c.isAlpha = true) : isWordChar c = true := by
  simp [isWordChar, Char.isAlphanum, h]

theorem lexRun_escaped (a : Bool) (w : List Char) (h : isIdentText w = true) :
    lexRun a ('\\' :: w) = ⟨[.tok (.ident w)], a, .word⟩ := by
  cases w with
  | nil => simp [isIdentText] at h
  | cons c cs =>
    simp only [isIdentText, Bool.and_eq_true] at h
    have hall : (c :: cs).all isWordChar = true := by simp [isWordChar_of_isAlpha c h.1, h.2]
    refine lexRun_one (res := .tok (.ident (c :: cs))) ?_
    show lexBackslash a (c :: cs) = _
    simp only [lexBackslash, h.1, if_true, takeWhile_of_all hall, dropWhile_eq_nil_iff.mpr hall]

theorem lexRun_identSpelling (a : Bool) (s : String) (esc : Bool)
    (hesc : esc = false → checkKeyword s.toList = .ident s.toList) (hid : isIdentText s.toList = true) :
    lexRun a (if esc then "\\" ++ s else s).toList = ⟨[.tok (.ident s.toList)], a, .word⟩ := by
  cases esc with
  | true =>
    rw [if_pos rfl, String.toList_append, toList_backslash]
    exact lexRun_escaped a _ hid
  | false => rw [if_neg Bool.false_ne_true, lexRun_word a _ hid, hesc rfl, ite_self]

theorem compat_identSpelling (e : EndClass) (s : String) (esc : Bool) (h1 : compat e s.toList = true)
    (h2 : compat e ['\\'] = true) : compat e (if esc then "\\" ++ s else s).toList = true := by
  cases esc with
  | true => rw [if_pos rfl, String.toList_append, toList_backslash, List.cons_append, compat_head]; exact h2
  | false => exact h1

theorem lexNext_docLine (a : Bool) (s : List Char) (h : s.contains '\n' = false) (h4 : s.head? ≠ some '/') :
    lexNext a '/' ('/' :: '/' :: s) = ⟨.tok (.doc (stripCr s)), [], a⟩ := by
  have h : s.all (· != '\n') = true := by rw [List.all_bne', h]; rfl
  rw [lexNext_slash]
  simp only [lexSlash]
  rw [lexLineComment_doc a s h4, dropWhile_eq_nil_iff.mpr h, takeWhile_of_all h]

theorem lexRun_docLine (a : Bool) (s : List Char) (h : s.contains '\n' = false) :
    lexRun a ('/' :: '/' :: '/' :: s) =
      ⟨if s.head? = some '/' then [] else [.tok (.doc (stripCr s))], a, .line⟩ := by
  by_cases h4 : s.head? = some '/'
  · obtain ⟨t, rfl⟩ := List.head?_eq_some_iff.mp h4
    rw [if_pos h4]
    exact lexRun_one (res := .skip .lineComment)
      (by rw [lexNext_slash, lexSlash, lexLineComment_slashes, dropWhile_eq_nil_iff.mpr (by rw [List.all_bne', h]; rfl)])
  · rw [if_neg h4]
    exact lexRun_one (lexNext_docLine a s h h4)

theorem lexRun_comma (a : Bool) : lexRun a [','] = ⟨[.tok .comma], a, .closed⟩ := by cases a <;> decide

theorem lexRun_newline (a : Bool) : lexRun a ['\n'] = ⟨[], a, .closed⟩ := by cases a <;> decide

theorem ckText_eq_some {st st' : CkSt} {cs : List Char} {d : Bool} :
    ckText st cs d = some st' ↔
      cs ≠ [] ∧ compat st.last cs = true ∧ noErr (lexRun st.attr cs).items = true ∧ (lexRun st.attr cs).last ≠ .err ∧
      (d = false → (lexRun st.attr cs).last ≠ .line) ∧ st' = ⟨(lexRun st.attr cs).attr, (lexRun st.attr cs).last⟩ := by
  cases d <;> simp [ckText, and_assoc, eq_comm (a := st')]

theorem noErr_of_nameItems {items : List LexItem} (h : items.all isNameItem = true) : noErr items = true :=
  List.all_eq_true.mpr fun i hi => by
    have := List.all_eq_true.mp h i hi
    cases i with
    | tok t => rfl
    | err e => cases this

theorem nameTextOk_iff {a : Bool} {cs : List Char} :
    nameTextOk a cs = true ↔
      ∃ items, lexRun a cs = ⟨items, a, .word⟩ ∧ items.all isNameItem = true ∧ compat .afterLBracket cs = true := by
  constructor
  · intro h
    simp only [nameTextOk, Bool.and_eq_true, beq_iff_eq] at h
    obtain ⟨⟨⟨⟨_, hitems⟩, hlast⟩, hattr⟩, hcomp⟩ := h
    refine ⟨(lexRun a cs).items, ?_, hitems, hcomp⟩
    show (⟨_, (lexRun a cs).attr, (lexRun a cs).last⟩ : LexRun) = _
    rw [hattr, hlast]; rfl
  · rintro ⟨items, hrun, hitems, hhead⟩
    have hne : cs.isEmpty = false := by
      cases cs with
      | nil => cases hrun
      | cons c r => rfl
    simp [nameTextOk, hrun, hitems, hhead, hne]

/-- the head of a gap: nothing that could continue a word or complete a two-character token -/
def gapHeadOk : List Char → Bool
  | [] => true
  | c :: _ => !isWordChar c && c != '[' && c != ']' && c != ':' && c != '>'

theorem compat_of_gapHeadOk (e : EndClass) (g : List Char) (h : gapHeadOk g = true) (h1 : e ≠ .line) (h2 : e ≠ .err) :
    compat e g = true := by
  cases g with
  | nil => exact compat_nil e
  | cons c r =>
    simp only [gapHeadOk, Bool.and_eq_true] at h
    obtain ⟨⟨⟨⟨hw, hl⟩, hr⟩, hc⟩, hm⟩ := h
    cases e with
    | closed => rfl
    | word => exact hw
    | afterLBracket => exact hl
    | afterRBracket => exact hr
    | afterColon => exact hc
    | afterMinus => exact hm
    | line => exact absurd rfl h1
    | err => exact absurd rfl h2

/-- text that reads as nothing, in every attribute mode, and may follow anything but an open line comment (or an error) -/
structure GapOk (g : List Char) : Prop where
  run : ∀ a, lexRun a g = ⟨[], a, .closed⟩
  head : gapHeadOk g = true

theorem gapOk_nil : GapOk [] := ⟨fun _ => rfl, rfl⟩

theorem gapOk_ws (g : List Char) (h : g.all isWs = true) : GapOk g := by
  refine ⟨fun a => lexRun_ws a g h, ?_⟩
  cases g with
  | nil => rfl
  | cons c r =>
    simp only [List.all_cons, Bool.and_eq_true] at h
    have ne : ∀ d, isWs d = false → (c != d) = true := fun d hd => by rw [bne, beq_false_of_pred isWs c d hd h.1]; rfl
    simp only [gapHeadOk, isWordChar_of_isWs c h.1, ne '[' (by decide), ne ']' (by decide), ne ':' (by decide), ne '>' (by decide)]
    rfl

theorem gapOk_newline_cons (g : List Char) (h : GapOk g) : GapOk ('\n' :: g) := by
  refine ⟨fun a => ?_, by simp only [gapHeadOk]; decide⟩
  rw [← h.run a]
  exact lexRun_ws_append a ['\n'] g (by decide)

theorem gapCatalogue_ok : ∀ g ∈ gapCatalogue,
    (∀ a, lexRun a g.toList = ⟨[], a, .closed⟩) ∧ gapHeadOk g.toList = true ∧ g.toList ≠ [] := by decide +kernel

theorem lexRun_lineComment (a : Bool) (t : List Char) (h1 : t.all (· != '\n') = true) (h2 : t.head? ≠ some '/') :
    lexRun a ('/' :: '/' :: t) = ⟨[], a, .line⟩ := by
  exact lexRun_one (res := .skip .lineComment)
    (by rw [lexNext_slash, lexSlash, lexLineComment_plain a t h2, dropWhile_eq_nil_iff.mpr h1])

theorem lexRun_lineComment_nl (a : Bool) (t : List Char) (h1 : t.all (· != '\n') = true) (h2 : t.head? ≠ some '/') :
    lexRun a ('/' :: '/' :: (t ++ ['\n'])) = ⟨[], a, .closed⟩ := by
  have := lexRun_append a ('/' :: '/' :: t) ['\n'] (by rw [lexRun_lineComment a t h1 h2]; rfl)
  rw [lexRun_lineComment a t h1 h2] at this
  simp only [List.cons_append] at this
  rw [this, lexRun_newline]
  simp

def noClose : List Char → Bool
  | [] => true
  | c :: r => !(c == '*' && r.head? == some '/') && noClose r

theorem consumeBlock_body (star : Bool) (body rest : List Char) (h : noClose body = true)
    (hs : star = true → body.head? ≠ some '/') : consumeBlock star (body ++ '*' :: '/' :: rest) = some rest := by
  induction body generalizing star with
  | nil => simp [consumeBlock]
  | cons c body ih =>
    simp only [noClose, Bool.and_eq_true, Bool.not_eq_true'] at h
    -- `c` does not close the comment: after a star it is not a slash
    have hc : (c == '/' && star) = false := by
      cases star with
      | false => exact Bool.and_false _
      | true => simpa using hs rfl
    simp only [List.cons_append, consumeBlock, hc, Bool.false_eq_true, if_false]
    -- and if `c` is a star, no slash follows it
    refine ih _ h.2 fun hstar hh => ?_
    simp [hstar, hh] at h

theorem lexRun_blockComment (a : Bool) (body : List Char) (h : noClose body = true) :
    lexRun a ('/' :: '*' :: (body ++ ['*', '/'])) = ⟨[], a, .closed⟩ := by
  exact lexRun_one (res := .skip .blockComment)
    (by rw [lexNext_slash, lexSlash, consumeBlock_body false body [] h (fun e => by cases e)])

/-- what the extracted keyword table itself has to provide (the second conjunct: no spelling occurs with two kinds) -/
theorem keyword_table_rows : ∀ p ∈ Gen.sliceKeywords,
    isIdentText p.1.toList = true ∧ Gen.sliceKeywords.lookup p.1 = some p.2 := by decide +kernel

theorem lexRun_keyword {s k : String} (h : (s, k) ∈ Gen.sliceKeywords) :
    lexRun false s.toList = ⟨[.tok (.kw k)], false, .word⟩ := by
  obtain ⟨hw, hk⟩ := keyword_table_rows _ h
  rw [lexRun_word false _ hw]
  simp only [Bool.false_eq_true, if_false, checkKeyword, String.ofList_toList, hk]

/-- C02's `printer_escapes_every_keyword`: every spelling of the lexer's table is among the words the printer escapes -/
theorem keyword_table_subset : ∀ k ∈ Gen.sliceKeywords, keywords.contains k.1 = true := by decide +kernel

theorem checkKeyword_of_not_keyword (s : String) (h : keywords.contains s = false) :
    checkKeyword s.toList = .ident s.toList := by
  have hl : Gen.sliceKeywords.lookup s = none := by
    refine List.lookup_eq_none_iff.mpr fun p hp => bne_iff_ne.mpr fun e => ?_
    have := keyword_table_subset p hp
    rw [← e, h] at this
    cases this
  unfold checkKeyword
  rw [String.ofList_toList, hl]

theorem checkKeyword_of_escaped {s : String} {esc : Bool} (hesc : keywords.contains s = true → esc = true)
    (e : esc = false) : checkKeyword s.toList = .ident s.toList :=
  checkKeyword_of_not_keyword s (Bool.eq_false_iff.mpr fun hk => by rw [hesc hk] at e; cases e)

end Slicec.SLex
