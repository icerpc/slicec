/-
  The vocabulary of the two halves of `parse_print` (C02, parser half): the token sequences an abstract element may be
  written as. An element without optional commas has one token list (the `…Toks` functions of Model/SliceParser.lean and
  of this file); a list whose elements may each be followed by a comma has several, so an element is described by a
  `Shape`, a set of token lists.
-/
import SlicecVerif.Model.SliceParser

namespace Slicec.SPar

open Slicec Slicec.SLex

abbrev Shape := Toks → Prop

def OptComma (c : Toks) : Prop := c = [] ∨ c = [.comma]

/-- elements, each followed by an optional comma (`UndelimitedList`) -/
def SepShape : List Shape → Shape
  | [], T => T = []
  | S :: Ss, T => ∃ T1 c T2, S T1 ∧ OptComma c ∧ SepShape Ss T2 ∧ T = T1 ++ (c ++ T2)

/-- elements one after the other (`X*`) -/
def CatShape : List Shape → Shape
  | [], T => T = []
  | S :: Ss, T => ∃ T1 T2, S T1 ∧ CatShape Ss T2 ∧ T = T1 ++ T2

def withComma (S : Shape) : Shape := fun T => ∃ T1 c, S T1 ∧ OptComma c ∧ T = T1 ++ c

theorem catShape_of_sep {α : Type} (sh : α → Shape) :
    ∀ (xs : List α) (T : Toks), SepShape (xs.map sh) T → CatShape (xs.map fun x => withComma (sh x)) T
  | [], _, h => h
  | _ :: xs, _, ⟨T1, c, T2, h1, hc, h2, e⟩ =>
    ⟨T1 ++ c, T2, ⟨T1, c, h1, hc, rfl⟩, catShape_of_sep sh xs T2 h2, by rw [e, List.append_assoc]⟩

theorem sepShape_of_cat {α : Type} (sh : α → Shape) :
    ∀ (xs : List α) (T : Toks), CatShape (xs.map fun x => withComma (sh x)) T → SepShape (xs.map sh) T
  | [], _, h => h
  | _ :: xs, _, ⟨_, T2, ⟨T1, c, h1, hc, rfl⟩, h2, e⟩ =>
    ⟨T1, c, T2, h1, hc, sepShape_of_cat sh xs T2 h2, by rw [e, List.append_assoc]⟩

theorem catShape_flatMap {α : Type} (g : α → Toks) (xs : List α) :
    CatShape (xs.map fun x => (fun T => T = g x)) (xs.flatMap g) := by
  induction xs with
  | nil => simp [CatShape]
  | cons x xs ih => exact ⟨g x, xs.flatMap g, rfl, ih, by simp⟩

theorem catShape_append (A B : List Shape) (T1 T2 : Toks) (h1 : CatShape A T1) (h2 : CatShape B T2) :
    CatShape (A ++ B) (T1 ++ T2) := by
  induction A generalizing T1 with
  | nil => simp only [CatShape] at h1; subst h1; simpa using h2
  | cons S Ss ih =>
    obtain ⟨U1, U2, g1, g2, rfl⟩ := h1
    exact ⟨U1, U2 ++ T2, g1, ih U2 g2, by simp⟩

theorem argsToks_cons (x : String) (xs : List String) :
    argsToks (x :: xs) = argTok x :: xs.flatMap (fun y => [.comma, argTok y]) := by
  induction xs generalizing x with
  | nil => rfl
  | cons y ys ih => simp only [argsToks, ih y, List.flatMap_cons, List.cons_append, List.nil_append]

def fieldsSh (fs : List Field) : Shape := SepShape (fs.map fun f => (fun T => T = fieldToks f))
def paramsSh (ps : List Param) : Shape := SepShape (ps.map fun p => (fun T => T = paramToks p))

def RetSh : Ret → Shape
  | .none => fun T => T = []
  | .single tag stream ty => fun T => T = .arrow :: (tagToks tag ++ (streamToks stream ++ trefToks ty))
  | .tuple ps => fun T => ∃ Tp, paramsSh ps Tp ∧ T = .arrow :: .lparen :: (Tp ++ [.rparen])

def idemToks (b : Bool) : Toks := if b then [.kw "IdempotentKeyword"] else []

def OpSh (o : Op) : Shape := fun T => ∃ Tp Tr, paramsSh o.params Tp ∧ RetSh o.ret Tr ∧
  T = docToks o.doc ++ localAttrsToks o.attrs ++
    (idemToks o.idempotent ++ .ident o.name.toList :: .lparen :: (Tp ++ .rparen :: Tr))

def opsSh (os : List Op) : Shape := CatShape (os.map OpSh)

def valueToks : Option IntLit → Toks
  | none => []
  | some l => .equals :: intToks l

def EnumFieldsSh : Option (List Field) → Shape
  | none => fun T => T = []
  | some fs => fun T => ∃ T', fieldsSh fs T' ∧ T = .lparen :: (T' ++ [.rparen])

def EnumeratorSh (e : Enumerator) : Shape := fun T => ∃ Tf, EnumFieldsSh e.fields Tf ∧
  T = docToks e.doc ++ localAttrsToks e.attrs ++ (.ident e.name.toList :: (Tf ++ valueToks e.value))

def enumeratorsSh (es : List Enumerator) : Shape := SepShape (es.map EnumeratorSh)

def basesToks : List TRef → Toks
  | [] => []
  | b :: bs => .colon :: (trefToks b ++ bs.flatMap fun t => .comma :: trefToks t)

def underlyingToks : Option TRef → Toks
  | none => []
  | some u => .colon :: trefToks u

def flagToks (b : Bool) (kind : String) : Toks := if b then [.kw kind] else []

def DefSh : Def → Shape
  | .struct doc attrs compact name fields => fun T => ∃ Tf, fieldsSh fields Tf ∧
      T = docToks doc ++ localAttrsToks attrs ++
        (flagToks compact "CompactKeyword" ++ .kw "StructKeyword" :: .ident name.toList :: .lbrace :: (Tf ++ [.rbrace]))
  | .iface doc attrs name bases ops => fun T => ∃ To, opsSh ops To ∧
      T = docToks doc ++ localAttrsToks attrs ++
        (.kw "InterfaceKeyword" :: .ident name.toList :: (basesToks bases ++ .lbrace :: (To ++ [.rbrace])))
  | .enum doc attrs compact unchecked name underlying es => fun T => ∃ Te, enumeratorsSh es Te ∧
      T = docToks doc ++ localAttrsToks attrs ++
        (flagToks compact "CompactKeyword" ++ (flagToks unchecked "UncheckedKeyword" ++
          .kw "EnumKeyword" :: .ident name.toList :: (underlyingToks underlying ++ .lbrace :: (Te ++ [.rbrace]))))
  | .custom doc attrs name => fun T => T = docToks doc ++ localAttrsToks attrs ++ [.kw "CustomKeyword", .ident name.toList]
  | .alias doc attrs name ty => fun T =>
      T = docToks doc ++ localAttrsToks attrs ++ (.kw "TypeAliasKeyword" :: .ident name.toList :: .equals :: trefToks ty)

def defsSh (ds : List Def) : Shape := CatShape (ds.map DefSh)

def moduleToks : Option ModDecl → Toks
  | none => []
  | some m => localAttrsToks m.attrs ++ .kw "ModuleKeyword" :: nameToks m.path

/-- The shape of the token sequence of a file, with an optional comma behind every element of an `UndelimitedList`
    (fields, parameters, enumerators). The optional comma that may end a `NonEmptyCommaList` (base types, attribute
    arguments) is not part of the shape: the printer writes none. -/
def FileSh (f : SFile) : Shape := fun T => ∃ Td, defsSh f.defs Td ∧ T = fileAttrsToks f.fileAttrs ++ (moduleToks f.module ++ Td)

end Slicec.SPar
