/-
  Helper lemmas for the full pipeline `validateFull` (Model/Pipeline.lean): every phase it adds to `validate` reports nothing exactly when its
  declarative rule holds; decidability of the rules (through the mirrors of the code and C05's theorems about them).
-/
import SlicecVerif.Model.Pipeline
import SlicecVerif.Lemmas.Basic
import SlicecVerif.Lemmas.Validate
import SlicecVerif.Lemmas.Cycles

namespace Slicec.Validate

open Slicec

theorem tyIsName_iff (e : TyExpr) : tyIsName e = true ↔ ∃ id, e = .named id := by
  cases e <;> simp [tyIsName]

theorem tyIsAnonymous_false_iff (e : TyExpr) :
    tyIsAnonymous e = false ↔ (∀ x, e ≠ .seq x) ∧ (∀ k v, e ≠ .dict k v) ∧ (∀ s f, e ≠ .result s f) := by
  cases e <;> simp [tyIsAnonymous]

theorem defShapeB_iff (d : Def) : defShapeB d = true ↔ DefShapeOK d := by
  cases d with
  | iface doc attrs name bases ops =>
    simp only [defShapeB, DefShapeOK, List.all_eq_true]
    exact forall_congr' fun b => forall_congr' fun _ => tyIsName_iff b.ty
  | «enum» doc attrs compact unchecked name underlying es =>
    cases underlying with
    | none => simp [defShapeB, DefShapeOK]
    | some u =>
      simp only [defShapeB, DefShapeOK]
      rw [← tyIsAnonymous_false_iff]
      cases tyIsAnonymous u.ty <;> simp
  | _ => simp [defShapeB, DefShapeOK]

/-- the Boolean rule is the check: `construct_interface` / `construct_enum` report nothing exactly when it holds -/
theorem defShapeB_eq (d : Def) : defShapeB d = (defShapeCodes d).isEmpty := by
  cases d with
  | iface doc attrs name bases ops =>
    simp only [defShapeB, defShapeCodes, List.isEmpty_map]
    induction bases with
    | nil => rfl
    | cons b bs ih => rw [List.all_cons, List.filter_cons, ih]; cases tyIsName b.ty <;> rfl
  | «enum» doc attrs compact unchecked name underlying es =>
    cases underlying with
    | none => rfl
    | some u => simp only [defShapeB, defShapeCodes]; cases tyIsAnonymous u.ty <;> rfl
  | _ => rfl

theorem defShapeCodes_nil_iff (d : Def) : defShapeCodes d = [] ↔ DefShapeOK d := by
  rw [← List.isEmpty_iff, ← defShapeB_eq, defShapeB_iff]

theorem shapeB_iff (P : Program) : shapeB P = true ↔ ShapeOK P := by
  unfold shapeB ShapeOK
  simp only [List.all_eq_true, defShapeB_iff]

instance (P : Program) : Decidable (ShapeOK P) := decidable_of_iff _ (shapeB_iff P)

theorem fileShapeCodes_nil_iff (f : SFile) : fileShapeCodes f = [] ↔ ∀ d ∈ f.defs, DefShapeOK d := by
  unfold fileShapeCodes
  simp only [List.flatMap_eq_nil_iff, defShapeCodes_nil_iff]

theorem defShapeCodes_kind (d : Def) (c : String) (h : c ∈ defShapeCodes d) : c = code "TypeMismatch" := by
  cases d with
  | iface doc attrs name bases ops =>
    simp only [defShapeCodes, List.mem_map] at h
    obtain ⟨_, _, rfl⟩ := h; rfl
  | «enum» doc attrs compact unchecked name underlying es =>
    cases underlying with
    | none => cases h
    | some u =>
      simp only [defShapeCodes] at h
      split at h
      · exact List.mem_singleton.mp h
      · cases h
  | _ => cases h

theorem fileShapeCodes_kind (f : SFile) (c : String) (h : c ∈ fileShapeCodes f) : c = code "TypeMismatch" := by
  unfold fileShapeCodes at h
  obtain ⟨d, _, hd⟩ := List.mem_flatMap.mp h
  exact defShapeCodes_kind d c hd

theorem fileParseCodesFull_cases (f : SFile) :
    (fileShapeCodes f = [] ∧ fileParseCodesFull f = fileParseCodes f) ∨
    (fileShapeCodes f ≠ [] ∧ fileParseCodesFull f = fileActionCodes f ++ fileShapeCodes f) := by
  unfold fileParseCodesFull fileParseCodes fileActionCodesFull
  cases hs : fileShapeCodes f with
  | nil => exact .inl ⟨rfl, by rw [List.append_nil]⟩
  | cons x xs =>
    refine .inr ⟨List.cons_ne_nil _ _, if_neg ?_⟩
    rw [List.isEmpty_iff, List.append_eq_nil_iff]
    exact fun h => List.cons_ne_nil _ _ h.2

theorem fileParseCodesFull_nil_iff (f : SFile) :
    fileParseCodesFull f = [] ↔ fileParseCodes f = [] ∧ ∀ d ∈ f.defs, DefShapeOK d := by
  rw [← fileShapeCodes_nil_iff]
  rcases fileParseCodesFull_cases f with ⟨hs, h⟩ | ⟨hs, h⟩ <;> rw [h]
  · exact (and_iff_left hs).symm
  · exact ⟨fun e => absurd (List.append_eq_nil_iff.mp e).2 hs, fun e => absurd e.2 hs⟩

theorem parseCodesFull_nil_iff (P : Program) : parseCodesFull P = [] ↔ parseCodes P = [] ∧ ShapeOK P := by
  unfold parseCodesFull parseCodes ShapeOK
  simp only [List.flatMap_eq_nil_iff, fileParseCodesFull_nil_iff]
  exact ⟨fun h => ⟨fun f hf => (h f hf).1, fun f hf => (h f hf).2⟩, fun h f hf => ⟨h.1 f hf, h.2 f hf⟩⟩

theorem parseCodesFull_eq_of_shape (P : Program) (h : ShapeOK P) : parseCodesFull P = parseCodes P := by
  refine flatMap_congr_mem P _ _ fun f hf => ?_
  rcases fileParseCodesFull_cases f with ⟨_, e⟩ | ⟨hs, _⟩
  · exact e
  · exact absurd ((fileShapeCodes_nil_iff f).mpr (h f hf)) hs

theorem mem_fileParseCodes_of_action {f : SFile} {c : String} (h : c ∈ fileActionCodes f) : c ∈ fileParseCodes f := by
  unfold fileParseCodes
  rw [if_neg fun e => by rw [List.isEmpty_iff.mp e] at h; cases h]
  exact h

theorem parseCodesFull_mem (P : Program) (c : String) (h : c ∈ parseCodesFull P) :
    c ∈ parseCodes P ∨ (c = code "TypeMismatch" ∧ ¬ ShapeOK P) := by
  obtain ⟨f, hf, hc⟩ := List.mem_flatMap.mp h
  have inOld : c ∈ fileParseCodes f → c ∈ parseCodes P := fun hm => List.mem_flatMap.mpr ⟨f, hf, hm⟩
  rcases fileParseCodesFull_cases f with ⟨_, e⟩ | ⟨hs, e⟩ <;> rw [e] at hc
  · exact .inl (inOld hc)
  · rcases List.mem_append.mp hc with hc | hc
    · exact .inl (inOld (mem_fileParseCodes_of_action hc))
    · exact .inr ⟨fileShapeCodes_kind f c hc, fun hok => hs ((fileShapeCodes_nil_iff f).mpr (hok f hf))⟩

theorem aliasGateCodes_nil_iff (P : Program) : aliasGateCodes P = [] ↔ Cyc.aliasGateErrors P = [] := by
  unfold aliasGateCodes; rw [List.map_eq_nil_iff]

theorem inheritCodes_nil_iff (P : Program) : inheritCodes P = [] ↔ Cyc.ifaceLoopErrors (Cyc.igraphOfProgram P) = [] := by
  unfold inheritCodes; rw [List.map_eq_nil_iff]

theorem aliasGateErrors_eq (P : Program) :
    Cyc.aliasGateErrors P =
      (Cyc.aliasGate (Cyc.anonGraph P).1 (Cyc.anonGraph P).2).map fun a => ((Cyc.aliasDefs P).map (·.1)).getD a "" := rfl

/-- **the alias gate is exact**: `revisits_anonymous_type` reports no alias exactly when no alias leads into a cycle of
    anonymous types (`Cyc.mem_aliasGate` of Lemmas/Cycles.lean, lifted to the program) -/
theorem aliasGate_nil_iff_noLoop (P : Program) : Cyc.aliasGateErrors P = [] ↔ NoAliasLoop P := by
  rw [aliasGateErrors_eq, List.map_eq_nil_iff, List.eq_nil_iff_forall_not_mem]
  unfold NoAliasLoop
  constructor
  · intro h a x hs y hy hyy
    have hlt : a < (Cyc.anonGraph P).2.length :=
      Nat.lt_of_not_le fun hl => by rw [List.getD_eq_getElem?_getD, List.getElem?_eq_none hl] at hs; cases hs
    exact h a ((Cyc.mem_aliasGate _ _ a).2 ⟨hlt, x, hs, y, hy, hyy⟩)
  · intro h a hm
    obtain ⟨_, x, hs, y, hy, hyy⟩ := (Cyc.mem_aliasGate _ _ a).1 hm
    exact h a x hs y hy hyy

/-- **the inheritance check is exact**: no interface is reported exactly when no interface reaches itself through base
    references (`Cyc.ifaceLoopErrors_eq_nil_iff` of Lemmas/Cycles.lean at the program's graph) -/
theorem ifaceLoop_nil_iff_noLoop (P : Program) :
    Cyc.ifaceLoopErrors (Cyc.igraphOfProgram P) = [] ↔ NoInheritanceLoop P :=
  Cyc.ifaceLoopErrors_eq_nil_iff _

instance (P : Program) : Decidable (NoAliasLoop P) := decidable_of_iff _ (aliasGate_nil_iff_noLoop P)
instance (P : Program) : Decidable (NoInheritanceLoop P) := decidable_of_iff _ (ifaceLoop_nil_iff_noLoop P)

theorem cyclePhaseCodes_nil_iff (P : Program) :
    cyclePhaseCodes P = [] ↔ Cyc.ifaceLoopErrors (Cyc.igraphOfProgram P) = [] ∧ cycleRule.codes P = [] := by
  unfold cyclePhaseCodes
  rw [List.append_eq_nil_iff, inheritCodes_nil_iff]

theorem phasesFull_nil_iff (P : Program) :
    (∀ l ∈ phasesFull P, l = []) ↔
      (∀ l ∈ phases P, l = []) ∧ ShapeOK P ∧ Cyc.aliasGateErrors P = [] ∧ Cyc.ifaceLoopErrors (Cyc.igraphOfProgram P) = [] := by
  unfold phasesFull phases
  simp only [List.forall_mem_cons]
  rw [parseCodesFull_nil_iff, aliasGateCodes_nil_iff, cyclePhaseCodes_nil_iff]
  constructor
  · rintro ⟨⟨h1, hs⟩, h2, h3, ha, ⟨hi, h4⟩, h5, h6⟩
    exact ⟨⟨h1, h2, h3, h4, h5, h6⟩, hs, ha, hi⟩
  · rintro ⟨⟨h1, h2, h3, h4, h5, h6⟩, hs, ha, hi⟩
    exact ⟨⟨h1, hs⟩, h2, h3, ha, ⟨hi, h4⟩, h5, h6⟩

theorem mem_phasesFull (P : Program) (c : String) :
    c ∈ (phasesFull P).flatten ↔ c ∈ parseCodesFull P ∨ c ∈ aliasGateCodes P ∨ c ∈ inheritCodes P ∨
      c ∈ (gatedRules Gen.unvisitedTypeRefAttrsValidated).flatMap (·.codes P) := by
  simp only [phasesFull, cyclePhaseCodes, gatedRules, List.flatten_cons, List.flatten_nil, List.flatMap_cons, List.flatMap_append,
    List.flatMap_nil, List.append_nil, List.mem_append]
  grind

theorem validateFull_nil_iff (P : Program) :
    validateFull P = [] ↔
      validate P = [] ∧ ShapeOK P ∧ Cyc.aliasGateErrors P = [] ∧ Cyc.ifaceLoopErrors (Cyc.igraphOfProgram P) = [] := by
  unfold validateFull validate
  rw [firstNonEmpty_nil_iff, firstNonEmpty_nil_iff]
  exact phasesFull_nil_iff P

theorem validateFull_eq_validate (P : Program) (hs : ShapeOK P) (ha : Cyc.aliasGateErrors P = [])
    (hi : Cyc.ifaceLoopErrors (Cyc.igraphOfProgram P) = []) : validateFull P = validate P := by
  unfold validateFull validate phasesFull phases
  rw [parseCodesFull_eq_of_shape P hs, (aliasGateCodes_nil_iff P).mpr ha]
  unfold cyclePhaseCodes
  rw [(inheritCodes_nil_iff P).mpr hi, List.nil_append]
  simp only [firstNonEmpty, List.isEmpty_nil, if_true]

end Slicec.Validate

namespace Slicec

open Slicec.Validate

instance (P : Program) : Decidable (WellFormedFull P) := by unfold WellFormedFull; infer_instance
instance (c : String) (P : Program) : Decidable (ViolatesFull c P) := by unfold ViolatesFull; infer_instance

end Slicec
