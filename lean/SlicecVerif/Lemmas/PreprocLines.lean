/-
  C06, the character-level link.  `Reads f ls row pend S` says what the located token stream `S` of the raw lines `ls` of
  a file is, line by line.  The loop of `next()` (preprocessor/lexer.rs) is walked along the lines once
  (`lexPreLE_reads`); what is said about the lines of a file is then an induction on `Reads` that does not mention the
  lexer: here the token kinds (`lexPre_decl`) and whether there is a lexical error (`Reads.ok_iff`), in
  `Lemmas/PreprocErrSim.lean` the rows of the reported errors.
-/
import SlicecVerif.Lemmas.PreprocErrLines

namespace Slicec.Pp

def tailLines : List (List Char) → List Char
  | [] => []
  | l :: ls => '\n' :: (l ++ tailLines ls)

def joinLines : List (List Char) → List Char
  | [] => []
  | l :: ls => l ++ tailLines ls

theorem stopNl_tailLines (ls : List (List Char)) : stopNl (tailLines ls) := by
  cases ls <;> simp [tailLines, stopNl]

theorem splitLines_spec (f : List Char) :
    joinLines (splitLines f) = f ∧ (∀ l ∈ splitLines f, noNl l) ∧ splitLines f ≠ [] := by
  fun_induction splitLines f with
  | case1 => simp [joinLines, tailLines, noNl]
  | case2 c cs hs ih => exact absurd hs ih.2.2
  | case3 cs l ls hs ih =>
    rw [hs] at ih
    exact ⟨by rw [← ih.1]; rfl, List.forall_mem_cons.mpr ⟨noNl_nil, ih.2.1⟩, by simp⟩
  | case4 c cs l ls hs hc ih =>
    rw [hs] at ih
    obtain ⟨hl, hls⟩ := List.forall_mem_cons.mp ih.2.1
    exact ⟨by rw [← ih.1]; rfl, List.forall_mem_cons.mpr ⟨noNl_append (noNl_singleton hc) hl, hls⟩, by simp⟩

theorem splitLines_noNl (l : List Char) (h : noNl l) : splitLines l = [l] := by
  induction l with
  | nil => rfl
  | cons c l ih =>
    unfold splitLines
    rw [ih (fun x hx => h x (by simp [hx]))]
    simp [h c (by simp)]

def flushTok (f : List Char) (pend : Option Nat) (e : Nat) : List PTok :=
  match pend with
  | none => []
  | some p => [.block ⟨locAt f p, p, (f.drop p).take (e - p)⟩]

def declLine (f d tl : List Char) (pend : Option Nat) (k : Option Nat → Option (List PTok)) : Option (List PTok) :=
  match d with
  | [] => k pend
  | c :: d' =>
    if c = '#' then
      match dirLine (c :: d') with
      | none => none
      | some ts => (k none).map (fun rest => flushTok f pend (f.length - (c :: d' ++ tl).length) ++ ts ++ .dend :: rest)
    else k (some (pend.getD (f.length - (c :: d' ++ tl).length)))

/-- the declarative token stream of the lines `ls`; `pend` = start offset of the open source block, `none` = some
    directive line has a lexical error -/
def declLines (f : List Char) : List (List Char) → Option Nat → Option (List PTok)
  | [], pend => some (flushTok f pend f.length)
  | l :: ls, pend => declLine f (l.dropWhile isInlineWs) (tailLines ls) pend (declLines f ls)

/-- the tokens `bs` are the block open at `pend` closed at offset `e` (none when no block is open), ending on row `R` -/
def Flushed (f : List Char) (pend : Option Nat) (e R : Nat) (bs : List LTok) : Prop :=
  bs.map (·.tok) = flushTok f pend e ∧ ∀ t ∈ bs, t.e.row = R

/-- The located stream of the lines `ls`, the first of them on row `row`; `pend` is the start offset of the open source
    block.  A source line opens a block unless one is open; a directive line closes the open block in front of its `#`
    and gives its tokens, all on its row, then `DirectiveEnd`, or, cut by a lexical error on its row, the tokens in front
    of the error, of which all that is kept is that none is a `DirectiveEnd` or a block (the reports depend on no more);
    the end of the input closes the open block on the last row, `row - 1`. -/
inductive Reads (f : List Char) : List (List Char) → Nat → Option Nat → List LTok × Option LexErr → Prop
  | eof {row : Nat} {pend : Option Nat} {bs : List LTok} : Flushed f pend f.length (row - 1) bs → Reads f [] row pend (bs, none)
  | blank {l : List Char} {ls : List (List Char)} {row : Nat} {pend : Option Nat} {S : List LTok × Option LexErr} :
      l.dropWhile isInlineWs = [] → Reads f ls (row + 1) pend S → Reads f (l :: ls) row pend S
  | src {l : List Char} {ls : List (List Char)} {row : Nat} {pend : Option Nat} {S : List LTok × Option LexErr} {c : Char}
      {d : List Char} : l.dropWhile isInlineWs = c :: d → c ≠ '#' →
      Reads f ls (row + 1) (some (pend.getD (f.length - (c :: d ++ tailLines ls).length))) S → Reads f (l :: ls) row pend S
  | bad {l : List Char} {ls : List (List Char)} {row : Nat} {pend : Option Nat} {bs ts : List LTok} {e : LexErr}
      {d : List Char} : noNl l → l.dropWhile isInlineWs = '#' :: d → dirLine ('#' :: d) = none →
      Flushed f pend (f.length - ('#' :: d ++ tailLines ls).length) row bs →
      (∀ t ∈ ts, t.tok ≠ .dend ∧ t.tok.notBlock) → e.s.row = row → e.e.row = row →
      Reads f (l :: ls) row pend (bs ++ ts, some e)
  | dir {l : List Char} {ls : List (List Char)} {row : Nat} {pend : Option Nat} {bs ts : List LTok} {dd : LTok}
      {S : List LTok × Option LexErr} {d : List Char} : noNl l → l.dropWhile isInlineWs = '#' :: d →
      dirLine ('#' :: d) = some (ts.map (·.tok)) →
      Flushed f pend (f.length - ('#' :: d ++ tailLines ls).length) row bs → dd.tok = .dend →
      (∀ t ∈ ts ++ [dd], t.s.row = row ∧ t.e.row = row) → Reads f ls (row + 1) none S →
      Reads f (l :: ls) row pend (bs ++ (ts ++ dd :: S.1), S.2)

theorem Cur.adv_row_nl (c : Cur) (r : List Char) (h : c.rest = '\n' :: r) : c.adv.loc.row = c.loc.row + 1 := by
  obtain ⟨rest, o, l⟩ := c
  simp only at h
  subst h
  simp [Cur.adv, advance]

theorem skip_indent (f l tl : List Char) (cur : Cur) (hinv : CurInv f cur) (hrest : cur.rest = l ++ tl) (htl : stopNl tl) :
    cur.skipWs.rest = l.dropWhile isInlineWs ++ tl ∧ CurInv f cur.skipWs ∧
    (l.dropWhile isInlineWs ++ tl).length ≤ (l ++ tl).length ∧ cur.skipWs.loc.row = cur.loc.row := by
  refine ⟨?_, (eats_skipWs cur).inv hinv, ?_, Cur.skipWs_row cur⟩
  · rw [Cur.skipWs_rest, hrest]
    exact dropWhile_append_stop _ isInlineWs_nl _ _ htl
  · have := length_dropWhile_le isInlineWs l
    simp only [List.length_append]
    omega

theorem skip_line (f d tl : List Char) (cur : Cur) (hinv : CurInv f cur) (hrest : cur.rest = d ++ tl) (hd : noNl d)
    (htl : stopNl tl) :
    cur.toEol.skipWs.rest = tl ∧ CurInv f cur.toEol.skipWs ∧ cur.toEol.skipWs.loc.row = cur.loc.row := by
  refine ⟨?_, ((eats_toEol cur).trans (eats_skipWs _)).inv hinv, by rw [Cur.skipWs_row, Cur.toEol_row]⟩
  rw [Cur.skipWs_rest, Cur.toEol_rest, hrest, dropWhile_append_stop notNewline notNewline_nl d tl htl,
    dropWhile_notNewline_noNl d hd, List.nil_append]
  exact dropWhile_stop _ isInlineWs_nl _ htl

theorem lexES_eof (f : List Char) (st : LexSt) (hm : st.mode = .unknown) (h : st.cur.rest = []) : lexES f st = ([], none) := by
  rw [lexES_unfold]
  unfold lexNext
  have hr2 : (st.cur.skipWs).rest = [] := by rw [Cur.skipWs_rest, h]; rfl
  rw [nextLoop_nil f _ _ none hr2]
  simp only [hm]
  rfl

def ModeOK (f : List Char) (m : Mode) (start : Option (Loc × Nat)) (pend : Option Nat) : Prop :=
  (m = .unknown ∧ start = none ∧ pend = none) ∨ (m = .sourceBlock ∧ ∃ p, start = some (locAt f p, p) ∧ pend = some p)

theorem ModeOK.notDir {f : List Char} {m : Mode} {start : Option (Loc × Nat)} {pend : Option Nat}
    (h : ModeOK f m start pend) : m ≠ .directive := by
  rcases h with ⟨h, _⟩ | ⟨h, _⟩ <;> rw [h] <;> simp

theorem mkBlock_some (f : List Char) (p e : Nat) (cursor : Loc) :
    mkBlock f (some (locAt f p, p)) e cursor = .ok ⟨locAt f p, .block ⟨locAt f p, p, (f.drop p).take (e - p)⟩, cursor⟩ := rfl

/-- inside a call of `next()` with fuel `n` the lexer stands outside a directive, at the input `tl` on row `row`, with
    the block `pend` open -/
structure Outside (f tl : List Char) (row : Nat) (pend : Option Nat) (n : Nat) (st : LexSt) (start : Option (Loc × Nat)) :
    Prop where
  rest : st.cur.rest = tl
  inv : CurInv f st.cur
  fuel : tl.length + 1 ≤ n
  row : st.cur.loc.row = row
  mode : ModeOK f st.mode start pend

theorem nextLoop_newline {f l tl : List Char} {row n : Nat} {pend : Option Nat} {st : LexSt} {start : Option (Loc × Nat)}
    (h : Outside f ('\n' :: (l ++ tl)) row pend (n + 1) st start) (htl : stopNl tl) :
    nextLoop f (n + 1) st start = nextLoop f n { st with cur := st.cur.adv.skipWs } start ∧
    Outside f (l.dropWhile isInlineWs ++ tl) (row + 1) pend n { st with cur := st.cur.adv.skipWs } start := by
  obtain ⟨hrest, hinv, hn, hrow, hmode⟩ := h
  obtain ⟨hr2, hinv2, hlen, hrow2⟩ := skip_indent f l tl st.cur.adv ((eats_adv st.cur).inv hinv)
    (by rw [Cur.adv_rest, hrest]; rfl) htl
  rw [Cur.adv_row_nl st.cur _ hrest, hrow] at hrow2
  exact ⟨by rw [nextLoop_cons f n st start '\n' (l ++ tl) hrest, if_neg hmode.notDir, if_pos rfl],
    hr2, hinv2, by simp only [List.length_cons] at hn; omega, hrow2, hmode⟩

theorem lexPreLE_first (f l : List Char) (ls : List (List Char)) (hj : l ++ tailLines ls = f) :
    ∃ n st, lexPreLE f = contE f (nextLoop f n st none) ∧
      Outside f (l.dropWhile isInlineWs ++ tailLines ls) 1 none n st none := by
  obtain ⟨hr2, hinv2, hlen, hrow2⟩ := skip_indent f l (tailLines ls) (lexInit f).cur ⟨Nat.zero_le _, rfl, rfl⟩ hj.symm
    (stopNl_tailLines ls)
  rw [hj] at hlen
  exact ⟨f.length + 1, { lexInit f with cur := (lexInit f).cur.skipWs }, by rw [lexPreLE_eq_S, lexES_unfold]; rfl,
    hr2, hinv2, Nat.succ_le_succ hlen, hrow2, Or.inl ⟨rfl, rfl, rfl⟩⟩

/-- `hk`, what the remaining lines give, is asked of any state at the end of the line: that end is reached in three ways
    (nothing on the line, a source line skipped, the `DirectiveEnd` of a directive) -/
theorem reads_line (f l : List Char) (ls : List (List Char)) (row : Nat) (hl : noNl l)
    (hk : ∀ n st start pend, Outside f (tailLines ls) row pend n st start →
      Reads f ls (row + 1) pend (contE f (nextLoop f n st start))) :
    ∀ n st start pend, Outside f (l.dropWhile isInlineWs ++ tailLines ls) row pend n st start →
      Reads f (l :: ls) row pend (contE f (nextLoop f n st start)) := by
  intro n st start pend ⟨hrest, hinv, hn, hrow, hmode⟩
  have hdn : noNl (l.dropWhile isInlineWs) := noNl_of_suffix (List.dropWhile_suffix _) hl
  have htl := stopNl_tailLines ls
  cases hd : l.dropWhile isInlineWs with
  | nil =>
    rw [hd] at hrest hn
    exact .blank hd (hk n st start pend ⟨hrest, hinv, hn, hrow, hmode⟩)
  | cons c d' =>
    rw [hd] at hrest hn hdn
    have hc : c ≠ '\n' := hdn c (by simp)
    have hd' : noNl d' := fun x hx => hdn x (by simp [hx])
    simp only [List.cons_append] at hrest
    simp only [List.cons_append, List.length_cons] at hn
    obtain ⟨n, rfl⟩ := exists_add_one_of_le hn
    have hnl := nextLoop_cons f n st start c (d' ++ tailLines ls) hrest
    rw [if_neg hmode.notDir, if_neg hc] at hnl
    have hoff : st.cur.off = f.length - (c :: d' ++ tailLines ls).length := by
      rw [hinv.off_eq, hrest]; rfl
    by_cases hh : c = '#'
    · subst hh
      -- the located line from the `#` on, behind the block `bs` that the `#` closes
      have hline : ∀ bs, Flushed f pend (f.length - ('#' :: d' ++ tailLines ls).length) row bs →
          Reads f (l :: ls) row pend (bs ++ (contE f (hashRes st.cur)).1, (contE f (hashRes st.cur)).2) := by
        intro bs hbs
        have hspec := hash_line f d' (tailLines ls) st.cur hinv hrest hd' htl
        rw [hrow] at hspec
        cases hdl : dirLine ('#' :: d') with
        | none =>
          rw [hdl] at hspec
          obtain ⟨ts, e, hS, hts, he1, he2⟩ := hspec
          rw [hS]
          exact .bad hl hd hdl hbs hts he1 he2
        | some ks =>
          rw [hdl] at hspec
          obtain ⟨ts, dd, hS, hks, hdd, hrows, hci, hcr⟩ := hspec
          subst hks
          obtain ⟨hS2, hr2⟩ := lexES_stAt f (tailLines ls) htl
          have hcont := hk _ ⟨(curOf f (tailLines ls)).skipWs, .unknown⟩ none none
            ⟨hr2, (eats_skipWs _).inv hci, Nat.le_refl _, by rw [Cur.skipWs_row]; exact hcr, Or.inl ⟨rfl, rfl, rfl⟩⟩
          rw [← hS2] at hcont
          rw [hS]
          exact .dir hl hd hdl hbs hdd hrows hcont
      rcases hmode with ⟨hm, hs, hp⟩ | ⟨hm, p, hs, hp⟩
      · -- mode Unknown: the keyword is lexed at once
        subst hs hp
        rw [nextLoop_hash f n st none (d' ++ tailLines ls) hrest hm]
        simpa only [List.nil_append, Prod.eta] using hline [] ⟨rfl, fun _ h => nomatch h⟩
      · -- mode SourceBlock: the block ends in front of the `#`
        subst hs hp
        rw [hnl, if_pos rfl]
        simp only [hm]
        rw [mkBlock_some]
        simp only [contE]
        rw [lexES_hash f { st with mode := .directive } (d' ++ tailLines ls) rfl hrest]
        exact hline [_] ⟨by rw [hoff]; rfl, fun t ht => by rw [List.mem_singleton.mp ht]; exact hrow⟩
    · rw [hnl, if_neg hh]
      obtain ⟨hr3, hinv3, hrow3⟩ := skip_line f (c :: d') (tailLines ls) st.cur hinv hrest hdn htl
      refine .src hd hh (hk n ⟨st.cur.toEol.skipWs, .sourceBlock⟩ _ _
        ⟨hr3, hinv3, by simp only [List.length_append] at hn ⊢; omega, hrow3.trans hrow, ?_⟩)
      rcases hmode with ⟨hm, hs, hp⟩ | ⟨hm, p, hs, hp⟩
      · subst hs hp
        exact Or.inr ⟨rfl, st.cur.off, by simp only [hm, ↓reduceIte]; rw [hinv.loc], by simp only [Option.getD]; rw [hoff]⟩
      · subst hs hp
        exact Or.inr ⟨rfl, p, by simp [hm], rfl⟩

theorem reads_lines (f : List Char) : ∀ (ls : List (List Char)), (∀ l ∈ ls, noNl l) →
    ∀ row n st start pend, Outside f (tailLines ls) row pend n st start →
      Reads f ls (row + 1) pend (contE f (nextLoop f n st start)) := by
  intro ls
  induction ls with
  | nil =>
    intro _ row n st start pend ⟨hrest, hinv, hn, hrow, hmode⟩
    obtain ⟨n, rfl⟩ := exists_add_one_of_le hn
    rw [nextLoop_nil f n st start hrest]
    rcases hmode with ⟨hm, hs, hp⟩ | ⟨hm, p, hs, hp⟩
    · subst hs hp
      simp only [hm]
      exact .eof ⟨rfl, fun _ h => nomatch h⟩
    · subst hs hp
      simp only [hm]
      rw [mkBlock_some]
      simp only [contE]
      rw [lexES_eof f { st with mode := .unknown } rfl hrest]
      exact .eof ⟨rfl, fun t ht => by rw [List.mem_singleton.mp ht]; exact hrow⟩
  | cons l ls ih =>
    intro hnl row n st start pend hO
    obtain ⟨hl, hls⟩ := List.forall_mem_cons.mp hnl
    obtain ⟨n, rfl⟩ := exists_add_one_of_le hO.fuel
    obtain ⟨hstep, hO2⟩ := nextLoop_newline hO (stopNl_tailLines ls)
    rw [hstep]
    exact reads_line f l ls (row + 1) hl (ih hls (row + 1)) n _ start pend hO2

/-- the theorem behind `C06.lexer_reads_lines` (token kinds, `Reads.kinds`), `C06.lexer_ok_iff_lines_ok` (whether there
    is a lexical error, `Reads.ok_iff`) and `sim_file` (rows of the reports, `Reads.sim`) -/
theorem lexPreLE_reads (f : List Char) : Reads f (splitLines f) 1 none (lexPreLE f) := by
  obtain ⟨hj, hnl, hne⟩ := splitLines_spec f
  cases hs : splitLines f with
  | nil => exact absurd hs hne
  | cons l ls =>
    rw [hs] at hj hnl
    obtain ⟨hl, hls⟩ := List.forall_mem_cons.mp hnl
    obtain ⟨n, st, hfirst, hO⟩ := lexPreLE_first f l ls hj
    rw [hfirst]
    exact reads_line f l ls 1 hl (reads_lines f ls hls 1) n st none none hO

def kindsOf (S : List LTok × Option LexErr) : Option (List PTok) :=
  match S.2 with
  | none => some (S.1.map (·.tok))
  | some _ => none

theorem Reads.kinds {f : List Char} {ls : List (List Char)} {row : Nat} {pend : Option Nat} {S : List LTok × Option LexErr}
    (h : Reads f ls row pend S) : kindsOf S = declLines f ls pend := by
  induction h with
  | eof hb => simp only [kindsOf, declLines, hb.1]
  | blank hd _ ih => rw [declLines, hd]; exact ih
  | src hd hc _ ih => rw [declLines, hd, declLine, if_neg hc]; exact ih
  | bad _ hd hdl _ _ _ _ => rw [declLines, hd, declLine, if_pos rfl, hdl]; rfl
  | @dir _ _ _ _ _ _ _ S _ _ hd hdl hb hdd _ _ ih =>
    rw [declLines, hd, declLine, if_pos rfl, hdl, ← ih]
    unfold kindsOf
    cases S.2 <;> simp [hb.1, hdd]

theorem lexPre_decl (f : List Char) : kindsOf (lexPreLE f) = declLines f (splitLines f) none :=
  (lexPreLE_reads f).kinds

theorem kindsOf_lexPreLE (f : List Char) : kindsOf (lexPreLE f) = (match lexPre f with | .ok t => some t | .error _ => none) := by
  rw [lexPre_of_E]
  unfold kindsOf
  cases (lexPreLE f).2 <;> rfl

theorem lexPre_ok_iff (f : List Char) (toks : List PTok) :
    lexPre f = .ok toks ↔ declLines f (splitLines f) none = some toks := by
  rw [← lexPre_decl, kindsOf_lexPreLE]
  cases lexPre f <;> simp

theorem lexPre_dirline (l d' : List Char) (hl : noNl l) (hd : l.dropWhile isInlineWs = '#' :: d') :
    (∀ ts, dirLine ('#' :: d') = some ts → lexPre l = .ok (ts ++ [.dend])) ∧
    (dirLine ('#' :: d') = none → ∃ e, lexPre l = .error e) := by
  have h := (kindsOf_lexPreLE l).symm.trans (lexPre_decl l)
  rw [splitLines_noNl l hl] at h
  simp only [declLines, hd, declLine, ↓reduceIte, flushTok, List.nil_append] at h
  refine ⟨fun ts hdl => ?_, fun hdl => ?_⟩ <;> rw [hdl] at h
  · cases hlex : lexPre l with
    | error e => rw [hlex] at h; cases h
    | ok t => rw [hlex] at h; cases h; rfl
  · cases hlex : lexPre l with
    | error e => exact ⟨e, rfl⟩
    | ok t => rw [hlex] at h; cases h

def isDirLine (l : List Char) : Prop := ∃ d', l.dropWhile isInlineWs = '#' :: d'

theorem Reads.ok_iff {f : List Char} {ls : List (List Char)} {row : Nat} {pend : Option Nat} {S : List LTok × Option LexErr}
    (h : Reads f ls row pend S) :
    S.2 = none ↔ ∀ l ∈ ls, ∀ d', l.dropWhile isInlineWs = '#' :: d' → dirLine ('#' :: d') ≠ none := by
  induction h with
  | eof _ => simp
  | blank hd _ ih =>
    rw [ih, List.forall_mem_cons, hd]
    exact ⟨fun h => ⟨nofun, h⟩, fun h => h.2⟩
  | src hd hc _ ih =>
    rw [ih, List.forall_mem_cons, hd]
    exact ⟨fun h => ⟨fun d' e => absurd (List.cons.inj e).1 hc, h⟩, fun h => h.2⟩
  | bad _ hd hdl _ _ _ _ => exact ⟨nofun, fun h => absurd hdl (h _ (List.mem_cons_self ..) _ hd)⟩
  | dir _ hd hdl _ _ _ _ ih =>
    rw [ih, List.forall_mem_cons, hd]
    exact ⟨fun h => ⟨fun d' e => by cases e; rw [hdl]; nofun, h⟩, fun h => h.2⟩

end Slicec.Pp
