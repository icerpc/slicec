/-
  The token sequence of a printed file has the shape the parser inverts (C02, parser half):
  for every printer function of Model/Print.lean, `tokensWith` of its items is the structural token list of
  Model/SliceParser.lean (`EmitsL`, a literal token list: the comma choices are not touched) or a sequence of the element's
  shape (`EmitsR`, a relation: optional commas written or not, as the choice list says).
-/
import SlicecVerif.Lemmas.SliceLexerLeaves
import SlicecVerif.Lemmas.SliceParserShapes
import SlicecVerif.Lemmas.SliceParserSimp

namespace Slicec.SPar

open Slicec Slicec.SLex

/-- the items denote exactly `ts` and leave the attribute mode `a'`; the comma choices are not consumed -/
def EmitsL (a : Bool) (items : List Item) (ts : Toks) (a' : Bool) : Prop :=
  ∀ cs R, tokensWith a cs (items ++ R) = ts ++ tokensWith a' cs R

/-- the items denote a sequence of shape `S`, whatever the comma choices are; neither the sequence nor the choices left
    over depend on what follows -/
def EmitsR (a : Bool) (items : List Item) (S : Shape) (a' : Bool) : Prop :=
  ∀ cs, ∃ T cs', S T ∧ ∀ R, tokensWith a cs (items ++ R) = T ++ tokensWith a' cs' R

theorem EmitsL.nil (a : Bool) : EmitsL a [] [] a := fun _ _ => rfl

theorem EmitsL.append {a b c : Bool} {i1 i2 : List Item} {t1 t2 : Toks} (h1 : EmitsL a i1 t1 b) (h2 : EmitsL b i2 t2 c) :
    EmitsL a (i1 ++ i2) (t1 ++ t2) c := by
  intro cs R
  rw [List.append_assoc, h1, h2, List.append_assoc]

/-- an `EmitsL` fact as a rewrite rule -/
theorem EmitsL.tw {a b : Bool} {i : List Item} {t : Toks} (h : EmitsL a i t b) (cs : List Bool) (R : List Item) :
    tokensWith a cs (i ++ R) = t ++ tokensWith b cs R := h cs R

theorem EmitsL.toR {a b : Bool} {i : List Item} {t : Toks} (h : EmitsL a i t b) : EmitsR a i (fun T => T = t) b :=
  fun cs => ⟨t, cs, rfl, h cs⟩

theorem tw_tok (a : Bool) (cs : List Bool) (s : String) (r : List Item) :
    tokensWith a cs (.tok s :: r) = toksOf (lexRun a s.toList).items ++ tokensWith (lexRun a s.toList).attr cs r := rfl

theorem tw_ident (a : Bool) (cs : List Bool) (s : String) (r : List Item) :
    tokensWith a cs (.ident s :: r) = .ident s.toList :: tokensWith a cs r := rfl

theorem tw_glue (a : Bool) (cs : List Bool) (r : List Item) : tokensWith a cs (.glue :: r) = tokensWith a cs r := by
  cases cs <;> rfl
theorem tw_sp (a : Bool) (cs : List Bool) (r : List Item) : tokensWith a cs (.sp :: r) = tokensWith a cs r := by
  cases cs <;> rfl
theorem tw_nl (a : Bool) (cs : List Bool) (n : Nat) (r : List Item) : tokensWith a cs (.nl n :: r) = tokensWith a cs r := by
  cases cs <;> rfl
theorem tw_op (a : Bool) (cs : List Bool) (p : String) (r : List Item) : tokensWith a cs (.op p :: r) = tokensWith a cs r := by
  cases cs <;> rfl
theorem tw_cl (a : Bool) (cs : List Bool) (p : String) (r : List Item) : tokensWith a cs (.cl p :: r) = tokensWith a cs r := by
  cases cs <;> rfl

/-- a constant spelling: the caller evaluates `lexRun` on it (`h`) -/
theorem tw_const (a a' : Bool) (s : String) (ts : Toks)
    (h : toksOf (lexRun a s.toList).items = ts ∧ (lexRun a s.toList).attr = a') (cs : List Bool) (r : List Item) :
    tokensWith a cs (.tok s :: r) = ts ++ tokensWith a' cs r := by
  rw [tw_tok, h.1, h.2]

theorem tw_kw {s k : String} (h : (s, k) ∈ Gen.sliceKeywords) (cs : List Bool) (r : List Item) :
    tokensWith false cs (.tok s :: r) = .kw k :: tokensWith false cs r := by
  rw [tw_tok, lexRun_keyword h]
  rfl

theorem tw_struct (cs : List Bool) (r : List Item) : tokensWith false cs (.tok "struct" :: r) = .kw "StructKeyword" :: tokensWith false cs r :=
  tw_kw (by decide +kernel) cs r
theorem tw_compact (cs : List Bool) (r : List Item) : tokensWith false cs (.tok "compact" :: r) = .kw "CompactKeyword" :: tokensWith false cs r :=
  tw_kw (by decide +kernel) cs r
theorem tw_enum (cs : List Bool) (r : List Item) : tokensWith false cs (.tok "enum" :: r) = .kw "EnumKeyword" :: tokensWith false cs r :=
  tw_kw (by decide +kernel) cs r
theorem tw_unchecked (cs : List Bool) (r : List Item) : tokensWith false cs (.tok "unchecked" :: r) = .kw "UncheckedKeyword" :: tokensWith false cs r :=
  tw_kw (by decide +kernel) cs r
theorem tw_interface (cs : List Bool) (r : List Item) : tokensWith false cs (.tok "interface" :: r) = .kw "InterfaceKeyword" :: tokensWith false cs r :=
  tw_kw (by decide +kernel) cs r
theorem tw_custom (cs : List Bool) (r : List Item) : tokensWith false cs (.tok "custom" :: r) = .kw "CustomKeyword" :: tokensWith false cs r :=
  tw_kw (by decide +kernel) cs r
theorem tw_typealias (cs : List Bool) (r : List Item) : tokensWith false cs (.tok "typealias" :: r) = .kw "TypeAliasKeyword" :: tokensWith false cs r :=
  tw_kw (by decide +kernel) cs r
theorem tw_module (cs : List Bool) (r : List Item) : tokensWith false cs (.tok "module" :: r) = .kw "ModuleKeyword" :: tokensWith false cs r :=
  tw_kw (by decide +kernel) cs r
theorem tw_tag (cs : List Bool) (r : List Item) : tokensWith false cs (.tok "tag" :: r) = .kw "TagKeyword" :: tokensWith false cs r :=
  tw_kw (by decide +kernel) cs r
theorem tw_stream (cs : List Bool) (r : List Item) : tokensWith false cs (.tok "stream" :: r) = .kw "StreamKeyword" :: tokensWith false cs r :=
  tw_kw (by decide +kernel) cs r
theorem tw_idempotent (cs : List Bool) (r : List Item) : tokensWith false cs (.tok "idempotent" :: r) = .kw "IdempotentKeyword" :: tokensWith false cs r :=
  tw_kw (by decide +kernel) cs r
theorem tw_sequence (cs : List Bool) (r : List Item) : tokensWith false cs (.tok "Sequence" :: r) = .kw "SequenceKeyword" :: tokensWith false cs r :=
  tw_kw (by decide +kernel) cs r
theorem tw_dictionary (cs : List Bool) (r : List Item) : tokensWith false cs (.tok "Dictionary" :: r) = .kw "DictionaryKeyword" :: tokensWith false cs r :=
  tw_kw (by decide +kernel) cs r
theorem tw_result (cs : List Bool) (r : List Item) : tokensWith false cs (.tok "Result" :: r) = .kw "ResultKeyword" :: tokensWith false cs r :=
  tw_kw (by decide +kernel) cs r

theorem tw_punct (a : Bool) (s : String) (t : SliceTok)
    (h : ∀ a, toksOf (lexRun a s.toList).items = [t] ∧ (lexRun a s.toList).attr = a)
    (cs : List Bool) (r : List Item) : tokensWith a cs (.tok s :: r) = t :: tokensWith a cs r :=
  tw_const a a s [t] (h a) cs r

theorem tw_lparen (a : Bool) (cs : List Bool) (r : List Item) : tokensWith a cs (.tok "(" :: r) = .lparen :: tokensWith a cs r :=
  tw_punct a "(" .lparen (by decide +kernel) cs r
theorem tw_rparen (a : Bool) (cs : List Bool) (r : List Item) : tokensWith a cs (.tok ")" :: r) = .rparen :: tokensWith a cs r :=
  tw_punct a ")" .rparen (by decide +kernel) cs r
theorem tw_lbrace (a : Bool) (cs : List Bool) (r : List Item) : tokensWith a cs (.tok "{" :: r) = .lbrace :: tokensWith a cs r :=
  tw_punct a "{" .lbrace (by decide +kernel) cs r
theorem tw_rbrace (a : Bool) (cs : List Bool) (r : List Item) : tokensWith a cs (.tok "}" :: r) = .rbrace :: tokensWith a cs r :=
  tw_punct a "}" .rbrace (by decide +kernel) cs r
theorem tw_lchevron (a : Bool) (cs : List Bool) (r : List Item) : tokensWith a cs (.tok "<" :: r) = .lchevron :: tokensWith a cs r :=
  tw_punct a "<" .lchevron (by decide +kernel) cs r
theorem tw_rchevron (a : Bool) (cs : List Bool) (r : List Item) : tokensWith a cs (.tok ">" :: r) = .rchevron :: tokensWith a cs r :=
  tw_punct a ">" .rchevron (by decide +kernel) cs r
theorem tw_comma (a : Bool) (cs : List Bool) (r : List Item) : tokensWith a cs (.tok "," :: r) = .comma :: tokensWith a cs r :=
  tw_punct a "," .comma (by decide +kernel) cs r
theorem tw_equals (a : Bool) (cs : List Bool) (r : List Item) : tokensWith a cs (.tok "=" :: r) = .equals :: tokensWith a cs r :=
  tw_punct a "=" .equals (by decide +kernel) cs r
theorem tw_qmark (a : Bool) (cs : List Bool) (r : List Item) : tokensWith a cs (.tok "?" :: r) = .qmark :: tokensWith a cs r :=
  tw_punct a "?" .qmark (by decide +kernel) cs r
theorem tw_arrow (a : Bool) (cs : List Bool) (r : List Item) : tokensWith a cs (.tok "->" :: r) = .arrow :: tokensWith a cs r :=
  tw_punct a "->" .arrow (by decide +kernel) cs r
theorem tw_colon (a : Bool) (cs : List Bool) (r : List Item) : tokensWith a cs (.tok ":" :: r) = .colon :: tokensWith a cs r :=
  tw_punct a ":" .colon (by decide +kernel) cs r
theorem tw_minus (a : Bool) (cs : List Bool) (r : List Item) : tokensWith a cs (.tok "-" :: r) = .minus :: tokensWith a cs r :=
  tw_punct a "-" .minus (by decide +kernel) cs r

theorem tw_lbracket (a : Bool) (cs : List Bool) (r : List Item) :
    tokensWith a cs (.tok "[" :: r) = .lbracket :: tokensWith true cs r :=
  tw_const a true "[" [.lbracket] (by cases a <;> decide +kernel) cs r
theorem tw_rbracket (a : Bool) (cs : List Bool) (r : List Item) :
    tokensWith a cs (.tok "]" :: r) = .rbracket :: tokensWith false cs r :=
  tw_const a false "]" [.rbracket] (by cases a <;> decide +kernel) cs r
theorem tw_dlbracket (a : Bool) (cs : List Bool) (r : List Item) :
    tokensWith a cs (.tok "[[" :: r) = .dlbracket :: tokensWith true cs r :=
  tw_const a true "[[" [.dlbracket] (by cases a <;> decide +kernel) cs r
theorem tw_drbracket (a : Bool) (cs : List Bool) (r : List Item) :
    tokensWith a cs (.tok "]]" :: r) = .drbracket :: tokensWith false cs r :=
  tw_const a false "]]" [.drbracket] (by cases a <;> decide +kernel) cs r

attribute [tokens_with] List.append_assoc List.cons_append List.nil_append
  tw_ident tw_glue tw_sp tw_nl tw_op tw_cl tw_struct tw_compact tw_enum tw_unchecked tw_interface tw_custom
  tw_typealias tw_module tw_tag tw_stream tw_idempotent tw_sequence tw_dictionary tw_result tw_lparen tw_rparen tw_lbrace tw_rbrace
  tw_lchevron tw_rchevron tw_comma tw_equals tw_qmark tw_arrow tw_colon tw_minus tw_lbracket tw_rbracket tw_dlbracket tw_drbracket

theorem tw_arg (x : String) (hx : x.toList.contains '\n' = false) (cs : List Bool) (r : List Item) :
    tokensWith true cs ((if isIdentLike x && !(keywords.contains x) then Item.tok x else Item.tok ("\"" ++ escapeStrLit x ++ "\"")) :: r) =
      argTok x :: tokensWith true cs r := by
  unfold argTok
  split
  · rename_i hc
    simp only [Bool.and_eq_true] at hc
    have hid : isIdentText x.toList = true := by rw [← isIdentLike_eq]; exact hc.1
    rw [tw_tok, lexRun_word true _ hid]
    rfl
  · rw [tw_tok, quoted_toList, lexRun_quoted true _ hx]
    rfl

theorem emitsL_flatMap_zipIdx {α : Type} (f : α × Nat → List Item) (g : α → Toks) (a : Bool) (xs : List α) (k : Nat)
    (h : ∀ x ∈ xs, ∀ i, k ≤ i → EmitsL a (f (x, i)) (g x) a) : EmitsL a ((xs.zipIdx k).flatMap f) (xs.flatMap g) a := by
  induction xs generalizing k with
  | nil => exact EmitsL.nil a
  | cons x xs ih =>
    rw [List.zipIdx_cons, List.flatMap_cons, List.flatMap_cons]
    exact EmitsL.append (h x (by simp) k (Nat.le_refl k)) (ih (k + 1) (fun y hy i hi => h y (by simp [hy]) i (by omega)))

theorem emits_comma_sp {a : Bool} : EmitsL a [.glue, .tok ",", .sp] [.comma] a := fun cs R => by simp only [tokens_with]

/-- a non-empty list written with a separator `sep` in front of every element but the first (`first` there, which
    denotes no token), the way Model/Print.lean writes one -/
theorem EmitsL.sepBy {α : Type} {a : Bool} {sep : List Item} {ts : Toks} (x : α) (xs : List α) (first : List Item)
    (g : α × Nat → List Item) (t : α → Toks) (h0 : EmitsL a first [] a) (hsep : EmitsL a sep ts a)
    (hg : ∀ y ∈ x :: xs, ∀ i, EmitsL a (g (y, i)) (t y) a) :
    EmitsL a ((x :: xs).zipIdx.flatMap fun p => (if p.2 == 0 then first else sep) ++ g p) (t x ++ xs.flatMap fun y => ts ++ t y) a := by
  rw [List.zipIdx_cons, List.flatMap_cons]
  refine (h0.append (hg x List.mem_cons_self 0)).append (emitsL_flatMap_zipIdx _ _ a xs 1 fun y hy i hi => ?_)
  rw [if_neg (mt beq_iff_eq.mp (Nat.ne_of_gt hi))]
  exact hsep.append (hg y (List.mem_cons_of_mem x hy) i)

theorem tw_name (a : Bool) (s : String) (h : nameTextOk a s.toList = true) (cs : List Bool) (r : List Item) :
    tokensWith a cs (.tok s :: r) = toksOf (lexRun a s.toList).items ++ tokensWith a cs r := by
  obtain ⟨items, hrun, _⟩ := nameTextOk_iff.mp h
  rw [tw_tok, hrun]

theorem emits_attr (path : String) (a : Attr) (h : attrOk a = true) : EmitsL true (attrItems path a) (attrToks a) true := by
  intro cs R
  unfold attrItems attrToks
  simp only [tokens_with, dirToks, tw_name true _ (attrOk_dir a h)]
  cases hq : a.args with
  | nil => simp only [tokens_with, List.isEmpty_nil, if_true]
  | cons x xs =>
    simp only [tokens_with, List.isEmpty_cons, Bool.false_eq_true, if_false, argsToks_cons,
      (EmitsL.sepBy x xs [.glue] (fun p =>
          [if isIdentLike p.1 && !(keywords.contains p.1) then Item.tok p.1 else Item.tok ("\"" ++ escapeStrLit p.1 ++ "\"")])
        (fun y => [argTok y]) (tw_glue true) emits_comma_sp fun y hy _ => tw_arg y (attrOk_args a h y (hq ▸ hy))).tw]

theorem tw_sep (sep : Item) (hsep : sep = .sp ∨ ∃ n, sep = .nl n) (a : Bool) (cs : List Bool) (r : List Item) :
    tokensWith a cs (sep :: r) = tokensWith a cs r := by
  rcases hsep with rfl | ⟨n, rfl⟩
  · exact tw_sp a cs r
  · exact tw_nl a cs n r

theorem emits_localAttrsWith (sfx path : String) (as : List Attr) (sep : Item) (h : as.all attrOk = true)
    (hsep : sep = .sp ∨ ∃ n, sep = .nl n) : EmitsL false (localAttrsWith sfx path as sep) (localAttrsToks as) false := by
  unfold localAttrsWith localAttrsToks
  refine emitsL_flatMap_zipIdx _ _ false as 0 ?_
  intro a ha i _ cs R
  rw [List.all_eq_true] at h
  simp only [tokens_with, (emits_attr _ a (h a ha)).tw, tw_sep sep hsep]

theorem emits_localAttrs (path : String) (as : List Attr) (sep : Item) (h : as.all attrOk = true)
    (hsep : sep = .sp ∨ ∃ n, sep = .nl n) : EmitsL false (localAttrs path as sep) (localAttrsToks as) false :=
  emits_localAttrsWith ".a" path as sep h hsep

theorem tw_prim (p : Prim) (cs : List Bool) (r : List Item) :
    tokensWith false cs (.tok p.kw :: r) = checkKeyword p.kw.toList :: tokensWith false cs r := by
  -- the `if` of `lexRun_word` is decided first: `rfl` alone unfolds `checkKeyword` on both sides
  rw [tw_tok, lexRun_word false _ (prim_kw_ident p), if_neg Bool.false_ne_true]
  rfl

mutual
theorem emits_ty : ∀ (path : String) (t : TyExpr), tyOk t = true → EmitsL false (tyItems path t) (tyToks t) false
  | path, .prim p, _ => by
    intro cs R
    simp only [tyItems, tyToks, List.cons_append, List.nil_append, tw_prim]
  | path, .named id, h => by
    intro cs R
    simp only [tyOk] at h
    simp only [tyItems, tyToks, List.cons_append, List.nil_append, tw_name false _ h, nameToks]
  | path, .seq e, h => by
    intro cs R
    simp only [tyOk] at h
    simp only [tokens_with, tyItems, tyToks, (emits_tref _ e h).tw]
  | path, .dict k v, h => by
    intro cs R
    simp only [tyOk, Bool.and_eq_true] at h
    simp only [tokens_with, tyItems, tyToks, (emits_tref _ k h.1).tw, (emits_tref _ v h.2).tw]
  | path, .result s f, h => by
    intro cs R
    simp only [tyOk, Bool.and_eq_true] at h
    simp only [tokens_with, tyItems, tyToks, (emits_tref _ s h.1).tw, (emits_tref _ f h.2).tw]
theorem emits_tref : ∀ (path : String) (t : TRef), trefOk t = true → EmitsL false (trefItems path t) (trefToks t) false
  | path, .mk attrs ty opt, h => by
    intro cs R
    simp only [trefOk, Bool.and_eq_true] at h
    simp only [tokens_with, trefItems, trefToks, (emits_localAttrsWith ".@a" path attrs .sp h.1 (Or.inl rfl)).tw,
      (emits_ty path ty h.2).tw]
    cases opt <;> simp [tw_glue, tw_qmark, tw_cl]
end

theorem tw_int (l : IntLit) (h : intLitOk l = true) (cs : List Bool) (r : List Item) :
    tokensWith false cs (.tok l.magText :: r) = .intLit l.magText.toList :: tokensWith false cs r := by
  rw [tw_tok, lexRun_int false _ (magText_int l h)]
  rfl

theorem emits_minus_int (l : IntLit) (h : intLitOk l = true) (cs : List Bool) (r : List Item) :
    tokensWith false cs ((if l.neg then [Item.tok "-", .glue] else []) ++ (.tok l.magText :: r)) =
      intToks l ++ tokensWith false cs r := by
  cases hn : l.neg <;> simp [intToks, hn, tw_minus, tw_glue, tw_int l h]

theorem emits_tag (path : String) (t : Option IntLit) (h : tagOk t = true) : EmitsL false (tagItems path t) (tagToks t) false := by
  intro cs R
  cases t with
  | none => rfl
  | some l =>
    simp only [tagOk] at h
    simp only [tokens_with, tagItems, tagToks, emits_minus_int l h]

theorem stripCr_id (s : List Char) (h : s.getLast? ≠ some '\r') : stripCr s = s := by
  unfold stripCr
  split
  · rename_i heq; exact absurd heq h
  · rfl

theorem tw_docLine (a : Bool) (l : String) (h1 : l.toList.contains '\n' = false) (h2 : docLineRT l = true)
    (cs : List Bool) (r : List Item) : tokensWith a cs (.docLine l :: r) = .doc l.toList :: tokensWith a cs r := by
  simp only [docLineRT, Bool.and_eq_true, bne_iff_ne, ne_eq] at h2
  show toksOf (lexRun a ("///" ++ l).toList).items ++ tokensWith (lexRun a ("///" ++ l).toList).attr cs r = _
  rw [toList_docLine, lexRun_docLine a _ h1, if_neg h2.1, stripCr_id _ h2.2]
  rfl

theorem emits_doc (doc : List String) (indent : Nat) (h : docOk doc = true) (h2 : docRT doc = true) (a : Bool) :
    EmitsL a (docItems doc indent) (docToks doc) a := by
  unfold docItems docToks
  induction doc with
  | nil => exact EmitsL.nil a
  | cons l d ih =>
    simp only [docOk, docRT, List.all_cons, Bool.and_eq_true, Bool.not_eq_true'] at h h2
    intro cs R
    simp only [tokens_with, List.flatMap_cons, List.map_cons, tw_docLine a l h.1 h2.1]
    rw [ih h.2 h2.2 cs R]

theorem tw_prelude {path : String} {doc : List String} {indent : Nat} {as : List Attr} {sep : Item} (hdoc : docOk doc = true)
    (h2 : docRT doc = true) (has : as.all attrOk = true) (hsep : sep = .sp ∨ ∃ n, sep = .nl n) (cs : List Bool) (R : List Item) :
    tokensWith false cs (docItems doc indent ++ (localAttrs path as sep ++ R)) =
      docToks doc ++ (localAttrsToks as ++ tokensWith false cs R) := by
  rw [(emits_doc doc indent hdoc h2 false).tw, (emits_localAttrs path as sep has hsep).tw]

@[tokens_with] theorem tw_identItems (path name : String) (a : Bool) (cs : List Bool) (r : List Item) :
    tokensWith a cs (identItems path name ++ r) = .ident name.toList :: tokensWith a cs r := by
  simp only [tokens_with, identItems]

theorem emits_field (path : String) (indent : Nat) (inl : Bool) (f : Field) (h : fieldOk f = true) (h2 : fieldRT f = true) :
    EmitsL false (fieldItems path indent inl f) (fieldToks f) false := by
  intro cs R
  simp only [fieldOk, Bool.and_eq_true] at h
  obtain ⟨⟨⟨⟨hdoc, hattrs⟩, htag⟩, _⟩, hty⟩ := h
  simp only [fieldRT, Bool.and_eq_true] at h2
  simp only [tokens_with, fieldItems, fieldToks, tw_prelude hdoc h2.1.1.1 hattrs (sep_inl inl indent), (emits_tag path f.tag htag).tw,
    (emits_tref _ f.ty hty).tw]

theorem emits_flag (b : Bool) (kw kind : String)
    (h : ∀ cs r, tokensWith false cs (.tok kw :: r) = .kw kind :: tokensWith false cs r) (cs : List Bool) (r : List Item) :
    tokensWith false cs ((if b then [Item.tok kw, .sp] else []) ++ r) = flagToks b kind ++ tokensWith false cs r := by
  cases b <;> simp [flagToks, h, tw_sp]

theorem emits_stream (b : Bool) (cs : List Bool) (r : List Item) :
    tokensWith false cs ((if b then [Item.tok "stream", .sp] else []) ++ r) = streamToks b ++ tokensWith false cs r :=
  emits_flag b _ _ tw_stream cs r

theorem emits_param (path : String) (p : Param) (h : paramOk p = true) : EmitsL false (paramItems path p) (paramToks p) false := by
  intro cs R
  simp only [paramOk, Bool.and_eq_true] at h
  obtain ⟨⟨⟨hattrs, htag⟩, _⟩, hty⟩ := h
  simp only [tokens_with, paramItems, paramToks, (emits_localAttrs path p.attrs _ hattrs (Or.inl rfl)).tw,
    (emits_tag path p.tag htag).tw, emits_stream, (emits_tref _ p.ty hty).tw]

theorem tw_optComma (a : Bool) (cs : List Bool) :
    ∃ c cs', OptComma c ∧ ∀ r, tokensWith a cs (.optComma :: r) = c ++ tokensWith a cs' r := by
  cases cs with
  | nil => exact ⟨[], [], Or.inl rfl, fun _ => rfl⟩
  | cons b cs =>
    cases b with
    | false => exact ⟨[], cs, Or.inl rfl, fun _ => rfl⟩
    | true => exact ⟨[.comma], cs, Or.inr rfl, fun _ => rfl⟩

/-- a first element and the elements after it, each of which the printer starts with an optional comma -/
theorem emits_commaSep_from {α : Type} (F : α × Nat → List Item) (g : α → Toks) (xs : List α)
    (h : ∀ x ∈ xs, ∀ i, EmitsL false (F (x, i)) (g x) false) (j k : Nat) (x0 : α) (m0 : List Item)
    (h0 : EmitsL false m0 (g x0) false) :
    EmitsR false
      (m0 ++ (((xs.zipIdx j).map F).zipIdx (k + 1)).flatMap fun (m, i) => (if i == 0 then [] else [Item.glue, .optComma, .sp]) ++ m)
      (SepShape ((x0 :: xs).map fun x => (fun T => T = g x))) false := by
  induction xs generalizing j k x0 m0 with
  | nil => exact fun cs => ⟨g x0, cs, ⟨g x0, [], [], rfl, Or.inl rfl, rfl, by simp⟩, fun R => by simpa using h0 cs R⟩
  | cons x xs ih =>
    intro cs
    obtain ⟨c, cs1, hc, e1⟩ := tw_optComma false cs
    obtain ⟨T2, cs2, hT2, e2⟩ := ih (fun y hy => h y (by simp [hy])) (j + 1) (k + 1) x (F (x, j)) (h x (by simp) j) cs1
    refine ⟨g x0 ++ (c ++ T2), cs2, ⟨g x0, c, T2, rfl, hc, hT2, rfl⟩, fun R => ?_⟩
    have hk : (k + 1 == 0) = false := rfl
    simp only [List.append_assoc] at e2
    simp only [tokens_with, List.zipIdx_cons, List.map_cons, List.flatMap_cons, hk, Bool.false_eq_true, if_false, h0.tw, e1, e2]

theorem emits_commaSep {α : Type} (xs : List α) (F : α × Nat → List Item) (g : α → Toks)
    (h : ∀ x ∈ xs, ∀ i, EmitsL false (F (x, i)) (g x) false) :
    EmitsR false (commaSep (xs.zipIdx.map F)) (SepShape (xs.map fun x => (fun T => T = g x))) false := by
  unfold commaSep
  cases xs with
  | nil => exact (EmitsL.nil false).toR
  | cons x xs =>
    have := emits_commaSep_from F g xs (fun y hy => h y (by simp [hy])) (0 + 1) 0 x (F (x, 0)) (h x (by simp) 0)
    simpa only [List.zipIdx_cons, List.map_cons, List.flatMap_cons, beq_self_eq_true, if_true, List.nil_append] using this

theorem emitsR_flatMap_zipIdx {α : Type} (f : α × Nat → List Item) (S : α → Shape) (xs : List α) (k : Nat)
    (h : ∀ x ∈ xs, ∀ i, EmitsR false (f (x, i)) (S x) false) :
    EmitsR false ((xs.zipIdx k).flatMap f) (CatShape (xs.map S)) false := by
  induction xs generalizing k with
  | nil => exact (EmitsL.nil false).toR
  | cons x xs ih =>
    intro cs
    obtain ⟨T1, cs1, hT1, e1⟩ := h x (by simp) k cs
    obtain ⟨T2, cs2, hT2, e2⟩ := ih (k + 1) (fun y hy => h y (by simp [hy])) cs1
    exact ⟨T1 ++ T2, cs2, ⟨T1, T2, hT1, hT2, rfl⟩, fun R => by
      rw [List.zipIdx_cons, List.flatMap_cons, List.append_assoc, e1, e2, List.append_assoc]⟩

theorem emits_membersBlock {α : Type} (xs : List α) (F : α × Nat → List Item) (S : α → Shape)
    (h : ∀ x ∈ xs, ∀ i, EmitsR false (F (x, i)) (S x) false) :
    EmitsR false (membersBlock (xs.zipIdx.map F))
      (fun T => ∃ T', SepShape (xs.map S) T' ∧ T = .lbrace :: (T' ++ [.rbrace])) false := by
  intro cs
  obtain ⟨T', cs', hT', e⟩ := emitsR_flatMap_zipIdx (fun p => Item.nl 1 :: (F p ++ [.glue, .optComma]))
    (fun x => withComma (S x)) xs 0 (fun x hx i cs => by
      obtain ⟨T1, cs1, hT1, e1⟩ := h x hx i cs
      obtain ⟨c, cs2, hc, e2⟩ := tw_optComma false cs1
      exact ⟨T1 ++ c, cs2, ⟨T1, c, hT1, hc, rfl⟩, fun R => by
        simp only [tokens_with, e1, e2]⟩) cs
  refine ⟨_, cs', ⟨T', sepShape_of_cat S xs T' hT', rfl⟩, fun R => ?_⟩
  simp only [tokens_with, membersBlock, List.flatMap_map, e]

theorem emits_ret (path : String) (r : Ret) (h : retOk r = true) : EmitsR false (retItems path r) (RetSh r) false := by
  cases r with
  | none => exact (EmitsL.nil false).toR
  | single tag stream ty =>
    simp only [retOk, Bool.and_eq_true] at h
    refine fun cs => ⟨_, cs, rfl, fun R => ?_⟩
    simp only [tokens_with, retItems, (emits_tag _ tag h.1).tw, emits_stream, (emits_tref _ ty h.2).tw]
  | tuple ps =>
    simp only [retOk, List.all_eq_true] at h
    intro cs
    obtain ⟨Tp, cs', hTp, e⟩ := emits_commaSep ps (fun (p, i) => paramItems (path ++ ".r" ++ toString i) p) paramToks
      (fun p hp i => emits_param _ p (h p hp)) cs
    refine ⟨_, cs', ⟨Tp, hTp, rfl⟩, fun R => ?_⟩
    simp only [tokens_with, retItems, e]

theorem emits_op (path : String) (o : Op) (h : opOk o = true) (h2 : opRT o = true) :
    EmitsR false (opItems path o) (OpSh o) false := by
  simp only [opOk, Bool.and_eq_true] at h
  obtain ⟨⟨⟨⟨hdoc, hattrs⟩, _⟩, hparams⟩, hret⟩ := h
  rw [List.all_eq_true] at hparams
  simp only [opRT, Bool.and_eq_true] at h2
  intro cs
  obtain ⟨Tp, cs1, hTp, e1⟩ := emits_commaSep o.params (fun (p, i) => paramItems (path ++ ".p" ++ toString i) p) paramToks
    (fun p hp i => emits_param _ p (hparams p hp)) cs
  obtain ⟨Tr, cs2, hTr, e2⟩ := emits_ret path o.ret hret cs1
  refine ⟨_, cs2, ⟨Tp, Tr, hTp, hTr, rfl⟩, fun R => ?_⟩
  simp only [tokens_with, opItems, idemToks, flagToks, tw_prelude hdoc h2.1.1.1 hattrs (Or.inr ⟨1, rfl⟩),
    emits_flag o.idempotent _ _ tw_idempotent, e1, e2]

def valueItems (path : String) : Option IntLit → List Item
  | none => []
  | some l => [Item.sp, .tok "=", .sp, .op (path ++ ".val")] ++ (if l.neg then [.tok "-", .glue] else []) ++
      [.tok l.magText, .cl (path ++ ".val")]

theorem emits_value (path : String) (v : Option IntLit)
    (hval : (match (generalizing := false) v with | none => true | some l => intLitOk l) = true) :
    EmitsL false (valueItems path v) (valueToks v) false := by
  intro cs R
  cases v with
  | none => rfl
  | some l =>
    simp only [] at hval
    simp only [tokens_with, valueItems, valueToks, emits_minus_int l hval]

def enumFieldsItems (path : String) : Option (List Field) → List Item
  | none => []
  | some fs => [Item.glue, .tok "(", .glue] ++
      commaSep (fs.zipIdx.map fun (f, i) => fieldItems (path ++ ".f" ++ toString i) 1 true f) ++ [.glue, .tok ")"]

theorem enumeratorItems_eq (path : String) (e : Enumerator) :
    enumeratorItems path e = docItems e.doc 1 ++ localAttrs path e.attrs (.nl 1) ++ [.op path] ++ identItems path e.name ++
      enumFieldsItems path e.fields ++ valueItems path e.value ++ [.cl path] := by
  obtain ⟨doc, attrs, name, fields, value⟩ := e
  cases fields <;> cases value <;> rfl

theorem emits_enumFields (path : String) (fields : Option (List Field))
    (h : (match (generalizing := false) fields with | none => true | some fs => fs.all fieldOk) = true)
    (h2 : (match (generalizing := false) fields with | none => true | some fs => fs.all fieldRT) = true) :
    EmitsR false (enumFieldsItems path fields) (EnumFieldsSh fields) false := by
  cases fields with
  | none => exact (EmitsL.nil false).toR
  | some fs =>
    simp only [List.all_eq_true] at h h2
    intro cs
    obtain ⟨Tf, cs1, hTf, e1⟩ := emits_commaSep fs (fun (f, i) => fieldItems (path ++ ".f" ++ toString i) 1 true f) fieldToks
      (fun f hf i => emits_field _ 1 true f (h f hf) (h2 f hf)) cs
    refine ⟨_, cs1, ⟨Tf, hTf, rfl⟩, fun R => ?_⟩
    simp only [tokens_with, enumFieldsItems, e1]

theorem emits_enumerator (path : String) (e : Enumerator) (h : enumeratorOk e = true) (h2 : enumeratorRT e = true) :
    EmitsR false (enumeratorItems path e) (EnumeratorSh e) false := by
  simp only [enumeratorOk, Bool.and_eq_true] at h
  obtain ⟨⟨⟨⟨hdoc, hattrs⟩, _⟩, hfields⟩, hval⟩ := h
  simp only [enumeratorRT, Bool.and_eq_true] at h2
  obtain ⟨⟨⟨h2doc, _⟩, h2fields⟩, _⟩ := h2
  intro cs
  obtain ⟨Tf, cs1, hTf, e1⟩ := emits_enumFields path e.fields hfields h2fields cs
  refine ⟨_, cs1, ⟨Tf, hTf, rfl⟩, fun R => ?_⟩
  simp only [tokens_with, enumeratorItems_eq, tw_prelude hdoc h2doc hattrs (Or.inr ⟨1, rfl⟩), e1,
    (emits_value path e.value hval).tw]

def basesItems (path : String) (bases : List TRef) : List Item :=
  if bases.isEmpty then [] else [Item.sp, .tok ":", .sp] ++
    (bases.zipIdx.flatMap fun (b, i) => (if i == 0 then [] else [Item.glue, .tok ",", .sp]) ++ trefItems (path ++ ".b" ++ toString i) b)

theorem emits_bases (path : String) (bases : List TRef) (h : bases.all trefOk = true) :
    EmitsL false (basesItems path bases) (basesToks bases) false := by
  intro cs R
  cases bases with
  | nil => rfl
  | cons b bs =>
    simp only [tokens_with, basesItems, basesToks, List.isEmpty_cons, Bool.false_eq_true, if_false,
      (EmitsL.sepBy b bs [] (fun p => trefItems (path ++ ".b" ++ toString p.2) p.1) trefToks (EmitsL.nil false)
        emits_comma_sp fun t ht _ => emits_tref _ t (List.all_eq_true.mp h t ht)).tw]

def underlyingItems (path : String) : Option TRef → List Item
  | none => []
  | some u => [Item.sp, .tok ":", .sp] ++ trefItems (path ++ ".u") u

theorem emits_underlying (path : String) (u : Option TRef)
    (h : (match (generalizing := false) u with | none => true | some t => trefOk t) = true) :
    EmitsL false (underlyingItems path u) (underlyingToks u) false := by
  cases u with
  | none => exact EmitsL.nil false
  | some t =>
    simp only [] at h
    intro cs R
    simp only [tokens_with, underlyingItems, underlyingToks, (emits_tref _ t h).tw]

theorem defItems_iface (path : String) (doc : List String) (attrs : List Attr) (name : String) (bases : List TRef) (ops : List Op) :
    defItems path (.iface doc attrs name bases ops) =
      docItems doc 0 ++ localAttrs path attrs (.nl 0) ++
      [.op path, .tok "interface", .sp] ++ identItems path name ++ [.cl path] ++ basesItems path bases ++
      [.sp, .tok "{"] ++ (ops.zipIdx.flatMap fun (o, i) => [.nl 1] ++ opItems (path ++ ".o" ++ toString i) o) ++ [.nl 0, .tok "}"] :=
  rfl

theorem defItems_enum (path : String) (doc : List String) (attrs : List Attr) (compact unchecked : Bool) (name : String)
    (underlying : Option TRef) (es : List Enumerator) :
    defItems path (.enum doc attrs compact unchecked name underlying es) =
      docItems doc 0 ++ localAttrs path attrs (.nl 0) ++
      [.op path] ++ (if compact then [.tok "compact", .sp] else []) ++ (if unchecked then [.tok "unchecked", .sp] else []) ++
      [.tok "enum", .sp] ++ identItems path name ++ [.cl path] ++ underlyingItems path underlying ++
      membersBlock (es.zipIdx.map fun (e, i) => enumeratorItems (path ++ ".e" ++ toString i) e) := by
  cases underlying <;> rfl

theorem emits_def (path : String) (d : Def) (h : defOk d = true) (h2 : defRT d = true) :
    EmitsR false (defItems path d) (DefSh d) false := by
  cases d with
  | struct doc attrs compact name fields =>
    simp only [defOk, Bool.and_eq_true] at h
    obtain ⟨⟨⟨hdoc, hattrs⟩, _⟩, hfields⟩ := h
    simp only [defRT, Bool.and_eq_true] at h2
    obtain ⟨⟨h2doc, _⟩, h2fields⟩ := h2
    rw [List.all_eq_true] at hfields h2fields
    intro cs
    obtain ⟨T, cs1, ⟨Tf, hTf, rfl⟩, e1⟩ := emits_membersBlock fields
      (fun (f, i) => fieldItems (path ++ ".f" ++ toString i) 1 false f) (fun f => (fun T => T = fieldToks f))
      (fun f hf i => (emits_field _ 1 false f (hfields f hf) (h2fields f hf)).toR) cs
    refine ⟨_, cs1, ⟨Tf, hTf, rfl⟩, fun R => ?_⟩
    simp only [tokens_with, defItems, tw_prelude hdoc h2doc hattrs (Or.inr ⟨0, rfl⟩),
      emits_flag compact _ _ tw_compact, e1]
  | iface doc attrs name bases ops =>
    simp only [defOk, Bool.and_eq_true] at h
    obtain ⟨⟨⟨⟨hdoc, hattrs⟩, _⟩, hbases⟩, hops⟩ := h
    simp only [defRT, Bool.and_eq_true] at h2
    obtain ⟨⟨⟨h2doc, _⟩, _⟩, h2ops⟩ := h2
    rw [List.all_eq_true] at hops h2ops
    intro cs
    obtain ⟨To, cs1, hTo, e1⟩ := emitsR_flatMap_zipIdx (fun (o, i) => Item.nl 1 :: opItems (path ++ ".o" ++ toString i) o) OpSh ops 0
      (fun o ho i cs' => by
        simp only [tokens_with]
        exact emits_op (path ++ ".o" ++ toString i) o (hops o ho) (h2ops o ho) cs') cs
    refine ⟨_, cs1, ⟨To, hTo, rfl⟩, fun R => ?_⟩
    simp only [tokens_with, defItems_iface, tw_prelude hdoc h2doc hattrs (Or.inr ⟨0, rfl⟩),
      (emits_bases path bases hbases).tw, e1]
  | enum doc attrs compact unchecked name underlying es =>
    simp only [defOk, Bool.and_eq_true] at h
    obtain ⟨⟨⟨⟨hdoc, hattrs⟩, _⟩, hund⟩, hes⟩ := h
    simp only [defRT, Bool.and_eq_true] at h2
    obtain ⟨⟨⟨h2doc, _⟩, _⟩, h2es⟩ := h2
    rw [List.all_eq_true] at hes h2es
    intro cs
    obtain ⟨T, cs1, ⟨Te, hTe, rfl⟩, e1⟩ := emits_membersBlock es
      (fun (e, i) => enumeratorItems (path ++ ".e" ++ toString i) e) EnumeratorSh
      (fun e he i => emits_enumerator _ e (hes e he) (h2es e he)) cs
    refine ⟨_, cs1, ⟨Te, hTe, rfl⟩, fun R => ?_⟩
    simp only [tokens_with, defItems_enum, tw_prelude hdoc h2doc hattrs (Or.inr ⟨0, rfl⟩),
      emits_flag compact _ _ tw_compact, emits_flag unchecked _ _ tw_unchecked,
      (emits_underlying path underlying hund).tw, e1]
  | custom doc attrs name =>
    simp only [defOk, Bool.and_eq_true] at h
    obtain ⟨⟨hdoc, hattrs⟩, _⟩ := h
    simp only [defRT, Bool.and_eq_true] at h2
    refine fun cs => ⟨_, cs, rfl, fun R => ?_⟩
    simp only [tokens_with, defItems, tw_prelude hdoc h2.1 hattrs (Or.inr ⟨0, rfl⟩)]
  | alias doc attrs name ty =>
    simp only [defOk, Bool.and_eq_true] at h
    obtain ⟨⟨⟨hdoc, hattrs⟩, _⟩, hty⟩ := h
    simp only [defRT, Bool.and_eq_true] at h2
    refine fun cs => ⟨_, cs, rfl, fun R => ?_⟩
    simp only [tokens_with, defItems, tw_prelude hdoc h2.1.1 hattrs (Or.inr ⟨0, rfl⟩),
      (emits_tref _ ty hty).tw]

def moduleItems : Option ModDecl → List Item
  | none => []
  | some m => localAttrs "mod" m.attrs (.nl 0) ++
      [.op "mod", .tok "module", .sp, .op "mod.id", .tok (escapeScoped m.path), .cl "mod.id", .cl "mod", .nl 0]

theorem fileItems_eq (f : SFile) : fileItems f =
    (f.fileAttrs.zipIdx.flatMap fun (a, i) => [.tok "[[", .glue] ++ attrItems ("fa" ++ toString i) a ++ [.glue, .tok "]]", .nl 0]) ++
    moduleItems f.module ++
    (f.defs.zipIdx.flatMap fun (d, i) => [.nl 0] ++ defItems ("d" ++ toString i) d ++ [.nl 0]) := by
  obtain ⟨fa, m, ds⟩ := f
  cases m <;> rfl

theorem emits_module (m : Option ModDecl)
    (h : (match (generalizing := false) m with
      | none => true
      | some m => m.attrs.all attrOk && nameTextOk false (escapeScoped m.path).toList) = true) :
    EmitsL false (moduleItems m) (moduleToks m) false := by
  cases m with
  | none => exact EmitsL.nil false
  | some md =>
    simp only [Bool.and_eq_true] at h
    intro cs R
    simp only [tokens_with, moduleItems, moduleToks, nameToks, (emits_localAttrs "mod" md.attrs _ h.1 (Or.inr ⟨0, rfl⟩)).tw,
      tw_name false _ h.2]

end Slicec.SPar
