/-
  C16 — the doc-comment round trip. What can be written is described class by class (scoped identifier, message line, line
  after an indentation, section, block, comment), each with its source text, its tokens, the condition under which it can be
  written and what is read back; per class one lexer lemma (source ↦ tokens; for a piece of a line in front of any text
  that `stops` the scan, for a whole line or block with nothing behind it) and one grammar lemma (tokens ↦ value, in front
  of any tokens that may follow: the `Newline` behind a message, what `validFollower none` admits behind message lines or a
  section; the blocks are read as the whole rest of the stream). Between them the sanitizer on lines written after an
  indentation. Assembled: `parseCommentG_written` for overview lines and blocks, `parseCommentG_render` for a
  `Renderable` comment: what is parsed is `c.readBack ind`. Last, `readBack` against the comment itself: equal up to the
  segmentation of texts (`readBack_merged`) and literally equal when no line starts with a link or nothing is indented
  (`readBack_eq`). The lines of `Props/C16.comment_roundtrip_plain` (`PLine`: one text each) are defined here as well.
-/
import SlicecVerif.Lemmas.CommentLocStep

namespace Slicec
open Gen (TagKw)

/-- a call that yields a token consumes a character; read off the located lexer (C09): its step specification records what
    each arm consumed, and the plain step is its erasure -/
theorem lexStep_consumes {mode : LMode} {c : Char} {cs : Str} {t : CTok} {m : LMode} {rest : Str}
    (h : lexStep mode (c :: cs) = .tok t m rest) : rest.length ≤ cs.length := by
  have hs := CLoc.stepLoc_spec mode ⟨0, 0⟩ c cs
  have he := CLoc.stepLoc_erase mode ⟨0, 0⟩ (c :: cs)
  rw [h] at he
  cases hL : CLoc.stepLoc mode ⟨0, 0⟩ (c :: cs) with
  | eol cur' => rw [hL] at he; cases he
  | err e => rw [hL] at he; cases he
  | tok t' m' rest' cur' =>
    rw [hL] at he hs
    cases he
    obtain ⟨ws, mid, h1, _, hmid, _⟩ := hs
    have hlen := congrArg List.length h1
    have hpos : 0 < mid.length := List.length_pos_iff.mpr hmid
    simp only [List.length_cons, List.length_append] at hlen
    omega

theorem lexLine_fuel (f1 f2 : Nat) (m : LMode) (cs : Str) (h1 : cs.length + 2 ≤ f1) (h2 : cs.length + 2 ≤ f2) :
    lexLine f1 m cs = lexLine f2 m cs := by
  refine fuel_irrelevant (fun s : LMode × Str => s.2.length + 1) (fun n s => lexLine n s.1 s.2) ?_ f1 f2 (m, cs) h1 h2
  rintro a b ⟨m, cs⟩ ih
  cases cs with
  | nil => cases m <;> rfl
  | cons x xs =>
    simp only [lexLine_cons]
    cases hc : lexStep m (x :: xs) with
    | eol => exact ih (m, []) (by simp)
    | err e => rfl
    | tok t m' rest =>
      have hl := lexStep_consumes hc
      exact congrArg (LexOut.cons t) (ih (m', rest) (by simp only [List.length_cons]; omega))

/-- the line lexer at the fuel `lexOneLine` gives it (enough for any buffer, `lexLine_fuel`): every lexer lemma below is
    stated on it -/
def lexL (m : LMode) (cs : Str) : LexOut := lexLine (cs.length + 2) m cs

theorem lexOneLine_eq (l : Str) : lexOneLine l = lexL (startMode l) l := rfl

theorem lexL_nil_message : lexL .message [] = ⟨[.newline], none⟩ := rfl
theorem lexL_nil_blockTag : lexL .blockTag [] = ⟨[.newline], none⟩ := rfl

theorem lexL_tok {mode : LMode} {x : Char} {xs : Str} {t : CTok} {m : LMode} {rest : Str}
    (h : lexStep mode (x :: xs) = .tok t m rest) : lexL mode (x :: xs) = (lexL m rest).cons t := by
  have hl := lexStep_consumes h
  unfold lexL
  rw [List.length_cons, lexLine_cons, h]
  simp only []
  rw [lexLine_fuel _ (rest.length + 2) m rest (by omega) (Nat.le_refl _)]

theorem lexL_message_cons {x : Char} {xs : Str} {t : CTok} {m : LMode} {rest : Str} (h : lexMessage (x :: xs) = (t, m, rest)) :
    lexL .message (x :: xs) = (lexL m rest).cons t :=
  lexL_tok (mode := .message) (by simp only [lexStep, h])

theorem lexL_tag_tok {mode : LMode} (hm : mode ≠ .message) {cs : Str} {t : CTok} {m : LMode} {rest : Str}
    (h : lexTagComponent mode cs = .tok t m rest) : lexL mode cs = (lexL m rest).cons t := by
  cases cs with
  | nil => simp [lexTagComponent] at h
  | cons x xs => exact lexL_tok (by cases mode with | message => exact absurd rfl hm | _ => exact h)

def LexOut.pre (ts : List CTok) (o : LexOut) : LexOut := ⟨ts ++ o.toks, o.err⟩

theorem LexOut.cons_eq_pre (t : CTok) (o : LexOut) : o.cons t = o.pre [t] := rfl
theorem LexOut.pre_pre (a b : List CTok) (o : LexOut) : (o.pre b).pre a = o.pre (a ++ b) := by simp [LexOut.pre]
theorem LexOut.pre_nil (o : LexOut) : o.pre [] = o := rfl

theorem isAlpha_range {c : Char} (h : c.isAlpha = true) : 65 ≤ c.toNat ∧ c.toNat ≤ 122 := by
  simp only [Char.isAlpha, Char.isUpper, Char.isLower, Bool.or_eq_true, Bool.and_eq_true, decide_eq_true_eq, ge_iff_le,
    UInt32.le_iff_toNat_le, Char.reduceVal, UInt32.reduceToNat] at h
  show 65 ≤ c.val.toNat ∧ c.val.toNat ≤ 122
  omega

theorem wsCodes_not_alpha : ∀ n ∈ wsCodes, n < 65 ∨ 122 < n := by decide

theorem isAlpha_not_ws {c : Char} (h : c.isAlpha = true) : isWsC c = false := by
  have hr := isAlpha_range h
  cases hw : isWsC c with
  | false => rfl
  | true =>
    have := wsCodes_not_alpha _ (List.contains_iff_mem.mp hw)
    omega

theorem isAlpha_ne {c : Char} (h : c.isAlpha = true) : c ≠ '@' ∧ c ≠ ':' ∧ c ≠ '}' := by
  refine ⟨?_, ?_, ?_⟩ <;> (intro e; subst e; revert h; decide)

/-- an identifier the lexer reads back as one `Identifier` token: a letter, then letters, digits, `_` -/
def idOK (s : Str) : Bool :=
  match s with
  | c :: r => c.isAlpha && r.all isIdCharC
  | [] => false

def splitColon : Str → List Str
  | [] => [[]]
  | c :: r =>
    if c == ':' then [] :: splitColon r
    else match splitColon r with
      | h :: t => (c :: h) :: t
      | [] => [[c]]

/-- candidate decomposition of a scoped identifier: leading `::`?, first identifier, further identifiers -/
def scopedParts (s : Str) : Option (Bool × Str × List Str) :=
  match (splitColon s).filter (fun p => !p.isEmpty) with
  | f :: o => some (s.head? == some ':', f, o)
  | [] => none

/-- a scoped identifier as the grammar prints it (`get_scoped_identifier_string`): `::`? identifier (`::` identifier)*,
    without blanks: the candidate decomposition consists of identifiers and joins back to `s` -/
def scopedOK (s : Str) : Bool :=
  match scopedParts s with
  | some (g, f, o) => idOK f && o.all idOK && joinScoped g f o == s
  | none => false

def scopedToks (g : Bool) (f : Str) (o : List Str) : List CTok :=
  (if g then [.dcolon] else []) ++ .ident f :: o.flatMap fun x => [.dcolon, .ident x]

def idToks (id : Str) : List CTok :=
  match scopedParts id with
  | some (g, f, o) => scopedToks g f o
  | none => []

theorem scopedOK_parts (s : Str) (h : scopedOK s = true) :
    ∃ g f o, idOK f = true ∧ (∀ x ∈ o, idOK x = true) ∧ joinScoped g f o = s ∧ idToks s = scopedToks g f o := by
  unfold scopedOK at h
  cases hp : scopedParts s with
  | none => simp [hp] at h
  | some v =>
    obtain ⟨g, f, o⟩ := v
    simp only [hp, Bool.and_eq_true, List.all_eq_true, beq_iff_eq] at h
    exact ⟨g, f, o, h.1.1, h.1.2, h.2, by simp [idToks, hp]⟩

theorem idOK_cons (id : Str) (h : idOK id = true) : ∃ c r, id = c :: r ∧ c.isAlpha = true ∧ r.all isIdCharC = true := by
  cases id with
  | nil => simp [idOK] at h
  | cons c r =>
    simp only [idOK, Bool.and_eq_true] at h
    exact ⟨c, r, rfl, h.1, h.2⟩

theorem idOK_all (id : Str) (h : idOK id = true) : id.all isIdCharC = true := by
  obtain ⟨c, r, rfl, hc, hr⟩ := idOK_cons id h
  rw [List.all_cons, isAlpha_isIdChar c hc, hr]
  rfl

theorem lexTagComponent_ident (mode : LMode) (ws : Str) (hws : ws.all isWsC = true) (id : Str) (hid : idOK id = true) (tail : Str)
    (ht : stops isIdCharC tail = true) :
    lexTagComponent mode (ws ++ (id ++ tail)) = .tok (.ident id) mode tail := by
  obtain ⟨c, r, rfl, hc, -⟩ := idOK_cons id hid
  have hd : (ws ++ (c :: r ++ tail)).dropWhile isWsC = c :: (r ++ tail) :=
    (span_all_append hws (by simp [stops, isAlpha_not_ws hc])).2
  have htd := span_all_append (idOK_all _ hid) ht
  rw [List.cons_append] at htd
  -- a letter is none of `@`, `:`, `}`: the last arm of the `match` is taken
  rw [lexTagComponent, hd]
  simp [hc, htd, isAlpha_ne hc]

theorem isWsC_at : isWsC '@' = false := by decide
theorem isWsC_colon : isWsC ':' = false := by decide
theorem isWsC_rbrace : isWsC '}' = false := by decide
theorem isWsC_lbrace : isWsC '{' = false := by decide

theorem lexTagComponent_dcolon (mode : LMode) (ws : Str) (hws : ws.all isWsC = true) (rest : Str) :
    lexTagComponent mode (ws ++ ':' :: ':' :: rest) = .tok .dcolon mode rest := by
  have hd : (ws ++ ':' :: ':' :: rest).dropWhile isWsC = ':' :: ':' :: rest :=
    (span_all_append hws rfl).2
  unfold lexTagComponent
  rw [hd]
  rfl

theorem lexTagComponent_rbrace (rest : Str) : lexTagComponent .inlineTag ('}' :: rest) = .tok .rbrace .message rest := by
  simp [lexTagComponent, isWsC_rbrace]

theorem lexTagComponent_colon (rest : Str) (h : ∀ r, rest ≠ ':' :: r) :
    lexTagComponent .blockTag (':' :: rest) = .tok .colon .message rest := by
  -- the arm for `::` is ruled out by `h`, which `simp` finds in the context
  simp [lexTagComponent, isWsC_colon]

theorem lexTagComponent_kw (mode : LMode) (name : Str) (k : TagKw) (b : Bool)
    (hfind : Gen.commentTagKeywords.find? (fun r => r.1 == name) = some (name, k, b)) (hb : b = (mode == .inlineTag))
    (hname : name.all isIdCharC = true) (tail : Str) (ht : stops isIdCharC tail = true) :
    lexTagComponent mode ('@' :: (name ++ tail)) = .tok (.kw k) mode tail := by
  have hd : ('@' :: (name ++ tail)).dropWhile isWsC = '@' :: (name ++ tail) := by simp [isWsC_at]
  have htd := span_all_append hname ht
  unfold lexTagComponent
  rw [hd]
  simp only [readTagKeyword, htd.1, htd.2, hfind, hb, beq_self_eq_true, if_true]

theorem idTail_stop (o : List Str) (tail : Str) (ht : stops isIdCharC tail = true) :
    stops isIdCharC (o.flatMap (fun x => sepChars ++ x) ++ tail) = true := by
  cases o with
  | nil => exact ht
  | cons x o => rfl

theorem lexL_idTail (mode : LMode) (hm : mode ≠ .message) (o : List Str) (ho : ∀ x ∈ o, idOK x = true) (tail : Str)
    (ht : stops isIdCharC tail = true) :
    lexL mode (o.flatMap (fun x => sepChars ++ x) ++ tail) = (lexL mode tail).pre (o.flatMap fun x => [.dcolon, .ident x]) := by
  induction o with
  | nil => rfl
  | cons x o ih =>
    have h1 := lexTagComponent_dcolon mode [] rfl (x ++ (o.flatMap (fun x => sepChars ++ x) ++ tail))
    have h2 := lexTagComponent_ident mode [] rfl x (ho x (by simp)) _ (idTail_stop o tail ht)
    simp only [List.nil_append] at h1 h2
    have e : (x :: o).flatMap (fun x => sepChars ++ x) ++ tail = ':' :: ':' :: (x ++ (o.flatMap (fun x => sepChars ++ x) ++ tail)) := by
      simp [sepChars]
    rw [e, lexL_tag_tok hm h1, lexL_tag_tok hm h2, ih (fun y hy => ho y (by simp [hy]))]
    simp [LexOut.cons_eq_pre, LexOut.pre_pre]

theorem lexL_scoped (mode : LMode) (hm : mode ≠ .message) (ws : Str) (hws : ws.all isWsC = true) (id : Str) (hid : scopedOK id = true)
    (tail : Str) (ht : stops isIdCharC tail = true) :
    lexL mode (ws ++ (id ++ tail)) = (lexL mode tail).pre (idToks id) := by
  obtain ⟨g, f, o, hf, ho, rfl, htk⟩ := scopedOK_parts id hid
  rw [htk]
  -- the first identifier and what follows it, behind any blanks; a leading `::` is one step in front of that
  have hfo : ∀ ws, ws.all isWsC = true → lexL mode (ws ++ (f ++ (o.flatMap (fun x => sepChars ++ x) ++ tail))) =
      (lexL mode tail).pre (.ident f :: o.flatMap fun x => [.dcolon, .ident x]) := by
    intro ws hws
    rw [lexL_tag_tok hm (lexTagComponent_ident mode ws hws f hf _ (idTail_stop o tail ht)), lexL_idTail mode hm o ho tail ht]
    simp [LexOut.cons_eq_pre, LexOut.pre_pre]
  cases g with
  | false => simpa [joinScoped, scopedToks] using hfo ws hws
  | true =>
    have e : ws ++ (joinScoped true f o ++ tail) = ws ++ ':' :: ':' :: ([] ++ (f ++ (o.flatMap (fun x => sepChars ++ x) ++ tail))) := by
      simp [joinScoped, sepChars]
    rw [e, lexL_tag_tok hm (lexTagComponent_dcolon mode ws hws _), hfo [] rfl]
    simp [LexOut.cons_eq_pre, LexOut.pre_pre, scopedToks]

theorem parseIdTail_toks (o : List Str) (rest : List CTok) (hr : ∀ r, rest ≠ .dcolon :: r) :
    parseIdTail (o.flatMap (fun x => [CTok.dcolon, .ident x]) ++ rest) = some (o, rest) := by
  induction o with
  | nil => simp [parseIdTail, hr]
  | cons x o ih =>
    simp only [List.flatMap_cons, List.cons_append, List.nil_append]
    rw [parseIdTail, ih]

theorem parseScopedId_toks (id : Str) (hid : scopedOK id = true) (rest : List CTok) (hr : ∀ r, rest ≠ .dcolon :: r) :
    parseScopedId (idToks id ++ rest) = some (id, rest) := by
  obtain ⟨g, f, o, -, -, rfl, htk⟩ := scopedOK_parts id hid
  rw [htk]
  cases g <;> simp [scopedToks, parseScopedId, parseIdTail_toks o rest hr]

def compToks : Comp → List CTok
  | .text s => [.text s]
  | .link id => .lbrace :: .kw .LinkKeyword :: idToks id ++ [.rbrace]

/-- components the lexer gives back one for one (of two adjacent texts it would make one token) -/
def lexOK : List Comp → Bool
  | [] => true
  | .link id :: r => scopedOK id && lexOK r
  | .text s :: r => !s.isEmpty && s.all (· != '{') && (match r with | .text _ :: _ => false | _ => true) && lexOK r

theorem src_not_text (r : List Comp) (h : (match r with | .text _ :: _ => false | _ => true) = true) :
    stops (· != '{') (r.flatMap compSrc) = true := by
  rcases r with _ | ⟨_ | _, _⟩
  · rfl
  · cases h
  · rfl

theorem lexL_text (s tail : Str) (hs : s ≠ []) (hnb : s.all (· != '{') = true) (ht : stops (· != '{') tail = true) :
    lexL .message (s ++ tail) = (lexL .message tail).cons (.text s) := by
  cases s with
  | nil => exact absurd rfl hs
  | cons x xs =>
    have htd := span_all_append hnb ht
    rw [List.cons_append] at htd ⊢
    apply lexL_message_cons
    unfold lexMessage
    split
    · rename_i rest heq
      simp only [List.cons.injEq] at heq
      rw [heq.1] at hnb
      exact absurd hnb (by simp)
    · rw [htd.1, htd.2]

theorem lexL_link (id tail : Str) (hid : scopedOK id = true) :
    lexL .message (compSrc (.link id) ++ tail) = (lexL .message tail).pre (compToks (.link id)) := by
  have e : compSrc (.link id) ++ tail = '{' :: '@' :: (['l', 'i', 'n', 'k'] ++ ([' '] ++ (id ++ '}' :: tail))) := by
    simp [compSrc, linkOpen]
  have h1 : lexMessage ('{' :: '@' :: (['l', 'i', 'n', 'k'] ++ ([' '] ++ (id ++ '}' :: tail)))) =
      (.lbrace, .inlineTag, '@' :: (['l', 'i', 'n', 'k'] ++ ([' '] ++ (id ++ '}' :: tail)))) := by
    simp [lexMessage, isWsC_at]
  have h2 := lexTagComponent_kw .inlineTag ['l', 'i', 'n', 'k'] .LinkKeyword true (by decide) rfl (by decide)
    ([' '] ++ (id ++ '}' :: tail)) rfl
  have h3 := lexL_scoped .inlineTag (by decide) [' '] (by decide) id hid ('}' :: tail) rfl
  have h4 := lexL_tag_tok (by decide) (lexTagComponent_rbrace tail)
  rw [e, lexL_message_cons h1, lexL_tag_tok (by decide) h2, h3, h4]
  simp [LexOut.cons_eq_pre, LexOut.pre_pre, compToks]

theorem lexL_comps (l : List Comp) (h : lexOK l = true) :
    lexL .message (l.flatMap compSrc) = ⟨l.flatMap compToks ++ [.newline], none⟩ := by
  induction l with
  | nil => rfl
  | cons c r ih =>
    cases c with
    | link id =>
      simp only [lexOK, Bool.and_eq_true] at h
      rw [List.flatMap_cons, lexL_link id _ h.1, ih h.2]
      simp [LexOut.pre]
    | text s =>
      simp only [lexOK, Bool.and_eq_true, Bool.not_eq_true'] at h
      obtain ⟨⟨⟨hne, hnb⟩, hnt⟩, hr⟩ := h
      rw [List.flatMap_cons]
      show lexL .message (s ++ r.flatMap compSrc) = _
      rw [lexL_text s _ (by intro e; simp [e] at hne) hnb (src_not_text r hnt), ih hr]
      simp [LexOut.cons, compToks]

/-- what the lexer and the grammar make of the line `l` written after the indentation `ind`: the indentation becomes part of
    the first text; in front of a link it is a text of its own -/
def indLine (ind : Str) : List Comp → List Comp
  | [] => []
  | .text s :: r => .text (ind ++ s) :: r
  | .link id :: r => if ind.isEmpty then .link id :: r else .text ind :: .link id :: r

def lineToks (l : List Comp) : List CTok := l.flatMap compToks ++ [.newline]

/-- no text contains a line break (a `///` line cannot) -/
def noBreak (l : List Comp) : Bool := l.all fun c => match c with | .text t => t.all (· != '\n') | .link _ => true

/-- an overview / continuation line that can be written: if it starts with a text, that text has a first non-blank
    character, which is not `@` (the line would start a block tag) -/
def lineOK (l : List Comp) : Bool :=
  lexOK l && noBreak l &&
  (match l with
   | .text s :: _ => (match s.dropWhile isWsC with | c :: _ => c != '@' | [] => false)
   | _ => true)

/-- `lineOK` without `noBreak`: what the lexer and the sanitizer need of an overview / continuation line -/
def lineWritable (l : List Comp) : Bool :=
  lexOK l &&
  (match l with
   | .text s :: _ => (match s.dropWhile isWsC with | c :: _ => c != '@' | [] => false)
   | _ => true)

theorem lineOK_writable {l : List Comp} (h : lineOK l = true) : lineWritable l = true := by
  simp only [lineOK, Bool.and_eq_true] at h
  simp only [lineWritable, Bool.and_eq_true]
  exact ⟨h.1.1, h.2⟩

theorem lineSrc_indLine (ind : Str) (l : List Comp) : lineSrc ind l = (indLine ind l).flatMap compSrc := by
  rcases l with _ | ⟨s | id, r⟩
  · rfl
  · simp [lineSrc, indLine, compSrc]
  · cases ind <;> simp [lineSrc, indLine, compSrc]

theorem ws_all_ne_lbrace (ws : Str) (h : ws.all isWsC = true) : ws.all (· != '{') = true := by
  simp only [List.all_eq_true] at h ⊢
  intro x hx
  rw [bne_iff_ne]
  rintro rfl
  exact absurd (h _ hx) (by decide)

theorem lexOK_indLine (ind : Str) (hind : ind.all isWsC = true) (l : List Comp) (h : lexOK l = true) : lexOK (indLine ind l) = true := by
  rcases l with _ | ⟨s | id, r⟩
  · rfl
  · simp only [lexOK, Bool.and_eq_true, Bool.not_eq_true'] at h
    obtain ⟨⟨⟨hne, hnb⟩, hnt⟩, hr⟩ := h
    simp only [indLine, lexOK, Bool.and_eq_true, Bool.not_eq_true', List.all_append, ws_all_ne_lbrace ind hind, hnb, hnt, hr, and_true]
    cases s with
    | nil => simp at hne
    | cons a b => simp
  · cases ind with
    | nil => simpa [indLine] using h
    | cons a b =>
      simp only [indLine, List.isEmpty_cons, Bool.false_eq_true, if_false]
      rw [lexOK]
      · simp [ws_all_ne_lbrace _ hind, h]
      · intro s tail he; cases he

theorem startMode_message (line : Str) (c : Char) (r : Str) (h : trimStart line = c :: r) (hc : c ≠ '@') : startMode line = .message := by
  simp [startMode, h, hc]

theorem startMode_line (ind : Str) (hind : ind.all isWsC = true) (l : List Comp) (h : lineWritable l = true) :
    startMode (lineSrc ind l) = .message := by
  rcases l with _ | ⟨s | id, r⟩
  · rfl
  · simp only [lineWritable, Bool.and_eq_true] at h
    have h3 := h.2
    cases hd : s.dropWhile isWsC with
    | nil => simp [hd] at h3
    | cons c s' =>
      simp only [hd, bne_iff_ne, ne_eq] at h3
      refine startMode_message _ c (s' ++ r.flatMap compSrc) ?_ h3
      simp only [lineSrc, List.flatMap_cons, compSrc, trimStart]
      rw [List.dropWhile_append_of_pos (List.all_eq_true.mp hind), List.dropWhile_append, hd]
      rfl
  · refine startMode_message _ '{' (['@', 'l', 'i', 'n', 'k', ' '] ++ id ++ ['}'] ++ r.flatMap compSrc) ?_ (by decide)
    simp only [lineSrc, List.flatMap_cons, compSrc, trimStart, linkOpen]
    rw [List.dropWhile_append_of_pos (List.all_eq_true.mp hind)]
    simp [isWsC_lbrace]

theorem lexOneLine_line (ind : Str) (hind : ind.all isWsC = true) (l : List Comp) (h : lineWritable l = true) :
    lexOneLine (lineSrc ind l) = ⟨lineToks (indLine ind l), none⟩ := by
  rw [lexOneLine_eq, startMode_line ind hind l h, lineSrc_indLine, lexL_comps]
  · rfl
  · simp only [lineWritable, Bool.and_eq_true] at h
    exact lexOK_indLine ind hind l h.1

/-- what is read back of a line that was written after the indentation `ind`: the line itself, except that a line which
    starts with a link has an empty text in front of the link (the remains of the indentation), unless `ind` is empty -/
def padLine (ind : Str) : List Comp → List Comp
  | .link id :: r => if ind.isEmpty then .link id :: r else .text [] :: .link id :: r
  | l => l

def joinLines (ls : List (List Comp)) : Msg := ls.flatMap (· ++ [nl])

def startsFlush : List Comp → Bool
  | .link _ :: _ => true
  | .text (c :: _) :: _ => !isWsC c
  | _ => false

def zeroIndent (ls : List (List Comp)) : Bool := ls.all List.isEmpty || ls.any startsFlush

theorem lineIndent_indLine (ind : Str) (hind : ind.all isWsC = true) (l : List Comp) (h : lineWritable l = true) :
    lineIndent (toMLine (indLine ind l)) = (lineIndent (toMLine l)).map (ind.length + ·) := by
  rcases l with _ | ⟨s | id, r⟩
  · rfl
  · simp only [lineWritable, Bool.and_eq_true] at h
    have hna : s.all isWsC = false := Bool.eq_false_iff.mpr fun ha => by simp [dropWhile_eq_nil_iff.mpr ha] at h
    simp [indLine, toMLine, lineIndent, List.all_append, hna, leadWs_ws_append ind s hind]
  · cases ind with
    | nil => rfl
    | cons a b => simp [indLine, toMLine, lineIndent, hind]

theorem lineIndent_flush (l : List Comp) (h : startsFlush l = true) : lineIndent (toMLine l) = some 0 := by
  rcases l with _ | ⟨(_ | ⟨c, s⟩) | _, r⟩
  · cases h
  · cases h
  · simp only [startsFlush, Bool.not_eq_true'] at h
    simp [toMLine, lineIndent, leadWs, h]
  · rfl

theorem lineWithout_indLine (ind : Str) (l : List Comp) :
    lineWithout ind.length (toMLine (indLine ind l)) = padLine ind l ++ [nl] := by
  rcases l with _ | ⟨s | id, r⟩
  · rfl
  · simp [indLine, toMLine, lineWithout, padLine]
  · cases ind <;> simp [indLine, toMLine, lineWithout, padLine]

theorem sanitizeSpec_indented (ind : Str) (hind : ind.all isWsC = true) (ls : List (List Comp)) (hl : ∀ l ∈ ls, lineWritable l = true)
    (hz : zeroIndent ls = true) :
    sanitizeSpec (ls.map fun l => toMLine (indLine ind l)) = joinLines (ls.map (padLine ind)) := by
  unfold sanitizeSpec joinLines
  rw [List.flatMap_map, List.flatMap_map]
  apply flatMap_congr_mem
  intro l hlm
  simp only [zeroIndent, Bool.or_eq_true, List.all_eq_true, List.any_eq_true] at hz
  rcases hz with hall | ⟨l0, hl0, hflush⟩
  · have : l = [] := by simpa using hall l hlm
    subst this
    rfl
  · have hc : commonIndent (ls.map fun l => toMLine (indLine ind l)) = ind.length := by
      unfold commonIndent
      rw [minOpt_eq_some_iff.2 ⟨?_, fun k hk => ?_⟩]
      · rfl
      · refine List.mem_map.2 ⟨_, List.mem_map_of_mem hl0, ?_⟩
        rw [lineIndent_indLine ind hind l0 (hl l0 hl0), lineIndent_flush l0 hflush]
        rfl
      · simp only [List.map_map, List.mem_map, Function.comp] at hk
        obtain ⟨l', hl', hk⟩ := hk
        rw [lineIndent_indLine ind hind l' (hl l' hl'), Option.map_eq_some_iff] at hk
        obtain ⟨_, _, rfl⟩ := hk
        exact Nat.le_add_right _ _
    rw [hc, lineWithout_indLine]

/-- all that the grammar lemmas need of a line (the lexer lemmas need `lexOK`, which implies it) -/
def linksOK (l : List Comp) : Bool := l.all fun c => match c with | .link id => scopedOK id | .text _ => true

theorem lexOK_linksOK (l : List Comp) (h : lexOK l = true) : linksOK l = true := by
  induction l with
  | nil => rfl
  | cons c r ih => cases c <;> simp only [lexOK, Bool.and_eq_true] at h <;> simpa [linksOK, h.1] using ih h.2

/-- A message is read back in front of the `Newline` that follows it everywhere in the grammar. The fuel of the three
    grammar lemmas (`parseComps_toks`, `parseLines_toks`, `parseBlocksG_toks`) is measured in tokens, the unit their callers
    have (`toks.length + 1`); every component, line and block yields at least one token. -/
theorem parseComps_toks (l : List Comp) (hl : linksOK l = true) (rest : List CTok) (fuel : Nat)
    (hf : (l.flatMap compToks ++ .newline :: rest).length < fuel) :
    parseComps fuel (l.flatMap compToks ++ .newline :: rest) = some (l, .newline :: rest) := by
  induction l generalizing fuel with
  | nil =>
    obtain ⟨f, rfl⟩ := Nat.exists_eq_add_one_of_ne_zero (Nat.ne_zero_of_lt hf)
    rfl
  | cons c r ih =>
    obtain ⟨f, rfl⟩ := Nat.exists_eq_add_one_of_ne_zero (Nat.ne_zero_of_lt hf)
    have h1 : 0 < (compToks c).length := by cases c <;> exact Nat.succ_pos _
    simp only [List.flatMap_cons, List.append_assoc, List.length_append] at hf
    simp only [linksOK, List.all_cons, Bool.and_eq_true] at hl
    have ihr := ih (by simpa [linksOK] using hl.2) f (by rw [List.length_append]; omega)
    cases c with
    | text s =>
      simp only [List.flatMap_cons, compToks, List.cons_append, List.nil_append]
      rw [parseComps, ihr]
    | link id =>
      have hp := parseScopedId_toks id hl.1 (.rbrace :: (r.flatMap compToks ++ .newline :: rest)) (by intro r' he; cases he)
      simp only [List.flatMap_cons, compToks, List.cons_append, List.append_assoc, List.nil_append]
      rw [parseComps]
      simp only [hp, ihr]

theorem startsLine_line (l : List Comp) (rest : List CTok) : startsLine (l.flatMap compToks ++ .newline :: rest) = true := by
  rcases l with _ | ⟨_ | _, _⟩ <;> rfl

theorem parseLines_toks (ls : List (List Comp)) (hl : ∀ l ∈ ls, linksOK l = true) (rest : List CTok) (hr : startsLine rest = false)
    (fuel : Nat) (hf : (ls.flatMap lineToks ++ rest).length < fuel) :
    parseLines fuel (ls.flatMap lineToks ++ rest) = some (ls.map toMLine, rest) := by
  induction ls generalizing fuel with
  | nil =>
    obtain ⟨f, rfl⟩ := Nat.exists_eq_add_one_of_ne_zero (Nat.ne_zero_of_lt hf)
    simp [parseLines, hr]
  | cons l ls ih =>
    obtain ⟨f, rfl⟩ := Nat.exists_eq_add_one_of_ne_zero (Nat.ne_zero_of_lt hf)
    have e : (l :: ls).flatMap lineToks ++ rest = l.flatMap compToks ++ .newline :: (ls.flatMap lineToks ++ rest) := by
      simp [lineToks]
    rw [e] at hf ⊢
    have ihr := ih (fun x hx => hl x (by simp [hx])) f (by simp only [List.length_append, List.length_cons] at hf ⊢; omega)
    have hc := parseComps_toks l (hl l (by simp)) (ls.flatMap lineToks ++ rest) _ (Nat.lt_add_one _)
    rw [parseLines, if_pos (startsLine_line l _)]
    simp only [hc, ihr, List.map_cons]

/- A tag's message is handled as the list `ls` of its lines: a non-empty first line is the inline message, written on the
   tag's own line after `:`; `[] :: ls'` is a message without inline part (the tag's line ends after the identifier); `[]` is
   no message. -/

/-- the first line of a tag's message, written on the tag's own line right after the `:`: its components are given back
    one for one, and if it starts with a text, that text starts with a non-blank character (`construct_section_message`
    trims the inline message) other than `:` (`@param x::…` would be lexed as `::`) -/
def inlineOK (l : List Comp) : Bool :=
  lexOK l && noBreak l && (match l with | .text (c :: _) :: _ => !isWsC c && c != ':' | _ => true)

def hdrTail : List (List Comp) → Str
  | (c :: cs) :: _ => ':' :: (c :: cs).flatMap compSrc
  | _ => []

def hdrTailToks : List (List Comp) → List CTok
  | (c :: cs) :: _ => .colon :: lineToks (c :: cs)
  | _ => [.newline]

def contLines : List (List Comp) → List (List Comp)
  | (_ :: _) :: ls => ls
  | ls => ls

def inlinePart : List (List Comp) → List (List Comp)
  | (c :: cs) :: _ => [c :: cs]
  | _ => []

theorem inline_cont (ls : List (List Comp)) : inlinePart ls ++ contLines ls = ls := by
  rcases ls with _ | ⟨_ | _, _⟩ <;> rfl

def sectionSrc (ind head : Str) (ls : List (List Comp)) : List Str := (head ++ hdrTail ls) :: (contLines ls).map (lineSrc ind)

theorem renderSection_eq (ind head : Str) (m : Msg) : renderSection ind head m = sectionSrc ind head (splitLines m) := by
  unfold renderSection sectionSrc
  cases splitLines m with
  | nil => simp [hdrTail, contLines]
  | cons l ls =>
    cases l with
    | nil => simp [hdrTail, contLines, lineSrc]
    | cons c cs => simp [hdrTail, contLines]

def sectionToks (ind : Str) (ls : List (List Comp)) : List CTok :=
  hdrTailToks ls ++ (contLines ls).flatMap (fun l => lineToks (indLine ind l))

def sectionLinesOK (ls : List (List Comp)) : Bool :=
  (inlinePart ls).all inlineOK && (contLines ls).all lineOK && zeroIndent (contLines ls)

theorem sectionLinesOK_inline {c : Comp} {cs : List Comp} {ls : List (List Comp)} (h : sectionLinesOK ((c :: cs) :: ls) = true) :
    inlineOK (c :: cs) = true ∧ lexOK (c :: cs) = true := by
  simp only [sectionLinesOK, inlinePart, List.all_cons, List.all_nil, Bool.and_true, Bool.and_eq_true] at h
  have := h.1.1
  simp only [inlineOK, Bool.and_eq_true] at this
  exact ⟨h.1.1, this.1.1⟩

theorem inline_src_head (l : List Comp) (h : inlineOK l = true) : ∀ t, l.flatMap compSrc ≠ ':' :: t := by
  intro t he
  simp only [inlineOK, Bool.and_eq_true] at h
  rcases l with _ | ⟨(_ | ⟨c, s⟩) | id, r⟩
  · cases he
  · simp [lexOK] at h
  · obtain rfl : c = ':' := (List.cons.inj he).1
    simp at h
  · cases he

theorem hdrTail_stop (ls : List (List Comp)) : stops isIdCharC (hdrTail ls) = true := by
  rcases ls with _ | ⟨_ | _, _⟩ <;> rfl

theorem lexL_hdrTail (ls : List (List Comp)) (h : sectionLinesOK ls = true) : lexL .blockTag (hdrTail ls) = ⟨hdrTailToks ls, none⟩ := by
  rcases ls with _ | ⟨_ | ⟨c, cs⟩, _⟩
  · rfl
  · rfl
  · obtain ⟨hin, hlex⟩ := sectionLinesOK_inline h
    simp only [hdrTail, hdrTailToks]
    rw [lexL_tag_tok (by decide) (lexTagComponent_colon _ (inline_src_head _ hin)), lexL_comps _ hlex]
    rfl

theorem startMode_at (r : Str) : startMode ('@' :: r) = .blockTag := by
  simp [startMode, trimStart, isWsC_at]

theorem lexOneLine_tag (name : Str) (k : TagKw) (hfind : Gen.commentTagKeywords.find? (fun r => r.1 == name) = some (name, k, false))
    (hname : name.all isIdCharC = true) (id : Option Str) (hid : ∀ i, id = some i → idOK i = true)
    (ls : List (List Comp)) (h : sectionLinesOK ls = true) :
    lexOneLine ('@' :: name ++ (match (generalizing := false) id with | none => [] | some i => ' ' :: i) ++ hdrTail ls) =
      ⟨.kw k :: (match (generalizing := false) id with | none => [] | some i => [.ident i]) ++ hdrTailToks ls, none⟩ := by
  rw [lexOneLine_eq, List.cons_append, List.cons_append, startMode_at, List.append_assoc]
  cases id with
  | none =>
    have h1 := lexTagComponent_kw .blockTag name k false hfind rfl hname (hdrTail ls) (hdrTail_stop ls)
    rw [List.nil_append, lexL_tag_tok (by decide) h1, lexL_hdrTail ls h]
    rfl
  | some i =>
    have h1 := lexTagComponent_kw .blockTag name k false hfind rfl hname ([' '] ++ (i ++ hdrTail ls)) rfl
    have h2 := lexTagComponent_ident .blockTag [' '] (by decide) i (hid i rfl) (hdrTail ls) (hdrTail_stop ls)
    rw [show (' ' :: i) ++ hdrTail ls = [' '] ++ (i ++ hdrTail ls) from rfl, lexL_tag_tok (by decide) h1,
      lexL_tag_tok (by decide) h2, lexL_hdrTail ls h]
    rfl

theorem lexOneLine_see (id : Str) (hid : scopedOK id = true) :
    lexOneLine (seeHead ++ id) = ⟨.kw .SeeKeyword :: idToks id ++ [.newline], none⟩ := by
  have e : seeHead ++ id = '@' :: (['s', 'e', 'e'] ++ ([' '] ++ (id ++ []))) := by simp [seeHead]
  have h1 := lexTagComponent_kw .blockTag ['s', 'e', 'e'] .SeeKeyword false (by decide) rfl (by decide) ([' '] ++ (id ++ [])) rfl
  have h2 := lexL_scoped .blockTag (by decide) [' '] (by decide) id hid [] rfl
  rw [e, lexOneLine_eq, startMode_at, lexL_tag_tok (by decide) h1, h2]
  rfl

theorem lexComment_cons_ok (l : Str) (ls : List Str) (t : List CTok) (h : lexOneLine l = ⟨t, none⟩) :
    lexComment (l :: ls) = (lexComment ls).pre t := by
  simp [lexComment, h, LexOut.pre]

theorem lexComment_append (a b : List Str) (ta : List CTok) (h : lexComment a = ⟨ta, none⟩) :
    lexComment (a ++ b) = (lexComment b).pre ta := by
  revert h
  fun_induction lexComment a generalizing ta <;> intro h
  case case1 => cases h; rfl
  case case2 he => rw [h] at he; cases he
  case case3 l ls o he r ih =>
    obtain ⟨rfl, hr⟩ := LexOut.mk.inj h
    simp [lexComment, he, ih r.toks (by rw [← hr]), LexOut.pre, o]

theorem lexComment_lines (ind : Str) (hind : ind.all isWsC = true) (ls : List (List Comp)) (h : ∀ l ∈ ls, lineWritable l = true) :
    lexComment (ls.map (lineSrc ind)) = ⟨ls.flatMap (fun l => lineToks (indLine ind l)), none⟩ := by
  induction ls with
  | nil => rfl
  | cons l ls ih =>
    rw [List.map_cons, lexComment_cons_ok _ _ _ (lexOneLine_line ind hind l (h l (by simp))), ih (fun x hx => h x (by simp [hx]))]
    rfl

theorem lexComment_flatMap {β} (bs : List β) (src : β → List Str) (tk : β → List CTok)
    (h : ∀ b ∈ bs, lexComment (src b) = ⟨tk b, none⟩) : lexComment (bs.flatMap src) = ⟨bs.flatMap tk, none⟩ := by
  induction bs with
  | nil => rfl
  | cons b bs ih =>
    rw [List.flatMap_cons, lexComment_append _ _ _ (h b (by simp)), ih (fun x hx => h x (by simp [hx]))]
    rfl

inductive DocBlock where
  | param (id : Str) (ls : List (List Comp))
  | returns (id : Option Str) (ls : List (List Comp))
  | see (id : Str)

def DocBlock.src (ind : Str) : DocBlock → List Str
  | .param id ls => sectionSrc ind (paramHead ++ id) ls
  | .returns id ls => sectionSrc ind (returnsHead ++ (match id with | none => [] | some i => ' ' :: i)) ls
  | .see id => [seeHead ++ id]

def DocBlock.toks (ind : Str) : DocBlock → List CTok
  | .param id ls => .kw .ParamKeyword :: .ident id :: sectionToks ind ls
  | .returns none ls => .kw .ReturnsKeyword :: sectionToks ind ls
  | .returns (some id) ls => .kw .ReturnsKeyword :: .ident id :: sectionToks ind ls
  | .see id => .kw .SeeKeyword :: idToks id ++ [.newline]

def DocBlock.OK : DocBlock → Bool
  | .param id ls => idOK id && sectionLinesOK ls
  | .returns id ls => (match id with | none => true | some i => idOK i) && sectionLinesOK ls
  | .see id => scopedOK id

def sectionBack (ind : Str) (ls : List (List Comp)) : Msg := joinLines (inlinePart ls ++ (contLines ls).map (padLine ind))

def DocBlock.apply (ind : Str) (c : DocC) : DocBlock → DocC
  | .param id ls => { c with params := c.params ++ [(id, sectionBack ind ls)] }
  | .returns id ls => { c with returns := c.returns ++ [(id, sectionBack ind ls)] }
  | .see id => { c with see := c.see ++ [id] }

theorem sectionLinesOK_cont (ls : List (List Comp)) (h : sectionLinesOK ls = true) :
    (∀ l ∈ contLines ls, lineWritable l = true) ∧ zeroIndent (contLines ls) = true := by
  simp only [sectionLinesOK, Bool.and_eq_true, List.all_eq_true] at h
  exact ⟨fun l hl => lineOK_writable (h.1.2 l hl), h.2⟩

theorem lexComment_block (ind : Str) (hind : ind.all isWsC = true) (b : DocBlock) (h : b.OK = true) :
    lexComment (b.src ind) = ⟨b.toks ind, none⟩ := by
  cases b with
  | param id ls =>
    simp only [DocBlock.OK, Bool.and_eq_true] at h
    have hl := lexOneLine_tag ['p', 'a', 'r', 'a', 'm'] .ParamKeyword (by decide) (by decide) (some id) (by rintro i ⟨⟩; exact h.1) ls h.2
    simp only [DocBlock.src, sectionSrc, DocBlock.toks, sectionToks]
    refine (lexComment_cons_ok _ _ _ hl).trans ?_
    rw [lexComment_lines ind hind _ (sectionLinesOK_cont ls h.2).1]
    simp [LexOut.pre]
  | returns id ls =>
    simp only [DocBlock.OK, Bool.and_eq_true] at h
    have hl := lexOneLine_tag ['r', 'e', 't', 'u', 'r', 'n', 's'] .ReturnsKeyword (by decide) (by decide) id
      (by rintro i rfl; exact h.1) ls h.2
    simp only [DocBlock.src, sectionSrc]
    refine (lexComment_cons_ok _ _ _ hl).trans ?_
    rw [lexComment_lines ind hind _ (sectionLinesOK_cont ls h.2).1]
    cases id <;> simp [LexOut.pre, DocBlock.toks, sectionToks]
  | see id =>
    simp only [DocBlock.OK] at h
    simp only [DocBlock.src, DocBlock.toks]
    rw [lexComment_cons_ok _ _ _ (lexOneLine_see id h)]
    simp [LexOut.pre, lexComment]

theorem startsLine_follower {rest : List CTok} (h : validFollower none rest = true) : startsLine rest = false := by
  cases rest with
  | nil => rfl
  | cons t r => cases t <;> first | rfl | cases h

theorem reduceLines_ok (san : Sanitizer) (hsan : ∀ ls, san ls = .ok (sanitizeSpec ls)) (lsM : List MLine) (rest : List CTok)
    (hrest : validFollower none rest = true) :
    reduceLines san none lsM rest = .ok (match lsM with | [] => none | _ :: _ => some (sanitizeSpec lsM)) := by
  unfold reduceLines
  rw [if_pos hrest]
  cases lsM with
  | nil => rfl
  | cons a b => simp [hsan, Outcome.bind]

theorem constructSectionMessage_inline (l : List Comp) (h : inlineOK l = true) (lines : Option Msg) :
    constructSectionMessage (some l) lines = l ++ [nl] ++ lines.getD [] := by
  -- only a text with a first character is looked at by the trimming
  rcases l with _ | ⟨(_ | ⟨c, s⟩) | id, r⟩
  · rfl
  · rfl
  · simp only [inlineOK, Bool.and_eq_true, Bool.not_eq_true'] at h
    simp [constructSectionMessage, trimStart, h.2.1]
  · rfl

theorem joinLines_append (a b : List (List Comp)) : joinLines (a ++ b) = joinLines a ++ joinLines b := by
  simp [joinLines]

theorem parseLines_indented (ind : Str) (hind : ind.all isWsC = true) (ls : List (List Comp)) (hl : ∀ l ∈ ls, lineWritable l = true)
    (rest : List CTok) (hr : startsLine rest = false) (fuel : Nat)
    (hf : (ls.flatMap (fun l => lineToks (indLine ind l)) ++ rest).length < fuel) :
    parseLines fuel (ls.flatMap (fun l => lineToks (indLine ind l)) ++ rest) =
      some (ls.map (fun l => toMLine (indLine ind l)), rest) := by
  have hlinks : ∀ l ∈ ls.map (indLine ind), linksOK l = true := by
    intro l hm
    obtain ⟨l', hl', rfl⟩ := List.mem_map.mp hm
    have := hl l' hl'
    simp only [lineWritable, Bool.and_eq_true] at this
    exact lexOK_linksOK _ (lexOK_indLine ind hind l' this.1)
  have := parseLines_toks (ls.map (indLine ind)) hlinks rest hr fuel (by rwa [List.flatMap_map])
  simpa [List.flatMap_map, List.map_map, Function.comp_def] using this

def linesBack (ind : Str) : List (List Comp) → Option Msg
  | [] => none
  | l :: ls => some (joinLines ((l :: ls).map (padLine ind)))

theorem parseMsgLines_toks (san : Sanitizer) (hsan : ∀ ls, san ls = .ok (sanitizeSpec ls)) (ind : Str) (hind : ind.all isWsC = true)
    (ls : List (List Comp)) (hl : ∀ l ∈ ls, lineWritable l = true) (hz : zeroIndent ls = true) (rest : List CTok) (hrest : validFollower none rest = true) :
    parseMsgLines san none (ls.flatMap (fun l => lineToks (indLine ind l)) ++ rest) = .ok (linesBack ind ls, rest) := by
  rw [parseMsgLines, parseLines_indented ind hind ls hl rest (startsLine_follower hrest) _ (Nat.lt_add_one _)]
  simp only [reduceLines_ok san hsan _ _ hrest, Outcome.bind]
  cases ls with
  | nil => rfl
  | cons l ls => rw [sanitizeSpec_indented ind hind _ hl hz]; rfl

theorem sectionHdr_toks (ls : List (List Comp)) (hok : sectionLinesOK ls = true) (r : List CTok) :
    sectionHdr (hdrTailToks ls ++ r) = some ((inlinePart ls).head?, r) := by
  rcases ls with _ | ⟨_ | ⟨c, cs⟩, ls'⟩
  · rfl
  · rfl
  · have hc := parseComps_toks (c :: cs) (lexOK_linksOK _ (sectionLinesOK_inline hok).2) r _ (Nat.lt_add_one _)
    simp only [hdrTailToks, lineToks, List.cons_append, List.append_assoc, List.nil_append, sectionHdr, hc, inlinePart, List.head?_cons]

theorem constructSectionMessage_back (ind : Str) (ls : List (List Comp)) (hok : sectionLinesOK ls = true) :
    constructSectionMessage (inlinePart ls).head? (linesBack ind (contLines ls)) = sectionBack ind ls := by
  rcases ls with _ | ⟨_ | ⟨c, cs⟩, ls'⟩
  · rfl
  · cases ls' <;> rfl
  · simp only [inlinePart, List.head?_cons, constructSectionMessage_inline _ (sectionLinesOK_inline hok).1, sectionBack,
      joinLines_append, contLines]
    cases ls' <;> simp [linesBack, joinLines]

theorem parseSectionG_toks (san : Sanitizer) (hsan : ∀ ls, san ls = .ok (sanitizeSpec ls)) (ind : Str) (hind : ind.all isWsC = true)
    (ls : List (List Comp)) (hok : sectionLinesOK ls = true) (rest : List CTok) (hrest : validFollower none rest = true) :
    parseSectionG san none (sectionToks ind ls ++ rest) = .ok (sectionBack ind ls, rest) := by
  obtain ⟨hcl, hcz⟩ := sectionLinesOK_cont ls hok
  rw [parseSectionG_eq, sectionToks, List.append_assoc, sectionHdr_toks ls hok]
  simp only [parseMsgLines_toks san hsan ind hind _ hcl hcz rest hrest, Outcome.bind, constructSectionMessage_back ind ls hok]

theorem sectionToks_not_ident (ind : Str) (ls : List (List Comp)) (tail : List CTok) (id : Str) (rest : List CTok) :
    sectionToks ind ls ++ tail ≠ .ident id :: rest := by
  rcases ls with _ | ⟨_ | _, _⟩ <;> exact fun he => nomatch he

theorem blocks_follow (ind : Str) (bs : List DocBlock) : validFollower none (bs.flatMap (DocBlock.toks ind)) = true := by
  rcases bs with _ | ⟨_ | ⟨_ | _, _⟩ | _, _⟩ <;> rfl

theorem parseBlocksG_toks (san : Sanitizer) (hsan : ∀ ls, san ls = .ok (sanitizeSpec ls)) (ind : Str) (hind : ind.all isWsC = true)
    (bs : List DocBlock) (hok : ∀ b ∈ bs, b.OK = true) (c : DocC) (fuel : Nat)
    (hf : (bs.flatMap (DocBlock.toks ind)).length < fuel) :
    parseBlocksG san none fuel c (bs.flatMap (DocBlock.toks ind)) = .ok (bs.foldl (DocBlock.apply ind) c) := by
  induction bs generalizing c fuel with
  | nil =>
    obtain ⟨f, rfl⟩ := Nat.exists_eq_add_one_of_ne_zero (Nat.ne_zero_of_lt hf)
    simp [parseBlocksG]
  | cons b bs ih =>
    obtain ⟨f, rfl⟩ := Nat.exists_eq_add_one_of_ne_zero (Nat.ne_zero_of_lt hf)
    have h1 : 0 < (b.toks ind).length := by
      cases b with
      | returns id _ => cases id <;> exact Nat.succ_pos _
      | _ => exact Nat.succ_pos _
    simp only [List.flatMap_cons, List.length_append] at hf
    have hfol := blocks_follow ind bs
    have ihr := fun c => ih (fun x hx => hok x (by simp [hx])) c f (by omega)
    have hb := hok b (by simp)
    rw [List.flatMap_cons, List.foldl_cons]
    rcases b with ⟨id, ls⟩ | ⟨_ | id, ls⟩ | id
    case param | returns.some =>
      simp only [DocBlock.OK, Bool.and_eq_true] at hb
      simp only [DocBlock.toks, List.cons_append]
      rw [parseBlocksG, parseSectionG_toks san hsan ind hind ls hb.2 _ hfol]
      simp only [Outcome.bind, ihr, DocBlock.apply]
    case returns.none =>
      simp only [DocBlock.OK, Bool.and_eq_true, true_and] at hb
      simp only [DocBlock.toks, List.cons_append]
      -- `parseBlocksG` tries `@returns identifier` first: the section starts with `Newline` or `:`, so that arm does not match
      rw [parseBlocksG, parseSectionG_toks san hsan ind hind ls hb _ hfol]
      · simp only [Outcome.bind, ihr, DocBlock.apply]
      · exact fun id rest => sectionToks_not_ident ind ls _ id rest
    case see =>
      simp only [DocBlock.OK] at hb
      have hp := parseScopedId_toks id hb (.newline :: bs.flatMap (DocBlock.toks ind)) (by intro r' he; cases he)
      simp only [DocBlock.toks, List.cons_append, List.append_assoc, List.nil_append]
      rw [parseBlocksG]
      simp only [hp, hfol, if_true, ihr, DocBlock.apply]

def terminated (m : Msg) : Bool := m.isEmpty || m.getLast? == some nl

theorem joinLines_splitLinesAux (m : Msg) (cur : List Comp) :
    joinLines (splitLinesAux cur (m ++ [nl])) = cur.reverse ++ (m ++ [nl]) := by
  induction m generalizing cur with
  | nil => simp [splitLinesAux, joinLines]
  | cons c r ih =>
    rw [List.cons_append, splitLinesAux]
    split
    · rename_i hc
      show cur.reverse ++ [nl] ++ joinLines (splitLinesAux [] (r ++ [nl])) = _
      rw [ih, hc]; simp
    · rw [ih]; simp

theorem joinLines_splitLines (m : Msg) (h : terminated m = true) : joinLines (splitLines m) = m := by
  simp only [terminated, Bool.or_eq_true, List.isEmpty_iff, beq_iff_eq, List.getLast?_eq_some_iff] at h
  obtain rfl | ⟨ys, rfl⟩ := h
  · rfl
  · exact joinLines_splitLinesAux ys []

theorem splitLines_ne_nil (m : Msg) (h : terminated m = true) (hne : m ≠ []) : splitLines m ≠ [] := by
  intro he
  have := joinLines_splitLines m h
  rw [he] at this
  exact hne this.symm

def groupOK (m : Msg) : Bool := terminated m && (splitLines m).all lineOK && zeroIndent (splitLines m)

def sectionOK (m : Msg) : Bool := terminated m && sectionLinesOK (splitLines m)

/-- **what the renderer can write so that it reads back**:
    * every message (overview, tag messages) is a sequence of lines each closed by the `"\n"` text; an overview is not empty;
    * in every line, a text is not empty, contains no `{` and no line break (the last because a `///` line cannot hold one;
      the round trip does not read it), and is not followed by another text; a link's target is a scoped identifier;
    * an overview or continuation line that starts with a text has a first non-blank character in it, which is not `@`;
    * the first line of a tag's message (written after the `:`) does not start with a blank or with `:`;
    * unless they are all empty, one of the overview lines (of the continuation lines of a tag) has no indentation of its own;
    * `@param` / `@returns` identifiers are identifiers, `@see` targets are scoped identifiers. -/
def Renderable (c : DocC) : Bool :=
  (match c.overview with | none => true | some m => !m.isEmpty && groupOK m) &&
  c.params.all (fun x => idOK x.1 && sectionOK x.2) &&
  c.returns.all (fun x => (match x.1 with | none => true | some i => idOK i) && sectionOK x.2) &&
  c.see.all scopedOK

def readBackMsg (ind : Str) (m : Msg) : Msg := joinLines ((splitLines m).map (padLine ind))
def readBackSection (ind : Str) (m : Msg) : Msg := sectionBack ind (splitLines m)

/-- the comment that is read back after `c` was written with the indentation `ind`: `c` itself, except that every overview
    or continuation line that starts with a link has an empty text in front of the link (nothing when `ind` is empty) -/
def DocC.readBack (c : DocC) (ind : Str) : DocC :=
  { overview := c.overview.map (readBackMsg ind),
    params := c.params.map fun x => (x.1, readBackSection ind x.2),
    returns := c.returns.map fun x => (x.1, readBackSection ind x.2),
    see := c.see }

def ovLines (c : DocC) : List (List Comp) := match c.overview with | none => [] | some m => splitLines m

def blocksOf (c : DocC) : List DocBlock :=
  c.params.map (fun x => DocBlock.param x.1 (splitLines x.2)) ++ c.returns.map (fun x => DocBlock.returns x.1 (splitLines x.2)) ++
  c.see.map DocBlock.see

theorem renderComment_eq (c : DocC) (ind : Str) :
    renderComment c ind = (ovLines c).map (lineSrc ind) ++ (blocksOf c).flatMap (DocBlock.src ind) := by
  unfold renderComment ovLines blocksOf
  simp only [List.flatMap_append, List.flatMap_map, DocBlock.src, renderSection_eq, List.append_assoc]
  congr 1
  · cases c.overview <;> simp [renderMsgLines]
  · congr 2
    exact List.map_eq_flatMap

theorem foldl_params (ind : Str) (ps : List (Str × Msg)) (c : DocC) :
    (ps.map (fun x => DocBlock.param x.1 (splitLines x.2))).foldl (DocBlock.apply ind) c =
      { c with params := c.params ++ ps.map fun x => (x.1, readBackSection ind x.2) } := by
  induction ps generalizing c with
  | nil => simp
  | cons p ps ih => simp [ih, DocBlock.apply, readBackSection]

theorem foldl_returns (ind : Str) (ps : List (Option Str × Msg)) (c : DocC) :
    (ps.map (fun x => DocBlock.returns x.1 (splitLines x.2))).foldl (DocBlock.apply ind) c =
      { c with returns := c.returns ++ ps.map fun x => (x.1, readBackSection ind x.2) } := by
  induction ps generalizing c with
  | nil => simp
  | cons p ps ih => simp [ih, DocBlock.apply, readBackSection]

theorem foldl_see (ind : Str) (ps : List Str) (c : DocC) :
    (ps.map DocBlock.see).foldl (DocBlock.apply ind) c = { c with see := c.see ++ ps } := by
  induction ps generalizing c with
  | nil => simp
  | cons p ps ih => simp [ih, DocBlock.apply]

theorem blocksOf_OK (c : DocC) (h : Renderable c = true) : ∀ b ∈ blocksOf c, b.OK = true := by
  simp only [Renderable, Bool.and_eq_true, List.all_eq_true] at h
  obtain ⟨⟨⟨_, hp⟩, hr⟩, hs⟩ := h
  intro b hb
  simp only [blocksOf, List.mem_append, List.mem_map] at hb
  rcases hb with (⟨x, hx, rfl⟩ | ⟨x, hx, rfl⟩) | ⟨x, hx, rfl⟩
  · have := hp x hx
    simp only [sectionOK, Bool.and_eq_true] at this
    simp [DocBlock.OK, this.1, this.2.2]
  · have := hr x hx
    simp only [sectionOK, Bool.and_eq_true] at this
    simp [DocBlock.OK, this.1, this.2.2]
  · exact hs x hx

theorem ovLines_OK (c : DocC) (hr : Renderable c = true) :
    (∀ l ∈ ovLines c, lineWritable l = true) ∧ zeroIndent (ovLines c) = true ∧ (c.overview.isSome → ovLines c ≠ []) := by
  simp only [Renderable, Bool.and_eq_true] at hr
  have h1 := hr.1.1.1
  unfold ovLines
  cases ho : c.overview with
  | none => simp [zeroIndent]
  | some m =>
    simp only [ho, groupOK, Bool.and_eq_true, Bool.not_eq_true', List.all_eq_true] at h1
    exact ⟨fun l hl => lineOK_writable (h1.2.1.2 l hl), h1.2.2, fun _ => splitLines_ne_nil m h1.2.1.1 (by intro e; simp [e] at h1)⟩

def renderToks (c : DocC) (ind : Str) : List CTok :=
  (ovLines c).flatMap (fun l => lineToks (indLine ind l)) ++ (blocksOf c).flatMap (DocBlock.toks ind)

theorem DocBlock.src_ne_nil (ind : Str) (b : DocBlock) : b.src ind ≠ [] := by
  cases b <;> simp [DocBlock.src, sectionSrc]

theorem lexComment_written (ind : Str) (hind : ind.all isWsC = true) (ovl : List (List Comp)) (hovl : ∀ l ∈ ovl, lineWritable l = true)
    (bs : List DocBlock) (hbs : ∀ b ∈ bs, b.OK = true) :
    lexComment (ovl.map (lineSrc ind) ++ bs.flatMap (DocBlock.src ind)) =
      ⟨ovl.flatMap (fun l => lineToks (indLine ind l)) ++ bs.flatMap (DocBlock.toks ind), none⟩ := by
  rw [lexComment_append _ _ _ (lexComment_lines ind hind _ hovl),
    lexComment_flatMap _ _ _ (fun b hb => lexComment_block ind hind b (hbs b hb))]
  rfl

theorem parseCommentG_written (san : Sanitizer) (hsan : ∀ ls, san ls = .ok (sanitizeSpec ls)) (ind : Str) (hind : ind.all isWsC = true)
    (ovl : List (List Comp)) (hovl : ∀ l ∈ ovl, lineWritable l = true) (hovz : zeroIndent ovl = true)
    (bs : List DocBlock) (hbs : ∀ b ∈ bs, b.OK = true) (hne : ovl ≠ [] ∨ bs ≠ []) :
    parseCommentG san (ovl.map (lineSrc ind) ++ bs.flatMap (DocBlock.src ind)) =
      .ok (bs.foldl (DocBlock.apply ind) { overview := linesBack ind ovl, params := [], returns := [], see := [] }) := by
  have hnonempty : ovl.map (lineSrc ind) ++ bs.flatMap (DocBlock.src ind) ≠ [] := by
    intro he
    simp only [List.append_eq_nil_iff, List.map_eq_nil_iff, List.flatMap_eq_nil_iff] at he
    rcases hne with h | h
    · exact h he.1
    · obtain ⟨b, hb⟩ := List.exists_mem_of_ne_nil _ h
      exact DocBlock.src_ne_nil ind b (he.2 b hb)
  rw [parseCommentG_eq san _ hnonempty, lexComment_written ind hind ovl hovl bs hbs]
  simp only [parseMsgLines_toks san hsan ind hind ovl hovl hovz _ (blocks_follow ind bs), Outcome.bind,
    parseBlocksG_toks san hsan ind hind _ hbs _ _ (Nat.lt_add_one _)]

/-- for any sanitizer that computes the property's rule; the code's does (`Props/C16.sanitize_eq_spec`) -/
theorem parseCommentG_render (san : Sanitizer) (hsan : ∀ ls, san ls = .ok (sanitizeSpec ls)) (c : DocC) (ind : Str)
    (hind : ind.all isWsC = true) (hr : Renderable c = true)
    (hne : c.overview.isSome ∨ c.params ≠ [] ∨ c.returns ≠ [] ∨ c.see ≠ []) :
    parseCommentG san (renderComment c ind) = .ok (c.readBack ind) := by
  obtain ⟨hovl, hovz, hovne⟩ := ovLines_OK c hr
  have hne' : ovLines c ≠ [] ∨ blocksOf c ≠ [] := by
    unfold blocksOf
    rcases hne with h | h | h | h
    · exact Or.inl (hovne h)
    all_goals exact Or.inr (by simp [h])
  rw [renderComment_eq, parseCommentG_written san hsan ind hind _ hovl hovz _ (blocksOf_OK c hr) hne']
  unfold blocksOf
  rw [List.foldl_append, List.foldl_append, foldl_params, foldl_returns, foldl_see]
  simp only [DocC.readBack, List.nil_append]
  congr 2
  cases ho : c.overview with
  | none => simp only [ovLines, ho, Option.map, linesBack]
  | some m =>
    have hm : ovLines c = splitLines m := by simp only [ovLines, ho]
    rw [hm]
    cases he : splitLines m with
    | nil => exact absurd (hm.trans he) (hovne (by rw [ho]; rfl))
    | cons l ls => simp only [linesBack, Option.map, readBackMsg, he]

def spaces (k : Nat) : Str := List.replicate k ' '

/-- a line body the lexer turns into exactly one `Text` -/
def PlainBody (b : Str) : Prop := ∃ c r, b = c :: r ∧ isWsC c = false ∧ c ≠ '@' ∧ ∀ x ∈ b, x ≠ '{'

/-- a written overview line: empty, or `j` spaces of own indentation and a plain body -/
abbrev PLine := Option (Nat × Str)

def PLine.comps : PLine → List Comp
  | none => []
  | some (j, b) => [.text (spaces j ++ b)]

def plainMsg (ls : List PLine) : Msg := ls.flatMap fun l => l.comps ++ [nl]

def PLine.WF : PLine → Prop
  | none => True
  | some (_, b) => PlainBody b

theorem spaces_append_ne_nl (j : Nat) (b : Str) (h : PlainBody b) : Comp.text (spaces j ++ b) ≠ nl := by
  obtain ⟨c, r, rfl, hc, _, _⟩ := h
  intro heq
  simp only [nl, Comp.text.injEq] at heq
  cases j with
  | zero =>
    simp [spaces] at heq
    obtain ⟨rfl, _⟩ := heq
    exact absurd hc (by decide)
  | succ j =>
    simp [spaces, List.replicate_succ] at heq

theorem splitLines_plain (ls : List PLine) (h : ∀ l ∈ ls, l.WF) : splitLines (plainMsg ls) = ls.map PLine.comps := by
  unfold splitLines
  induction ls with
  | nil => simp [plainMsg, splitLinesAux]
  | cons l ls ih =>
    have ih' := ih (fun x hx => h x (by simp [hx]))
    have hb := h l (by simp)
    rcases l with _ | ⟨j, b⟩
    · simp only [plainMsg, List.flatMap_cons, PLine.comps, List.nil_append, List.cons_append, List.map_cons] at ih' ⊢
      rw [splitLinesAux, if_pos rfl]
      simp [ih']
    · simp only [plainMsg, List.flatMap_cons, PLine.comps, List.cons_append, List.nil_append, List.map_cons] at ih' ⊢
      rw [splitLinesAux, if_neg (spaces_append_ne_nl j b hb), splitLinesAux, if_pos rfl]
      simp [ih']

def plainDoc (ls : List PLine) : DocC := { overview := some (plainMsg ls), params := [], returns := [], see := [] }

theorem render_plainDoc (ls : List PLine) (ind : Str) (h : ∀ l ∈ ls, l.WF) :
    renderComment (plainDoc ls) ind = (ls.map PLine.comps).map (lineSrc ind) := by
  simp [renderComment, plainDoc, renderMsgLines, splitLines_plain ls h]

theorem spaces_all_ws (k : Nat) : (spaces k).all isWsC = true := by
  simp only [List.all_eq_true, spaces]
  intro x hx
  rw [(List.mem_replicate.mp hx).2]; decide

theorem PLine.comps_writable (l : PLine) (h : l.WF) : lineWritable l.comps = true := by
  rcases l with _ | ⟨j, b⟩
  · rfl
  · obtain ⟨c, r, rfl, hc, hat, hbr⟩ := h
    have hd : (spaces j ++ c :: r).dropWhile isWsC = c :: r := (span_all_append (spaces_all_ws j) (by simp [stops, hc])).2
    have hall : (spaces j ++ c :: r).all (· != '{') = true := by
      rw [List.all_append, ws_all_ne_lbrace _ (spaces_all_ws j)]
      exact List.all_eq_true.2 fun x hx => bne_iff_ne.2 (hbr x hx)
    simp [PLine.comps, lineWritable, lexOK, hd, hat, hall]

theorem zeroIndent_plain (ls : List PLine) (hwf : ∀ l ∈ ls, l.WF) (hzero : ∀ j b, some (j, b) ∈ ls → ∃ b0, some (0, b0) ∈ ls) :
    zeroIndent (ls.map PLine.comps) = true := by
  simp only [zeroIndent, Bool.or_eq_true, List.all_eq_true, List.any_eq_true, List.mem_map]
  by_cases hsome : ∃ j b, some (j, b) ∈ ls
  · right
    obtain ⟨j, b, hl⟩ := hsome
    obtain ⟨b0, h0⟩ := hzero j b hl
    obtain ⟨c, r, rfl, hc, _, _⟩ := hwf _ h0
    exact ⟨_, ⟨_, h0, rfl⟩, by simp [PLine.comps, spaces, startsFlush, hc]⟩
  · left
    rintro x ⟨l, hl, rfl⟩
    rcases l with _ | ⟨j, b⟩
    · rfl
    · exact absurd ⟨j, b, hl⟩ hsome

theorem linesBack_plain (ind : Str) (ls : List PLine) (hne : ls ≠ []) : linesBack ind (ls.map PLine.comps) = some (plainMsg ls) := by
  have hpad : ∀ l : PLine, padLine ind l.comps = l.comps := fun l => by rcases l with _ | ⟨j, b⟩ <;> rfl
  cases ls with
  | nil => exact absurd rfl hne
  | cons l ls => simp [linesBack, joinLines, plainMsg, List.flatMap_map, hpad]

def linkLed : List Comp → Bool
  | .link _ :: _ => true
  | _ => false

theorem padLine_eq (ind : Str) (l : List Comp) (h : ind = [] ∨ linkLed l = false) : padLine ind l = l := by
  rcases l with _ | ⟨_ | id, r⟩
  · rfl
  · rfl
  · rcases h with rfl | h
    · rfl
    · simp [linkLed] at h

def noLinkLedLine (c : DocC) : Bool :=
  (ovLines c).all (fun l => !linkLed l) &&
  c.params.all (fun x => (contLines (splitLines x.2)).all (fun l => !linkLed l)) &&
  c.returns.all (fun x => (contLines (splitLines x.2)).all (fun l => !linkLed l))

theorem map_padLine_eq (ind : Str) (ls : List (List Comp)) (h : ind = [] ∨ ls.all (fun l => !linkLed l) = true) :
    ls.map (padLine ind) = ls := by
  have : ∀ l ∈ ls, padLine ind l = l := by
    intro l hl
    apply padLine_eq
    rcases h with h | h
    · exact Or.inl h
    · right; simpa using List.all_eq_true.mp h l hl
  rw [List.map_congr_left this, List.map_id']

theorem readBack_eq (c : DocC) (ind : Str) (hr : Renderable c = true) (h : ind = [] ∨ noLinkLedLine c = true) : c.readBack ind = c := by
  simp only [Renderable, Bool.and_eq_true, List.all_eq_true] at hr
  obtain ⟨⟨⟨hov, hp⟩, hrt⟩, _⟩ := hr
  have hsec : ∀ m, sectionOK m = true → (ind = [] ∨ (contLines (splitLines m)).all (fun l => !linkLed l) = true) →
      readBackSection ind m = m := by
    intro m hm hl
    simp only [sectionOK, Bool.and_eq_true] at hm
    rw [readBackSection, sectionBack, map_padLine_eq ind _ hl, inline_cont, joinLines_splitLines m hm.1]
  -- `noLinkLedLine c` as its three conjuncts, those on `params` / `returns` as `∀ x ∈ …`
  have hn : ind = [] ∨ _ := h.imp_right fun h => by
    simp only [noLinkLedLine, Bool.and_eq_true, List.all_eq_true (l := c.params), List.all_eq_true (l := c.returns)] at h
    exact h
  obtain ⟨ov, ps, rs, ss⟩ := c
  simp only [DocC.readBack, DocC.mk.injEq, and_true]
  refine ⟨?_, ?_, ?_⟩
  · cases ov with
    | none => rfl
    | some m =>
      simp only [Bool.and_eq_true, groupOK] at hov
      simp only [Option.map, readBackMsg, Option.some.injEq]
      rw [map_padLine_eq ind _ (hn.imp_right fun h => by simpa [ovLines] using h.1.1), joinLines_splitLines m hov.2.1.1]
  · exact (List.map_congr_left fun x hx => by rw [hsec x.2 (hp x hx).2 (hn.imp_right fun h => h.1.2 x hx)]).trans (List.map_id' ps)
  · exact (List.map_congr_left fun x hx => by rw [hsec x.2 (hrt x hx).2 (hn.imp_right fun h => h.2 x hx)]).trans (List.map_id' rs)

theorem mergeMsg_append_congr (p a b : Msg) (h : mergeMsg a = mergeMsg b) : mergeMsg (p ++ a) = mergeMsg (p ++ b) := by
  induction p with
  | nil => exact h
  | cons c p ih => cases c <;> simp only [List.cons_append, mergeMsg, ih]

theorem mergeMsg_padLine (ind : Str) (l : List Comp) (rest : Msg) : mergeMsg (padLine ind l ++ rest) = mergeMsg (l ++ rest) := by
  rcases l with _ | ⟨_ | id, r⟩
  · rfl
  · rfl
  · cases ind with
    | nil => rfl
    | cons a b => simp [padLine, mergeMsg]

theorem mergeMsg_joinLines_pad (ind : Str) (ls : List (List Comp)) :
    mergeMsg (joinLines (ls.map (padLine ind))) = mergeMsg (joinLines ls) := by
  induction ls with
  | nil => rfl
  | cons l ls ih =>
    simp only [List.map_cons, joinLines, List.flatMap_cons, List.append_assoc] at ih ⊢
    rw [mergeMsg_padLine]
    exact mergeMsg_append_congr l _ _ (mergeMsg_append_congr [nl] _ _ ih)

theorem readBack_merged (c : DocC) (ind : Str) (hr : Renderable c = true) : (c.readBack ind).merged = c.merged := by
  simp only [Renderable, Bool.and_eq_true, List.all_eq_true] at hr
  obtain ⟨⟨⟨hov, hp⟩, hrt⟩, _⟩ := hr
  have hsec : ∀ m, sectionOK m = true → mergeMsg (readBackSection ind m) = mergeMsg m := by
    intro m hm
    simp only [sectionOK, Bool.and_eq_true] at hm
    rw [readBackSection, sectionBack, joinLines_append, mergeMsg_append_congr _ _ _ (mergeMsg_joinLines_pad ind _),
      ← joinLines_append, inline_cont, joinLines_splitLines m hm.1]
  obtain ⟨ov, ps, rs, ss⟩ := c
  simp only [DocC.readBack, DocC.merged, DocC.mk.injEq, and_true, List.map_map]
  refine ⟨?_, ?_, ?_⟩
  · cases ov with
    | none => rfl
    | some m =>
      simp only [Bool.and_eq_true, groupOK] at hov
      simp only [Option.map, readBackMsg, mergeMsg_joinLines_pad, joinLines_splitLines m hov.2.1.1]
  · apply List.map_congr_left
    intro x hx
    have := hp x hx
    simp [hsec x.2 this.2]
  · apply List.map_congr_left
    intro x hx
    have := hrt x hx
    simp [hsec x.2 this.2]

end Slicec
