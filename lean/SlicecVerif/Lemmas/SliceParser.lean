/-
  The parser model inverts the structural token printer (C02, parser half): for every nonterminal up to fields and
  parameters (the rest is Lemmas/SliceParserDefs.lean), the parser applied to the tokens an abstract element may be
  written as (its `Shape`, optional commas included), followed by tokens that cannot continue the element, returns the
  element and those tokens.
-/
import SlicecVerif.Lemmas.SliceParserFuel
import SlicecVerif.Lemmas.SliceParserShapes

namespace Slicec.SPar

open Slicec Slicec.SLex

/-! Follow sets: each predicate says of the tokens after a nonterminal that their first token does not continue it:
`okNext` after a list element, `okTy` after a type reference, `notDc` after a scoped identifier, `notLp` after an attribute
without arguments, `notLb` after local attributes, `notPre` after a prelude, `notTag` / `notStream` where the optional
tag / `stream` is absent. `elemStart` is a first set: what every element of a list starts with, which is `okNext` after
the element in front of it. -/

def okNext : Toks → Bool
  | .qmark :: _ => false
  | .dcolon :: _ => false
  | .equals :: _ => false
  | .lparen :: _ => false
  | .arrow :: _ => false
  | .comma :: _ => false
  | _ => true

/-- after a type reference: `?` would make it optional, `::` would continue its name -/
def okTy : Toks → Bool
  | .qmark :: _ => false
  | .dcolon :: _ => false
  | _ => true

def notDc : Toks → Bool
  | .dcolon :: _ => false
  | _ => true

def notLp : Toks → Bool
  | .lparen :: _ => false
  | _ => true

def notLb : Toks → Bool
  | .lbracket :: _ => false
  | _ => true

def notPre : Toks → Bool
  | .lbracket :: _ => false
  | .doc _ :: _ => false
  | _ => true

def notTag : Toks → Bool
  | .kw k :: _ => k != "TagKeyword"
  | _ => true

def notStream : Toks → Bool
  | .kw k :: _ => k != "StreamKeyword"
  | _ => true

theorem okNext_okTy (R : Toks) (h : okNext R = true) : okTy R = true := by
  cases R with
  | nil => rfl
  | cons t r =>
    cases t with
    | qmark => exact h
    | dcolon => exact h
    | _ => rfl

theorem okTy_notDc (R : Toks) (h : okTy R = true) : notDc R = true := by
  cases R with
  | nil => rfl
  | cons t r =>
    cases t with
    | dcolon => exact h
    | _ => rfl

theorem okNext_notDc (R : Toks) (h : okNext R = true) : notDc R = true :=
  okTy_notDc R (okNext_okTy R h)

theorem okNext_notLp (R : Toks) (h : okNext R = true) : notLp R = true := by
  cases R with
  | nil => rfl
  | cons t r =>
    cases t with
    | lparen => exact h
    | _ => rfl

def elemStart : Toks → Bool
  | .doc _ :: _ => true
  | .lbracket :: _ => true
  | .kw _ :: _ => true
  | .ident _ :: _ => true
  | _ => false

theorem elemStart_okNext (Y : Toks) (h : elemStart Y = true) : okNext Y = true := by
  cases Y with
  | nil => rfl
  | cons t r =>
    cases t with
    | doc s => rfl
    | lbracket => rfl
    | kw k => rfl
    | ident s => rfl
    | _ => cases h

theorem elemStart_append (Y Z : Toks) (h : elemStart Y = true) : elemStart (Y ++ Z) = true := by
  cases Y with
  | nil => cases h
  | cons t r => cases t <;> exact h

theorem skipComma_opt (c R : Toks) (hc : OptComma c) (hR : okNext R = true) : skipComma (c ++ R) = R := by
  rcases hc with rfl | rfl
  · refine skipComma.eq_2 R ?_
    rintro r rfl
    cases hR
  · rfl

/-- a list element is read in front of `Y`: an optional comma and, after it, something that may follow an element -/
theorem okTy_of_sep (Y : Toks) (h : okNext (skipComma Y) = true) : okTy Y = true := by
  cases Y with
  | nil => rfl
  | cons t r =>
    cases t with
    | qmark => exact h
    | dcolon => exact h
    | _ => rfl

theorem next_of_sep (Y : Toks) (h : okNext (skipComma Y) = true) : notLp Y = true ∧ Y.head? ≠ some .equals := by
  refine ⟨?_, fun e => ?_⟩
  · cases Y with
    | nil => rfl
    | cons t r =>
      cases t with
      | lparen => cases h
      | _ => rfl
  · obtain ⟨r, rfl⟩ := List.head?_eq_some_iff.mp e
    cases h

/-- Every list parsed with `many`. `Q` is what holds of the tokens after an element: by `hhead` / `hrest` the tokens after each
element satisfy it, so `hstep` applies to the element. -/
theorem many_cat {α β : Type} (step : Step β) (hs : StepShrinks step) (Q : Toks → Prop) (sh : α → Shape) (ret : α → β)
    (xs : List α) (T rest : Toks) (hT : CatShape (xs.map sh) T)
    (hstep : ∀ x ∈ xs, ∀ T1 R, sh x T1 → Q R → step (T1 ++ R) = some (some (ret x, R)))
    (hhead : ∀ x ∈ xs, ∀ T1 R, sh x T1 → Q (T1 ++ R))
    (hrest : Q rest) (hstop : step rest = some none) :
    many step (T ++ rest) = some (xs.map ret, rest) := by
  induction xs generalizing T with
  | nil => obtain rfl : T = [] := hT; exact many_stop hstop
  | cons x xs ih =>
    obtain ⟨T1, T2, h1, h2, rfl⟩ := hT
    have hQ : Q (T2 ++ rest) := by
      cases xs with
      | nil => obtain rfl : T2 = [] := h2; exact hrest
      | cons y ys =>
        obtain ⟨U1, U2, g1, _, rfl⟩ := h2
        rw [List.append_assoc]
        exact hhead y (by simp) U1 _ g1
    rw [List.append_assoc, many_cons hs (hstep x (by simp) T1 _ h1 hQ),
      ih T2 h2 (fun y hy => hstep y (by simp [hy])) (fun y hy => hhead y (by simp [hy]))]
    rfl

theorem many_elems {α β : Type} (step : Step β) (hs : StepShrinks step) (sh : α → Shape) (ret : α → β) (xs : List α)
    (T rest : Toks) (hT : CatShape (xs.map sh) T) (hstart : ∀ x T1, sh x T1 → elemStart T1 = true)
    (hstep : ∀ x ∈ xs, ∀ T1 R, sh x T1 → okNext R = true → step (T1 ++ R) = some (some (ret x, R)))
    (hrest : okNext rest = true) (hstop : step rest = some none) :
    many step (T ++ rest) = some (xs.map ret, rest) :=
  many_cat step hs (fun R => okNext R = true) sh ret xs T rest hT hstep
    (fun x _ T1 _ h => elemStart_okNext _ (elemStart_append _ _ (hstart x T1 h))) hrest hstop

/-- `UndelimitedList`: the elements of `many_elems` are the elements together with their optional commas; this is the one
place where the comma is skipped -/
theorem many_sep {α β : Type} (step : Step β) (hs : StepShrinks step) (sh : α → Shape) (ret : α → β) (xs : List α)
    (T rest : Toks) (hT : SepShape (xs.map sh) T) (hstart : ∀ x T1, sh x T1 → elemStart T1 = true)
    (hstep : ∀ x ∈ xs, ∀ T1 Y, sh x T1 → okNext (skipComma Y) = true → step (T1 ++ Y) = some (some (ret x, skipComma Y)))
    (hrest : okNext rest = true) (hstop : step rest = some none) :
    many step (T ++ rest) = some (xs.map ret, rest) := by
  refine many_elems step hs (fun x => withComma (sh x)) ret xs T rest (catShape_of_sep sh xs T hT) ?_ ?_ hrest hstop
  · rintro x _ ⟨T1, c, h1, _, rfl⟩
    exact elemStart_append _ _ (hstart x T1 h1)
  · rintro x hx _ R ⟨T1, c, h1, hc, rfl⟩ hR
    have e := skipComma_opt c R hc hR
    rw [List.append_assoc, hstep x hx T1 (c ++ R) h1 (by rw [e]; exact hR), e]

theorem parseScopedTail_stop (R : Toks) (hR : notDc R = true) : parseScopedTail R = some ([], R) := by
  refine parseScopedTail.eq_3 R ?_ ?_
  · rintro s r rfl
    cases hR
  · rintro r rfl
    cases hR

theorem parseScopedTail_append (T R : Toks) (v : List (List Char)) (h : parseScopedTail T = some (v, []))
    (hR : notDc R = true) : parseScopedTail (T ++ R) = some (v, R) := by
  fun_induction parseScopedTail T generalizing v with
  | case1 s r v' r' hrec ih =>
    cases h
    simp only [List.cons_append, parseScopedTail, ih v' hrec]
  | case2 s r hrec => cases h
  | case3 r hne => cases h
  | case4 r h1 h2 =>
    cases h
    exact parseScopedTail_stop R hR

theorem parseRelIdent_append (T R : Toks) (id : String) (h : parseRelIdent T = some (id, [])) (hR : notDc R = true) :
    parseRelIdent (T ++ R) = some (id, R) ∧ ∃ s r, T = .ident s :: r := by
  revert h
  fun_cases parseRelIdent T
  any_goals (intro h; contradiction)
  next s r v r' hq =>
    rintro ⟨⟩
    exact ⟨by simp only [List.cons_append, parseRelIdent, parseScopedTail_append r R v hq hR], s, r, rfl⟩

theorem parseGlobalIdent_append (T R : Toks) (id : String) (h : parseGlobalIdent T = some (id, [])) (hR : notDc R = true) :
    parseGlobalIdent (T ++ R) = some (id, R) := by
  revert h
  fun_cases parseGlobalIdent T
  any_goals (intro h; contradiction)
  next s r v r' hq =>
    rintro ⟨⟩
    simp only [List.cons_append, parseGlobalIdent, parseScopedTail_append r R v hq hR]

theorem relOf_append (T R : Toks) (id : String) (h : relOf T = some id) (hR : notDc R = true) :
    parseRelIdent (T ++ R) = some (id, R) ∧ ∃ s r, T = .ident s :: r := by
  revert h
  fun_cases relOf T
  any_goals (intro h; contradiction)
  next id' hq => rintro ⟨⟩; exact parseRelIdent_append T R _ hq hR

theorem scopedOf_append (T R : Toks) (id : String) (h : scopedOf T = some id) (hR : notDc R = true) :
    (parseRelIdent (T ++ R) = some (id, R) ∧ ∃ s r, T = .ident s :: r) ∨
    (parseGlobalIdent (T ++ R) = some (id, R) ∧ ∃ r, T = .dcolon :: r) := by
  unfold scopedOf at h
  split at h
  · rename_i r
    split at h
    · rename_i hq
      cases h
      exact Or.inr ⟨parseGlobalIdent_append _ R _ hq hR, r, rfl⟩
    · cases h
  · exact Or.inl (relOf_append T R id h hR)

theorem escArg_cons (c : Char) (cs : List Char) : escArg (c :: cs) = escChar c ++ escArg cs := rfl

/-- `escArg`, `escapeChars` (and `escL`, by `rfl`) are one function -/
theorem escArg_eq_escapeChars (s : List Char) : escArg s = escapeChars s := by
  induction s with
  | nil => rfl
  | cons c cs ih => rw [escArg_cons, escapeChars, ih]

theorem unescape_escChar (c : Char) (r : List Char) : unescapeLit (escChar c ++ r) false = c :: unescapeLit r false := by
  unfold escChar
  split
  · simp [unescapeLit]
  · rename_i h
    have hb : (c == '\\') = false := by simpa using fun e => h (by simp [e])
    simp [unescapeLit, hb]

theorem unescape_escArg (s : List Char) : unescapeLit (escArg s) false = s := by
  induction s with
  | nil => rfl
  | cons c cs ih => rw [escArg_cons, unescape_escChar, ih]

theorem scan_escChar (c : Char) (hc : c ≠ '\n') (r s rest : List Char) (h : scanString r = some (s, rest)) :
    scanString (escChar c ++ r) = some (escChar c ++ s, rest) := by
  unfold escChar
  split
  · simp [scanString, hc, h]
  · rename_i hq
    simp only [Bool.or_eq_true, beq_iff_eq, not_or] at hq
    rw [List.cons_append, List.nil_append, scanString, h]
    · rfl
    · exact hq.1
    · exact hc
    · intro c' r' e _; exact hq.2 e

theorem argOf_argTok (x : String) : argOf (argTok x) = some x := by
  unfold argTok
  split
  · simp [argOf, String.ofList_toList]
  · simp [argOf, unescape_escArg, String.ofList_toList]

theorem argTok_cases (x : String) : argTok x = .ident x.toList ∨ argTok x = .strLit (escArg x.toList) := by
  unfold argTok
  split
  · exact Or.inl rfl
  · exact Or.inr rfl

theorem parseArgsTail_toks (xs : List String) (R : Toks) :
    parseArgsTail (xs.flatMap (fun y => [.comma, argTok y]) ++ .rparen :: R) = some (xs, R) := by
  induction xs with
  | nil => rfl
  | cons y ys ih =>
    have ha := argOf_argTok y
    simp only [List.flatMap_cons, List.cons_append, List.nil_append]
    rcases argTok_cases y with e | e <;> rw [e] at ha ⊢ <;> simp only [parseArgsTail, ha, ih]

theorem parseArgs_toks (x : String) (xs : List String) (R : Toks) :
    parseArgs (argsToks (x :: xs) ++ .rparen :: R) = some (x :: xs, R) := by
  have ha := argOf_argTok x
  rw [argsToks_cons, List.cons_append]
  rcases argTok_cases x with e | e <;> rw [e] at ha ⊢ <;> simp only [parseArgs, ha, parseArgsTail_toks xs R]

theorem parseAttribute_toks (a : Attr) (h : attrRT a = true) (R : Toks) (hR : notDc R = true) (hR2 : notLp R = true) :
    parseAttribute (attrToks a ++ R) = some (a, R) := by
  obtain ⟨d, args⟩ := a
  simp only [attrRT, dirRT, beq_iff_eq] at h
  unfold attrToks parseAttribute
  cases args with
  | nil =>
    simp only [List.isEmpty_nil, if_true, List.append_nil]
    rw [(relOf_append _ R d h hR).1]
    cases R with
    | nil => rfl
    | cons t r =>
      cases t with
      | lparen => cases hR2
      | _ => rfl
  | cons x xs =>
    simp only [List.isEmpty_cons, Bool.false_eq_true, if_false, List.append_assoc, List.cons_append, List.nil_append]
    rw [(relOf_append _ _ d h (by rfl)).1]
    simp [parseArgs_toks]

/-- `("[" Attribute "]")*` and `("[[" Attribute "]]")*`: attributes between an opening and a closing token -/
theorem many_attrs (step : Step Attr) (hs : StepShrinks step) (o c : SliceTok) (as : List Attr) (h : as.all attrRT = true)
    (R : Toks) (hstop : step R = some none)
    (hstep : ∀ a, attrRT a = true → ∀ R', step ((o :: attrToks a ++ [c]) ++ R') = some (some (a, R'))) :
    many step ((as.flatMap fun a => o :: attrToks a ++ [c]) ++ R) = some (as, R) := by
  rw [List.all_eq_true] at h
  refine (many_cat step hs (fun _ => True) (fun a T => T = o :: attrToks a ++ [c]) id as _ R
    (catShape_flatMap _ as) ?_ (fun _ _ _ _ _ => trivial) trivial hstop).trans (by rw [List.map_id])
  · intro a ha T1 R' h1 _
    subst h1
    exact hstep a (h a ha) R'

theorem localAttrStep_stop (R : Toks) (h : notLb R = true) : localAttrStep R = some none := by
  refine localAttrStep.eq_2 R ?_
  rintro r rfl
  cases h

theorem many_localAttrs (as : List Attr) (h : as.all attrRT = true) (R : Toks) (hR : notLb R = true) :
    many localAttrStep (localAttrsToks as ++ R) = some (as, R) :=
  many_attrs localAttrStep localAttrStep_shrinks .lbracket .rbracket as h R (localAttrStep_stop R hR) fun a ha R' => by
    simp only [List.cons_append, List.append_assoc, List.nil_append, localAttrStep]
    rw [parseAttribute_toks a ha _ (by rfl) (by rfl)]

theorem fileAttrStep_stop (R : Toks) (h : R.head? ≠ some .dlbracket) : fileAttrStep R = some none := by
  refine fileAttrStep.eq_2 R ?_
  rintro r rfl
  exact h rfl

theorem many_fileAttrs (as : List Attr) (h : as.all attrRT = true) (R : Toks) (hR : R.head? ≠ some .dlbracket) :
    many fileAttrStep (fileAttrsToks as ++ R) = some (as, R) :=
  many_attrs fileAttrStep fileAttrStep_shrinks .dlbracket .drbracket as h R (fileAttrStep_stop R hR) fun a ha R' => by
    simp only [List.cons_append, List.append_assoc, List.nil_append, fileAttrStep]
    rw [parseAttribute_toks a ha _ (by rfl) (by rfl)]

def localAttrSh (a : Attr) : Shape := fun T => T = .lbracket :: attrToks a ++ [.rbracket]

def preSh : PreItem → Shape
  | .doc s => fun T => T = [.doc s.toList]
  | .attr a => localAttrSh a

theorem preDocs_append (d : List String) (as : List Attr) :
    preDocs (d.map PreItem.doc ++ as.map PreItem.attr) = d ∧ preAttrs (d.map PreItem.doc ++ as.map PreItem.attr) = as := by
  induction d with
  | nil =>
    induction as with
    | nil => exact ⟨rfl, rfl⟩
    | cons a as ih => simp only [List.map_nil, List.nil_append, List.map_cons, preDocs, preAttrs] at ih ⊢; exact ⟨ih.1, by rw [ih.2]⟩
  | cons l d ih => simp only [List.map_cons, List.cons_append, preDocs, preAttrs]; exact ⟨by rw [ih.1], ih.2⟩

theorem preludeStep_stop (R : Toks) (h : notPre R = true) : preludeStep R = some none := by
  refine preludeStep.eq_3 R ?_ ?_
  · rintro s r rfl
    cases h
  · rintro r rfl
    cases h

theorem parsePrelude_toks (d : List String) (as : List Attr) (h : as.all attrRT = true) (R : Toks) (hR : notPre R = true) :
    parsePrelude (docToks d ++ localAttrsToks as ++ R) = some ((d, as), R) := by
  rw [List.all_eq_true] at h
  have hm : many preludeStep (docToks d ++ localAttrsToks as ++ R) = some (d.map PreItem.doc ++ as.map PreItem.attr, R) := by
    refine (many_cat preludeStep preludeStep_shrinks (fun _ => True) preSh id _ _ R ?_ ?_ (fun _ _ _ _ _ => trivial) trivial
      (preludeStep_stop R hR)).trans (by rw [List.map_id])
    · rw [List.map_append]
      refine catShape_append _ _ _ _ ?_ ?_
      · have := catShape_flatMap (fun l : String => [SliceTok.doc l.toList]) d
        rw [← List.map_eq_flatMap] at this
        simpa [docToks, List.map_map, Function.comp_def, preSh] using this
      · have : CatShape (as.map localAttrSh) _ := catShape_flatMap (fun a : Attr => SliceTok.lbracket :: attrToks a ++ [SliceTok.rbracket]) as
        simpa [localAttrsToks, List.map_map, Function.comp_def, preSh] using this
    · intro x hx T1 R' h1 _
      cases x with
      | doc s =>
        simp only [preSh] at h1; subst h1
        simp [preludeStep, String.ofList_toList]
      | attr a =>
        simp only [preSh, localAttrSh] at h1; subst h1
        have ha : a ∈ as := by simpa using hx
        simp only [List.cons_append, List.append_assoc, List.nil_append, preludeStep]
        rw [parseAttribute_toks a (h a ha) _ (by rfl) (by rfl)]
        rfl
  simp only [parsePrelude, hm, (preDocs_append d as).1, (preDocs_append d as).2]

theorem parsePrelude_stop (R : Toks) (h : notPre R = true) : parsePrelude R = some (([], []), R) :=
  parsePrelude_toks [] [] rfl R h

theorem preStep_stop {α : Type} (starts : Toks → Bool) (body : List String → List Attr → P α) (comma : Bool) (R : Toks)
    (h1 : notPre R = true) (h2 : starts R = false) : preStep starts body comma R = some none := by
  simp only [preStep, parsePrelude_stop R h1, h2, Bool.false_eq_true, if_false, List.isEmpty_nil, Bool.and_self, if_true]

theorem preStep_toks {α : Type} (starts : Toks → Bool) (body : List String → List Attr → P α) (comma : Bool)
    (d : List String) (as : List Attr) (has : as.all attrRT = true) (X : Toks) (hX : notPre X = true) (hs : starts X = true)
    (x : α) (R : Toks) (hb : body d as X = some (x, R)) :
    preStep starts body comma (docToks d ++ localAttrsToks as ++ X) = some (some (x, if comma then skipComma R else R)) := by
  simp only [preStep, parsePrelude_toks d as has X hX, hs, if_true, hb]

theorem parseSignedInt_toks (l : IntLit) (h : intRT l = true) (R : Toks) :
    parseSignedInt (intToks l ++ R) = some (l, R) := by
  simp only [intRT, beq_iff_eq] at h
  obtain ⟨neg, base, mag, us⟩ := l
  cases neg with
  | false => simp only [intToks, Bool.false_eq_true, if_false, List.nil_append, List.cons_append, parseSignedInt, h]
  | true => simp only [intToks, if_true, List.cons_append, List.nil_append, parseSignedInt, h]

theorem parseTagOpt_toks (t : Option IntLit) (h : tagRT t = true) (R : Toks) (hR : notTag R = true) :
    parseTagOpt (tagToks t ++ R) = some (t, R) := by
  cases t with
  | none =>
    refine parseTagOpt.eq_3 R ?_ ?_
    · rintro r rfl
      cases hR
    · rintro r rfl
      cases hR
  | some l =>
    simp only [tagRT] at h
    simp only [tagToks, List.cons_append, List.append_assoc, parseTagOpt, parseSignedInt_toks l h]
    rfl

theorem finTy_toks (attrs : List Attr) (ty : TyExpr) (opt : Bool) (R : Toks) (hR : okTy R = true) :
    finTy attrs ty ((if opt then [SliceTok.qmark] else []) ++ R) = some (.mk attrs ty opt, R) := by
  cases opt with
  | true => rfl
  | false =>
    refine finTy.eq_2 attrs ty R ?_
    rintro r rfl
    cases hR

theorem okTy_opt (opt : Bool) (R : Toks) (hR : okTy R = true) : notDc ((if opt then [SliceTok.qmark] else []) ++ R) = true := by
  cases opt with
  | true => rfl
  | false => simpa using okTy_notDc R hR

def primKind (p : Prim) : String := (Gen.sliceKeywords.lookup p.kw).getD ""

/-- the rows of the keyword table that belong to primitive types -/
theorem prim_kw (p : Prim) : Gen.sliceKeywords.lookup p.kw = some (primKind p) ∧ (primKind p == "SequenceKeyword") = false ∧
    (primKind p == "DictionaryKeyword") = false ∧ (primKind p == "ResultKeyword") = false ∧ primOfKind (primKind p) = some p ∧
    (primKind p != "TagKeyword") = true ∧ (primKind p != "StreamKeyword") = true := by
  have hp : p ∈ Prim.all := by cases p <;> decide
  revert p
  decide +kernel

theorem checkKeyword_prim (p : Prim) : checkKeyword p.kw.toList = .kw (primKind p) := by
  simp only [checkKeyword, String.ofList_toList, (prim_kw p).1]

theorem tyToks_head (ty : TyExpr) (h : tyRT ty = true) (X : Toks) :
    startsTypeRef (tyToks ty ++ X) = true ∧ notTag (tyToks ty ++ X) = true ∧ notStream (tyToks ty ++ X) = true ∧
    notLb (tyToks ty ++ X) = true := by
  cases ty with
  | prim p =>
    obtain ⟨_, _, _, _, h5, h6, h7⟩ := prim_kw p
    simp only [tyToks, checkKeyword_prim, List.cons_append, List.nil_append, startsTypeRef, notTag, notStream, notLb, h5, h6, h7,
      Option.isSome_some, Bool.or_true, and_self]
  | named id =>
    simp only [tyRT, nameRT, beq_iff_eq] at h
    rcases scopedOf_append _ [] id h rfl with ⟨_, s, r, e⟩ | ⟨_, r, e⟩ <;> rw [tyToks, e] <;> exact ⟨rfl, rfl, rfl, rfl⟩
  | _ => simp only [tyToks, List.cons_append, startsTypeRef, notTag, notStream, notLb]; decide

theorem localAttrsToks_cons (a : Attr) (as : List Attr) :
    localAttrsToks (a :: as) = .lbracket :: (attrToks a ++ .rbracket :: localAttrsToks as) := by
  simp [localAttrsToks, List.flatMap_cons]

theorem trefToks_head (t : TRef) (h : trefRT t = true) (X : Toks) :
    startsTypeRef (trefToks t ++ X) = true ∧ notTag (trefToks t ++ X) = true ∧ notStream (trefToks t ++ X) = true := by
  obtain ⟨attrs, ty, opt⟩ := t
  simp only [trefRT, Bool.and_eq_true] at h
  cases attrs with
  | cons a as => simp only [trefToks, localAttrsToks_cons, List.cons_append]; exact ⟨rfl, rfl, rfl⟩
  | nil =>
    obtain ⟨h1, h2, h3, _⟩ := tyToks_head ty h.2 ((if opt then [SliceTok.qmark] else []) ++ X)
    simp only [trefToks, localAttrsToks, List.flatMap_nil, List.nil_append, List.append_assoc]
    exact ⟨h1, h2, h3⟩

theorem trefToks_length (attrs : List Attr) (ty : TyExpr) (opt : Bool) :
    (tyToks ty).length ≤ (trefToks (.mk attrs ty opt)).length := by
  simp only [trefToks, List.length_append]; omega

/-- `tyBody` inverts `tyToks` as soon as `rec` inverts the type references inside the type, which are shorter -/
theorem tyBody_toks (rec : P TRef) (attrs : List Attr) (ty : TyExpr) (hty : tyRT ty = true) (opt : Bool) (R : Toks)
    (hR : okTy R = true)
    (hrec : ∀ (t : TRef) (R' : Toks), trefRT t = true → (trefToks t).length < (tyToks ty).length → okTy R' = true →
      rec (trefToks t ++ R') = some (t, R')) :
    tyBody rec attrs (tyToks ty ++ ((if opt then [SliceTok.qmark] else []) ++ R)) = some (.mk attrs ty opt, R) := by
  cases ty with
  | prim p =>
    obtain ⟨_, h2, h3, h4, h5, _, _⟩ := prim_kw p
    simp only [tyToks, checkKeyword_prim, List.cons_append, List.nil_append, tyBody, h2, h3, h4, h5, Bool.false_eq_true, if_false,
      finTy_toks attrs _ opt R hR]
  | named id =>
    simp only [tyRT, nameRT, beq_iff_eq] at hty
    rw [tyToks]
    rcases scopedOf_append _ ((if opt then [SliceTok.qmark] else []) ++ R) id hty (okTy_opt opt R hR) with ⟨e, s, r, hT⟩ | ⟨e, r, hT⟩
    all_goals
      rw [hT, List.cons_append] at e ⊢
      simp only [tyBody, e, finTy_toks attrs _ opt R hR]
  | seq e =>
    simp only [tyRT] at hty
    simp only [tyToks, List.length_cons, List.length_append, List.length_nil] at hrec
    have h1 := hrec e (.rchevron :: ((if opt then [SliceTok.qmark] else []) ++ R)) hty (by omega) rfl
    simp only [tyToks, List.cons_append, List.append_assoc, List.nil_append, tyBody, beq_self_eq_true, if_true, h1,
      finTy_toks attrs _ opt R hR]
  | dict k v =>
    simp only [tyRT, Bool.and_eq_true] at hty
    simp only [tyToks, List.length_cons, List.length_append, List.length_nil] at hrec
    have h2 := hrec v (.rchevron :: ((if opt then [SliceTok.qmark] else []) ++ R)) hty.2 (by omega) rfl
    have h1 := hrec k (.comma :: (trefToks v ++ .rchevron :: ((if opt then [SliceTok.qmark] else []) ++ R))) hty.1 (by omega) rfl
    simp only [tyToks, List.cons_append, List.append_assoc, List.nil_append, tyBody, h1, h2,
      show ("DictionaryKeyword" == "SequenceKeyword") = false by decide, beq_self_eq_true, Bool.false_eq_true, if_false, if_true,
      finTy_toks attrs _ opt R hR]
  | result s f =>
    simp only [tyRT, Bool.and_eq_true] at hty
    simp only [tyToks, List.length_cons, List.length_append, List.length_nil] at hrec
    have h2 := hrec f (.rchevron :: ((if opt then [SliceTok.qmark] else []) ++ R)) hty.2 (by omega) rfl
    have h1 := hrec s (.comma :: (trefToks f ++ .rchevron :: ((if opt then [SliceTok.qmark] else []) ++ R))) hty.1 (by omega) rfl
    simp only [tyToks, List.cons_append, List.append_assoc, List.nil_append, tyBody, h1, h2,
      show ("ResultKeyword" == "SequenceKeyword") = false by decide, show ("ResultKeyword" == "DictionaryKeyword") = false by decide,
      beq_self_eq_true, Bool.false_eq_true, if_false, if_true, finTy_toks attrs _ opt R hR]

/-- induction on the fuel: the nested type references are shorter than the type they are part of -/
theorem parseTy_toks : ∀ (ty : TyExpr) (attrs : List Attr) (opt : Bool), attrs.all attrRT = true → tyRT ty = true →
    ∀ (n : Nat) (R : Toks), (tyToks ty).length < n → okTy R = true →
      parseTypeRefF n (trefToks (.mk attrs ty opt) ++ R) = some (.mk attrs ty opt, R) := by
  intro ty attrs opt ha hty n
  induction n generalizing ty attrs opt with
  | zero => intro R hn; omega
  | succ n ih =>
    intro R hn hR
    simp only [parseTypeRefF, trefToks, List.append_assoc]
    rw [many_localAttrs attrs ha _ (tyToks_head _ hty _).2.2.2]
    refine tyBody_toks _ attrs ty hty opt R hR fun ⟨as', ty', o'⟩ R' ht hlen hR' => ?_
    simp only [trefRT, Bool.and_eq_true] at ht
    have := trefToks_length as' ty' o'
    exact ih ty' as' o' ht.1 ht.2 R' (by omega) hR'

theorem parseTypeRef_toks (t : TRef) (h : trefRT t = true) (R : Toks) (hR : okTy R = true) :
    parseTypeRef (trefToks t ++ R) = some (t, R) := by
  obtain ⟨attrs, ty, opt⟩ := t
  simp only [trefRT, Bool.and_eq_true] at h
  have := trefToks_length attrs ty opt
  exact parseTy_toks ty attrs opt h.1 h.2 _ R (by simp only [List.length_append]; omega) hR

theorem takeKw_opt (kind : String) (b : Bool) (Y : Toks) (h : ∀ r, Y ≠ .kw kind :: r) :
    takeKw kind ((if b then [SliceTok.kw kind] else []) ++ Y) = (b, Y) := by
  cases b with
  | true => simp [takeKw]
  | false =>
    cases Y with
    | nil => rfl
    | cons t r =>
      cases t with
      | kw k =>
        have : (k == kind) = false := Bool.eq_false_iff.mpr fun hk => h r (by rw [beq_iff_eq.mp hk])
        simp [takeKw, this]
      | _ => rfl

theorem takeKw_stream (b : Bool) (Y : Toks) (h : notStream Y = true) :
    takeKw "StreamKeyword" (streamToks b ++ Y) = (b, Y) :=
  takeKw_opt _ b Y fun r e => by subst e; simp [notStream] at h

theorem tag_ident_start (t : Option IntLit) (s : List Char) (X : Toks) :
    notPre (tagToks t ++ .ident s :: X) = true ∧ startsMember (tagToks t ++ .ident s :: X) = true := by
  cases t <;> exact ⟨rfl, rfl⟩

theorem parseFieldBody_toks (f : Field) (h : fieldRT f = true) (Y : Toks) (hY : okTy Y = true) :
    parseFieldBody f.doc f.attrs (tagToks f.tag ++ .ident f.name.toList :: .colon :: (trefToks f.ty ++ Y)) = some (f, Y) := by
  simp only [fieldRT, Bool.and_eq_true] at h
  have e1 := parseTagOpt_toks f.tag h.1.2 (.ident f.name.toList :: .colon :: (trefToks f.ty ++ Y)) rfl
  simp only [parseFieldBody, e1, parseTypeRef_toks f.ty h.2 Y hY, String.ofList_toList]

theorem fieldStep_toks (f : Field) (h : fieldRT f = true) (Y : Toks) (hY : okNext (skipComma Y) = true) :
    fieldStep (fieldToks f ++ Y) = some (some (f, skipComma Y)) := by
  have h' := h
  simp only [fieldRT, Bool.and_eq_true] at h'
  obtain ⟨hp1, hp2⟩ := tag_ident_start f.tag f.name.toList (.colon :: (trefToks f.ty ++ Y))
  have := preStep_toks startsMember parseFieldBody true f.doc f.attrs h'.1.1.2 _ hp1 hp2 f _
    (parseFieldBody_toks f h _ (okTy_of_sep Y hY))
  simpa only [fieldStep, fieldToks, List.append_assoc, List.cons_append, if_true] using this

theorem parseParamBody_toks (p : Param) (h : paramRT p = true) (Y : Toks) (hY : okTy Y = true) :
    parseParamBody [] p.attrs (tagToks p.tag ++ .ident p.name.toList :: .colon :: (streamToks p.stream ++ (trefToks p.ty ++ Y))) =
      some ((p, false), Y) := by
  simp only [paramRT, Bool.and_eq_true] at h
  have e1 := parseTagOpt_toks p.tag h.1.2 (.ident p.name.toList :: .colon :: (streamToks p.stream ++ (trefToks p.ty ++ Y))) rfl
  simp only [parseParamBody, e1, takeKw_stream p.stream _ (trefToks_head p.ty h.2 Y).2.2, parseTypeRef_toks p.ty h.2 Y hY, String.ofList_toList]
  rfl

theorem docToks_nil : docToks [] = [] := rfl

theorem paramStep_toks (p : Param) (h : paramRT p = true) (Y : Toks) (hY : okNext (skipComma Y) = true) :
    paramStep (paramToks p ++ Y) = some (some ((p, false), skipComma Y)) := by
  have h' := h
  simp only [paramRT, Bool.and_eq_true] at h'
  obtain ⟨hp1, hp2⟩ := tag_ident_start p.tag p.name.toList (.colon :: (streamToks p.stream ++ (trefToks p.ty ++ Y)))
  have := preStep_toks startsMember parseParamBody true [] p.attrs h'.1.1 _ hp1 hp2 (p, false) _
    (parseParamBody_toks p h _ (okTy_of_sep Y hY))
  simpa only [paramStep, paramToks, docToks_nil, List.nil_append, List.append_assoc, List.cons_append, if_true] using this

theorem elemStart_pre (d : List String) (as : List Attr) (Y : Toks) (h : elemStart Y = true) :
    elemStart (docToks d ++ localAttrsToks as ++ Y) = true := by
  cases d with
  | cons l d => rfl
  | nil =>
    cases as with
    | cons a as => simp only [docToks_nil, List.nil_append, localAttrsToks_cons, List.cons_append]; rfl
    | nil => simpa [docToks_nil, localAttrsToks] using h

theorem fieldToks_start (f : Field) : elemStart (fieldToks f) = true := by
  have := elemStart_pre f.doc f.attrs (tagToks f.tag ++ .ident f.name.toList :: .colon :: trefToks f.ty) (by cases f.tag <;> rfl)
  simpa [fieldToks, List.append_assoc] using this

theorem paramToks_start (p : Param) : elemStart (paramToks p) = true := by
  have := elemStart_pre [] p.attrs (tagToks p.tag ++ .ident p.name.toList :: .colon :: (streamToks p.stream ++ trefToks p.ty))
    (by cases p.tag <;> rfl)
  simpa [paramToks, docToks_nil] using this

theorem many_fields (fs : List Field) (h : fs.all fieldRT = true) (T R : Toks) (hT : fieldsSh fs T)
    (hR : okNext R = true) (h1 : notPre R = true) (h2 : startsMember R = false) :
    many fieldStep (T ++ R) = some (fs, R) := by
  rw [List.all_eq_true] at h
  refine (many_sep fieldStep fieldStep_shrinks (fun f T => T = fieldToks f) id fs T R hT ?_ ?_ hR
    (preStep_stop _ _ _ R h1 h2)).trans (by rw [List.map_id])
  · intro f T1 e; subst e; exact fieldToks_start f
  · intro f hf T1 Y e hY; subst e; exact fieldStep_toks f (h f hf) Y hY

theorem map_fst_false {α : Type} (xs : List α) :
    (xs.map fun x => (x, false)).map (·.1) = xs ∧ (xs.map fun x => (x, false)).any (·.2) = false := by
  induction xs with
  | nil => exact ⟨rfl, rfl⟩
  | cons x xs ih => simp [ih.1, ih.2]

theorem parseParams_toks (ps : List Param) (h : ps.all paramRT = true) (T R : Toks) (hT : paramsSh ps T) :
    parseParams (T ++ .rparen :: R) = some ((ps, false), R) := by
  rw [List.all_eq_true] at h
  have hm : many paramStep (T ++ .rparen :: R) = some (ps.map fun p => (p, false), .rparen :: R) := by
    refine many_sep paramStep paramStep_shrinks (fun p T => T = paramToks p) (fun p => (p, false)) ps T _ hT ?_ ?_ rfl
      (preStep_stop _ _ _ _ rfl rfl)
    · intro p T1 e; subst e; exact paramToks_start p
    · intro p hp T1 Y e hY; subst e; exact paramStep_toks p (h p hp) Y hY
  simp only [parseParams, hm, (map_fst_false ps).1, (map_fst_false ps).2]

end Slicec.SPar
